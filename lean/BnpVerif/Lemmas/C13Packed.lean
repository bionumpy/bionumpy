import BnpVerif.Model.C13
import Mathlib.Tactic.Ring
/-! `hashLE` cut at a position, and the proof that the 2-bit packed sliding window (`BitArray.pack` /
`sliding_window`, uint64 registers of 32 letters) computes the base-4 number of every window. -/
namespace C13

theorem hashLE_lt (n : Nat) (letters : List Nat) (h : ∀ x ∈ letters, x < n) : hashLE n letters < n ^ letters.length := by
  induction letters with
  | nil => exact Nat.one_pos
  | cons x xs ih =>
    have h1 := ih fun y hy => h y (List.mem_cons_of_mem x hy)
    have h2 : x < n := h x List.mem_cons_self
    calc x + n * hashLE n xs < n + n * hashLE n xs := Nat.add_lt_add_right h2 _
      _ = n * (hashLE n xs + 1) := by rw [Nat.mul_succ, Nat.add_comm]
      _ ≤ n * n ^ xs.length := Nat.mul_le_mul_left n h1
      _ = n ^ xs.length * n := Nat.mul_comm ..

theorem hashLE_append (n : Nat) (xs ys : List Nat) :
    hashLE n (xs ++ ys) = hashLE n xs + n ^ xs.length * hashLE n ys := by
  induction xs with
  | nil => rw [List.nil_append, hashLE, List.length_nil, Nat.pow_zero, Nat.one_mul, Nat.zero_add]
  | cons x xs ih =>
    simp only [List.cons_append, hashLE, ih, List.length_cons, Nat.pow_succ]
    ring

theorem hashLE_split (n : Nat) (xs : List Nat) (h : ∀ x ∈ xs, x < n) (i : Nat) (hi : i ≤ xs.length) :
    hashLE n xs = hashLE n (xs.take i) + n ^ i * hashLE n (xs.drop i) ∧ hashLE n (xs.take i) < n ^ i := by
  have hlt := hashLE_lt n (xs.take i) fun x hx => h x (List.mem_of_mem_take hx)
  have e := hashLE_append n (xs.take i) (xs.drop i)
  rw [List.length_take, Nat.min_eq_left hi] at hlt e
  rw [List.take_append_drop] at e
  exact ⟨e, hlt⟩

theorem hashLE_drop (n : Nat) (xs : List Nat) (h : ∀ x ∈ xs, x < n) (i : Nat) (hi : i ≤ xs.length) :
    hashLE n (xs.drop i) = hashLE n xs / n ^ i := by
  obtain ⟨e, hlt⟩ := hashLE_split n xs h i hi
  rw [e, Nat.add_mul_div_left _ _ (Nat.zero_lt_of_lt hlt), Nat.div_eq_of_lt hlt, Nat.zero_add]

theorem hashLE_take (n : Nat) (xs : List Nat) (h : ∀ x ∈ xs, x < n) (k : Nat) (hk : k ≤ xs.length) :
    hashLE n (xs.take k) = hashLE n xs % n ^ k := by
  obtain ⟨e, hlt⟩ := hashLE_split n xs h k hk
  rw [e, Nat.add_mul_mod_self_left, Nat.mod_eq_of_lt hlt]

theorem hashLE_drop_take (n : Nat) (xs : List Nat) (h : ∀ x ∈ xs, x < n) (i k : Nat) (hik : i + k ≤ xs.length) :
    hashLE n ((xs.drop i).take k) = hashLE n xs / n ^ i % n ^ k := by
  rw [hashLE_take n _ (fun x hx => h x (List.mem_of_mem_drop hx)) k (by rw [List.length_drop]; exact Nat.le_sub_of_add_le' hik),
    hashLE_drop n xs h i (Nat.le_of_add_right_le hik)]

theorem two_pow_two_mul (i : Nat) : (2 : Nat) ^ (2 * i) = 4 ^ i := by rw [Nat.pow_mul]

/-- `acc < 4 ^ i`: the `|||` adds; `i + |xs| ≤ 32`: `word64` truncates nothing -/
theorem packAcc_eq (xs : List Nat) (h : ∀ x ∈ xs, x < 4) (acc i : Nat) (hacc : acc < 4 ^ i)
    (hi : i + xs.length ≤ 32) : packAcc acc i xs = acc + 4 ^ i * hashLE 4 xs := by
  induction xs generalizing acc i with
  | nil => rfl
  | cons x xs ih =>
    have hx : x < 4 := h x List.mem_cons_self
    rw [List.length_cons, ← Nat.add_assoc, Nat.add_right_comm] at hi
    have hle : 4 ^ (i + 1) ≤ 4 ^ 32 := Nat.pow_le_pow_right (by decide) (Nat.le_of_add_right_le hi)
    have hxs : x * 4 ^ i + acc < 4 ^ (i + 1) :=
      calc x * 4 ^ i + acc < x * 4 ^ i + 4 ^ i := Nat.add_lt_add_left hacc _
        _ = (x + 1) * 4 ^ i := (Nat.succ_mul ..).symm
        _ ≤ 4 * 4 ^ i := Nat.mul_le_mul_right _ hx
        _ = 4 ^ (i + 1) := (Nat.pow_succ' ..).symm
    have hw : word64 (x <<< (2 * i)) = x <<< (2 * i) := by
      rw [word64, Nat.shiftLeft_eq, two_pow_two_mul]
      exact Nat.mod_eq_of_lt (Nat.lt_of_le_of_lt (Nat.le_add_right _ acc) (Nat.lt_of_lt_of_le hxs hle))
    have hor : acc ||| x <<< (2 * i) = x * 4 ^ i + acc := by
      rw [Nat.or_comm, ← Nat.shiftLeft_add_eq_or_of_lt (by rw [two_pow_two_mul]; exact hacc), Nat.shiftLeft_eq, two_pow_two_mul]
    rw [packAcc, hw, hor, ih (fun y hy => h y (List.mem_cons_of_mem x hy)) _ _ hxs hi, hashLE, Nat.pow_succ]
    ring

theorem packWord_eq (chunk : List Nat) (h : ∀ x ∈ chunk, x < 4) (hl : chunk.length ≤ 32) :
    packWord chunk = hashLE 4 chunk := by
  rw [packWord, packAcc_eq chunk h 0 0 Nat.one_pos (by rwa [Nat.zero_add]), Nat.zero_add, Nat.pow_zero, Nat.one_mul]

theorem le_of_registers_le (n r : Nat) (h : (n + 31) / 32 ≤ r) : n ≤ 32 * r :=
  Nat.le_of_add_le_add_right ((Nat.div_le_iff_le_mul_add_pred (by decide)).mp h)

theorem pack_length (a : List Nat) : (pack a).length = (a.length + 31) / 32 := by
  rw [pack, List.length_map, List.length_range]

theorem pack_getD (a : List Nat) (h : ∀ x ∈ a, x < 4) (r : Nat) :
    (pack a).getD r 0 = hashLE 4 ((a.drop (32 * r)).take 32) := by
  rw [pack, List.getD_eq_getElem?_getD, List.getElem?_map]
  rcases Nat.lt_or_ge r ((a.length + 31) / 32) with hr | hr
  · rw [List.getElem?_range hr]
    exact packWord_eq _ (fun x hx => h x (List.mem_of_mem_drop (List.mem_of_mem_take hx)))
      (by rw [List.length_take]; exact Nat.min_le_left ..)
  · rw [List.getElem?_eq_none (by rw [List.length_range]; exact hr), List.drop_eq_nil_of_le (le_of_registers_le _ _ hr)]
    rfl

/-- 33 cases (`k = 0 … 32`), each one shift of the all-ones word, settled by evaluation -/
theorem windowMask_eq : ∀ k, k ≤ 32 → windowMask k = 4 ^ k - 1 := by decide +kernel

theorem and_mask (x k : Nat) (hk : k ≤ 32) : x &&& windowMask k = x % 4 ^ k := by
  rw [windowMask_eq k hk, ← two_pow_two_mul, Nat.and_two_pow_sub_one_eq_mod]

theorem slide_arith (w0 w1 i k : Nat) (hi : i < 32) (hk : k ≤ 32) (hw0 : w0 < 4 ^ 32) :
    ((w0 >>> (2 * i)) ||| word64 (w1 <<< (64 - 2 * i))) &&& windowMask k = (w0 + 4 ^ 32 * w1) / 4 ^ i % 4 ^ k := by
  have hs : (2 : Nat) ^ (64 - 2 * i) = 4 ^ (32 - i) := by rw [← two_pow_two_mul, Nat.mul_sub]
  have hPQ : (4 : Nat) ^ i * 4 ^ (32 - i) = 4 ^ 32 := by rw [← Nat.pow_add, Nat.add_sub_cancel' (Nat.le_of_lt hi)]
  -- with `P = 4 ^ i`, `Q = 4 ^ (32 - i)` (`hPQ`: `P * Q = 4 ^ 32`), the high part: `(w1 * Q) mod (P * Q) = (w1 mod P) * Q`,
  -- a multiple of `Q` …
  have hhi : word64 (w1 <<< (64 - 2 * i)) = (w1 % 4 ^ i) <<< (64 - 2 * i) := by
    rw [word64, Nat.shiftLeft_eq, Nat.shiftLeft_eq, hs, ← Nat.mul_mod_mul_right, hPQ]
    rfl
  -- … and the low part is below `Q`, so `|||` adds
  have hlo : w0 >>> (2 * i) < 2 ^ (64 - 2 * i) := by
    rw [Nat.shiftRight_eq_div_pow, two_pow_two_mul, hs]
    exact Nat.div_lt_of_lt_mul (hPQ ▸ hw0)
  rw [and_mask _ _ hk, hhi, Nat.or_comm, ← Nat.shiftLeft_add_eq_or_of_lt hlo, Nat.shiftLeft_eq, hs,
    Nat.shiftRight_eq_div_pow, two_pow_two_mul, ← Nat.mul_mod_mul_right, hPQ]
  -- `4 ^ k` divides `4 ^ 32`: the reduction of the high part modulo `4 ^ 32` does not show
  rw [Nat.add_mod, Nat.mod_mod_of_dvd _ (Nat.pow_dvd_pow 4 hk), ← Nat.add_mod, ← hPQ, Nat.mul_assoc,
    Nat.add_mul_div_left _ _ (Nat.pow_pos (by decide)), Nat.add_comm, Nat.mul_comm]

/-- the two registers hold `ys[0:32]` and `ys[32:64]` -/
theorem slide_list (ys : List Nat) (h : ∀ x ∈ ys, x < 4) (i k : Nat) (hi : i < 32) (hk : k ≤ 32) (hik : i + k ≤ ys.length) :
    ((hashLE 4 (ys.take 32) >>> (2 * i)) ||| word64 (hashLE 4 ((ys.drop 32).take 32) <<< (64 - 2 * i))) &&& windowMask k =
      hashLE 4 ((ys.drop i).take k) := by
  have hX : ∀ x ∈ ys.take 64, x < 4 := fun x hx => h x (List.mem_of_mem_take hx)
  have hlt := hashLE_lt 4 (ys.take 32) fun x hx => h x (List.mem_of_mem_take hx)
  have h64 : hashLE 4 (ys.take 64) = hashLE 4 (ys.take 32) + 4 ^ 32 * hashLE 4 ((ys.drop 32).take 32) := by
    rw [show (64 : Nat) = 32 + 32 from rfl, List.take_add, hashLE_append, List.length_take]
    rcases Nat.le_total 32 ys.length with hY | hY
    · rw [Nat.min_eq_left hY]
    · rw [List.drop_eq_nil_of_le hY]; rfl
  have hik64 : i + k ≤ 64 := Nat.add_le_add (Nat.le_of_lt hi) hk
  rw [slide_arith _ _ i k hi hk
      (Nat.lt_of_lt_of_le hlt (Nat.pow_le_pow_right (by decide) (List.length_take_le ..))),
    ← h64, ← hashLE_drop_take 4 _ hX i k (by rw [List.length_take]; exact Nat.le_min.mpr ⟨hik64, hik⟩),
    List.drop_take, List.take_take, Nat.min_eq_left (Nat.le_sub_of_add_le' hik64)]

theorem slidingEntry_eq (a : List Nat) (h : ∀ x ∈ a, x < 4) (k : Nat) (hk : k ≤ 32) (r i : Nat) (hi : i < 32)
    (hj : 32 * r + i + k ≤ a.length) :
    slidingEntry k (pack a) r i = hashLE 4 ((a.drop (32 * r + i)).take k) := by
  have h1 := pack_getD a h (r + 1)
  rw [Nat.mul_succ, ← List.drop_drop] at h1
  rw [← List.drop_drop, ← slide_list _ (fun x hx => h x (List.mem_of_mem_drop hx)) i k hi hk
    (by rw [List.length_drop]; exact Nat.le_sub_of_add_le' (Nat.add_assoc .. ▸ hj)), ← pack_getD a h r, ← h1, slidingEntry]
  split
  · rfl
  · -- no next register: it reads as 0
    next hr => rw [List.getD_eq_getElem?_getD (i := r + 1), List.getElem?_eq_none (Nat.le_of_not_lt hr), Option.getD_none,
      Nat.zero_shiftLeft, word64, Nat.zero_mod, Nat.or_zero]

/-- `BitArray.pack(a, 2).sliding_window(k)` is the list of base-4 numbers of the windows (31: the caller's bound,
`4 ^ 31 ≤ 2^63`; the registers allow 32) -/
theorem packedKmers_eq (a : List Nat) (h : ∀ x ∈ a, x < 4) (k : Nat) (hk1 : 1 ≤ k) (hk : k ≤ 31) :
    packedKmers k a = windows k (hashLE 4) a := by
  have hN : a.length + 1 - k ≤ 32 * ((a.length + 31) / 32) :=
    Nat.le_trans (Nat.sub_le_of_le_add (Nat.add_le_add_left hk1 _)) (le_of_registers_le _ _ (Nat.le_refl _))
  rw [packedKmers, slidingWindow, ← List.map_take, List.take_range, pack_length, Nat.min_eq_left hN, windows]
  apply List.map_congr_left
  intro j hj
  rw [List.mem_range] at hj
  rw [slidingEntry_eq a h k (Nat.le_succ_of_le hk) _ _ (Nat.mod_lt _ (by decide))
      (by rw [Nat.div_add_mod]; exact Nat.le_of_lt_succ (Nat.add_lt_of_lt_sub hj)), Nat.div_add_mod]
end C13
