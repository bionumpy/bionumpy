import BnpVerif.Base.RleC08
import BnpVerif.Base.Lists
/-! `GenomicRunLengthArray.to_array` (differences of neighbouring values scattered to the run starts, then accumulated) returns the
dense meaning of a well-formed array: a lemma library over `Base/RleC08`, used by C08 (the mask) and C09 (`to_array` per dtype). -/
namespace C08
open Base.Rle

theorem zipWith_dropLast_left {α β γ : Type} (f : α → β → γ) (l : List α) (m : List β) (h : m.length < l.length) :
    List.zipWith f l.dropLast m = List.zipWith f l m := by
  have e : (List.zipWith f l m).take (l.length - 1) = List.zipWith f l m :=
    List.take_of_length_le (List.length_zipWith ▸ Nat.le_trans (Nat.min_le_right _ _) (Nat.le_sub_one_of_lt h))
  rw [← e, List.take_zipWith, List.take_of_length_le (l := m) (Nat.le_sub_one_of_lt h), List.dropLast_eq_take]

/-- the scattered array written as blocks: zeros, a written value, zeros, … -/
def blk {V : Type} (z : V) (n : Nat) : Nat → List (Nat × V) → List V
  | c, [] => List.replicate (n - c) z
  | c, (i, x) :: ps => List.replicate (i - c) z ++ x :: blk z n (i + 1) ps

/-- `pre`, of length `c`, is the part no later write reaches -/
theorem scatter_blk {V : Type} (z : V) (n : Nat) (ps : List (Nat × V)) : ∀ (pre : List V) (c : Nat), c = pre.length →
    ps.Pairwise (fun a b => a.1 < b.1) → (∀ p ∈ ps, c ≤ p.1 ∧ p.1 < n) →
    ps.foldl (fun a p => a.set p.1 p.2) (pre ++ List.replicate (n - c) z) = pre ++ blk z n c ps := by
  induction ps with
  | nil => intro pre c _ _ _; rfl
  | cons q ps ih =>
    intro pre c hc hpw hb
    obtain ⟨i, x⟩ := q
    obtain ⟨hci, hin⟩ : c ≤ i ∧ i < n := hb (i, x) (.head _)
    have := ih (pre ++ List.replicate (i - c) z ++ [x]) (i + 1)
      (by rw [List.length_append, List.length_append, List.length_replicate, List.length_singleton, ← hc, Nat.add_sub_of_le hci])
      (List.pairwise_cons.1 hpw).2 (fun p hp => ⟨(List.pairwise_cons.1 hpw).1 p hp, (hb p (.tail _ hp)).2⟩)
    rw [List.foldl_cons, blk, List.set_append_right _ _ (hc ▸ hci), ← hc,
      show n - c = i - c + 1 + (n - (i + 1)) by
        rw [← Nat.sub_add_comm hci, Nat.add_comm (i + 1 - c), Nat.sub_add_sub_cancel hin (Nat.le_succ_of_le hci)],
      Base.set_replicate]
    simpa only [List.append_assoc, List.singleton_append] using this

theorem accFrom_replicate_append {V : Type} (op : V → V → V) (z : V) (hz : ∀ a, op a z = a) (u : V) (B : List V) :
    ∀ m, accFrom op u (List.replicate m z ++ B) = List.replicate m u ++ accFrom op u B := by
  intro m
  induction m with
  | zero => rfl
  | succ m ih => rw [List.replicate_succ, List.cons_append, accFrom, hz, ih]; rfl

/-- accumulating `op` over the scattered differences `vs[i-1] op vs[i]` rebuilds the runs: `u` is the value that holds from `c`
to the next event, and `hxx` is what makes the accumulation undo a difference -/
theorem acc_blk {V : Type} (op : V → V → V) (z : V) (hz : ∀ a, op a z = a) (hxx : ∀ a b, op a (op a b) = b) (n : Nat)
    (es : List Nat) : ∀ (vs : List V) (c : Nat) (u : V), es.length = vs.length → (c :: (es ++ [n])).Pairwise (· < ·) →
    u :: accFrom op u (blk z n (c + 1) (es.zip (List.zipWith op (u :: vs) vs))) = runs (c :: (es ++ [n])) (u :: vs) := by
  induction es with
  | nil =>
    intro vs c u hlen hpw
    have hc : c < n := (List.pairwise_cons.1 hpw).1 n (.head _)
    cases vs with
    | cons _ _ => cases hlen
    | nil =>
      have := accFrom_replicate_append op z hz u [] (n - (c + 1))
      rw [List.append_nil, accFrom, List.append_nil] at this
      rw [List.zip_nil_left, blk, this, ← List.replicate_succ, show n - (c + 1) + 1 = n - c from Nat.sub_add_cancel (Nat.sub_pos_of_lt hc)]
      exact (List.append_nil _).symm
  | cons e1 es ih =>
    intro vs c u hlen hpw
    have hc : c < e1 := (List.pairwise_cons.1 hpw).1 e1 (.head _)
    cases vs with
    | nil => cases hlen
    | cons v1 vs =>
      rw [List.zipWith_cons_cons, List.zip_cons_cons, blk, accFrom_replicate_append op z hz, accFrom, hxx,
        ih vs e1 v1 (Nat.succ.inj hlen) (List.pairwise_cons.1 hpw).2, List.cons_append, runs, ← List.cons_append,
        ← List.replicate_succ, show e1 - (c + 1) + 1 = e1 - c from Nat.sub_add_cancel (Nat.sub_pos_of_lt hc)]

/-- `GenomicRunLengthArray.to_array` returns the dense meaning of a well-formed array, for any `op` that behaves like xor
(C09: `xor`, `Nat.xor`) -/
theorem toArray_dense {V : Type} (op : V → V → V) (z : V) (hz : ∀ a, op a z = a) (hxx : ∀ a b, op a (op a b) = b)
    (r : Rle V) (h : r.WF) : r.toArray op z = r.toDense := by
  obtain ⟨events, values⟩ := r
  obtain ⟨hlen, hhead, hpw⟩ := h
  cases events with
  | nil => cases hhead
  | cons e0 es =>
    cases Option.some.inj hhead
    cases values with
    | nil =>
      cases es with
      | nil => rfl
      | cons _ _ => cases hlen
    | cons v0 vs =>
      rcases List.eq_nil_or_concat es with rfl | ⟨es, n, rfl⟩
      · cases hlen
      rw [List.concat_eq_append] at hlen hpw ⊢
      have hl : es.length = vs.length := by
        simpa only [List.length_cons, List.length_append, List.length_nil, Nat.add_right_cancel_iff] using hlen
      obtain ⟨h0, hes⟩ := List.pairwise_cons.1 hpw
      have hn : 0 < n := h0 n (List.mem_append_right _ (.head _))
      have hlen_eq : Rle.len ⟨0 :: (es ++ [n]), v0 :: vs⟩ = n := by
        cases es with
        | nil => rfl
        | cons a es => exact congrArg (·.getD 0) (List.getLast?_concat (l := a :: es))
      have hstarts : (0 :: (es ++ [n])).dropLast = 0 :: es := by
        rw [List.dropLast_cons_of_ne_nil (by simp), List.dropLast_concat]
      -- the writes: position `es[i]` receives `vs[i-1] op vs[i]`
      have hb : ∀ p ∈ es.zip (List.zipWith op (v0 :: vs) vs), 1 ≤ p.1 ∧ p.1 < n := fun p hp =>
        have hm := (List.of_mem_zip hp).1
        ⟨h0 p.1 (List.mem_append_left _ hm), (List.pairwise_append.1 hes).2.2 p.1 hm n (.head _)⟩
      have hpw' : (es.zip (List.zipWith op (v0 :: vs) vs)).Pairwise (fun a b => a.1 < b.1) := by
        refine List.pairwise_map.1 ?_
        rw [List.map_fst_zip (by rw [List.length_zipWith, List.length_cons]; omega)]
        exact (List.pairwise_append.1 hes).1
      -- no write goes to position 0, so the array is `z :: …` until `v0` is put there
      simp only [Rle.toArray, Rle.toDense, hlen_eq, if_neg (Nat.ne_of_gt hn), hstarts, List.tail_cons, scatter]
      rw [zipWith_dropLast_left op (v0 :: vs) vs (Nat.lt_succ_self _),
        show List.replicate n z = [z] ++ List.replicate (n - 1) z by
          rw [List.singleton_append, ← List.replicate_succ, Nat.sub_add_cancel hn],
        scatter_blk z n _ [z] 1 rfl hpw' hb]
      exact acc_blk op z hz hxx n es vs 0 v0 hl hpw

end C08
