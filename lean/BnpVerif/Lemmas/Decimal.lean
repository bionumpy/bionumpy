import BnpVerif.Model.C18
/-! Decimal digits and integer text: the canonical digits `digitsBE` and the Horner value `ofDigits` of a digit list,
`decimal` as sign and digits, the grammar `specNat`/`specParse` through `digitVal`, what `str_to_int` does to one row
(`rowParse_eq_spec`) and the round trip `spec_roundtrip`. C02 and C03 state the same notions under their own names and
read their laws off these. -/
namespace C18
open Base

/-! ### canonical digits `digitsBE`, the value `ofDigits` of a digit list, uniqueness of the canonical numeral -/

/-- canonical big-endian decimal digits (`digitsBE 0 = [0]`) -/
def digitsBE (m : Nat) : List Nat :=
  if _h : m < 10 then [m] else digitsBE (m / 10) ++ [m % 10]
termination_by m
decreasing_by omega

theorem digitsBE_lt10 {m : Nat} (h : m < 10) : digitsBE m = [m] := by rw [digitsBE, dif_pos h]
theorem digitsBE_ge10 {m : Nat} (h : ¬ m < 10) : digitsBE m = digitsBE (m / 10) ++ [m % 10] := by
  rw [digitsBE, dif_neg h]

theorem digitsBE_bounds (m : Nat) :
    m < 10 ^ (digitsBE m).length ∧ ((digitsBE m).length = 1 ∨ 10 ^ ((digitsBE m).length - 1) ≤ m) ∧
      0 < (digitsBE m).length := by
  induction m using digitsBE.induct with
  | case1 m h => rw [digitsBE_lt10 h]; exact ⟨h, .inl rfl, Nat.one_pos⟩
  | case2 m h ih =>
    obtain ⟨h1, h2, h3⟩ := ih
    rw [digitsBE_ge10 h, List.length_append, List.length_singleton, Nat.add_sub_cancel]
    refine ⟨(Nat.div_lt_iff_lt_mul (by decide)).mp h1, .inr ?_, Nat.succ_pos _⟩
    rcases h2 with h2 | h2
    · rw [h2]; exact Nat.le_of_not_lt h
    · rw [← Nat.sub_add_cancel h3]; exact (Nat.le_div_iff_mul_le (by decide)).mp h2

theorem digitsBE_lt (m : Nat) : ∀ d ∈ digitsBE m, d < 10 := by
  induction m using digitsBE.induct with
  | case1 m h => rw [digitsBE_lt10 h]; exact fun d hd => List.eq_of_mem_singleton hd ▸ h
  | case2 m h ih =>
    rw [digitsBE_ge10 h]
    intro d hd
    rcases List.mem_append.mp hd with hd | hd
    · exact ih d hd
    · exact List.eq_of_mem_singleton hd ▸ Nat.mod_lt _ (by decide)

/-- Horner's rule started at `acc` -/
theorem foldl_ofDigits (ds : List Nat) : ∀ (acc : Nat),
    ds.foldl (fun a d => a * 10 + d) acc = acc * 10 ^ ds.length + ofDigits ds := by
  induction ds with
  | nil => intro acc; exact (Nat.mul_one acc).symm
  | cons d r ih =>
    intro acc
    rw [ofDigits, List.foldl_cons, List.foldl_cons, ih, ih (0 * 10 + d), List.length_cons, Nat.pow_succ, Nat.zero_mul,
      Nat.zero_add, Nat.add_mul, Nat.mul_assoc, Nat.mul_comm 10, Nat.add_assoc]

theorem ofDigits_cons (d : Nat) (ds : List Nat) : ofDigits (d :: ds) = d * 10 ^ ds.length + ofDigits ds := by
  rw [ofDigits, List.foldl_cons, foldl_ofDigits, Nat.zero_mul, Nat.zero_add]

theorem ofDigits_append (a b : List Nat) : ofDigits (a ++ b) = ofDigits a * 10 ^ b.length + ofDigits b := by
  rw [ofDigits, List.foldl_append]; exact foldl_ofDigits b _

theorem ofDigits_zero_cons (ds : List Nat) : ofDigits (0 :: ds) = ofDigits ds := by
  rw [ofDigits_cons, Nat.zero_mul, Nat.zero_add]

theorem ofDigits_zeros (k : Nat) (ds : List Nat) : ofDigits (List.replicate k 0 ++ ds) = ofDigits ds := by
  induction k with
  | zero => rfl
  | succ n ih => rw [List.replicate_succ, List.cons_append, ofDigits_zero_cons, ih]

theorem ofDigits_snoc (a : List Nat) (d : Nat) : ofDigits (a ++ [d]) = ofDigits a * 10 + d := by
  rw [ofDigits, List.foldl_append]; rfl

theorem ofDigits_digitsBE (m : Nat) : ofDigits (digitsBE m) = m := by
  induction m using digitsBE.induct with
  | case1 m h => rw [digitsBE_lt10 h]; exact Nat.zero_add m
  | case2 m h ih => rw [digitsBE_ge10 h, ofDigits_snoc, ih, Nat.mul_comm]; exact Nat.div_add_mod m 10

theorem digitsBE_head (m : Nat) : (digitsBE m).length = 1 ∨ (digitsBE m).head? ≠ some 0 := by
  induction m using digitsBE.induct with
  | case1 m h => rw [digitsBE_lt10 h]; exact .inl rfl
  | case2 m h ih =>
    rw [digitsBE_ge10 h]
    refine .inr ?_
    cases hd : digitsBE (m / 10) with
    | nil => exact absurd (digitsBE_bounds (m / 10)).2.2 (by rw [hd]; exact Nat.lt_irrefl 0)
    | cons d r =>
      rw [hd] at ih
      rcases ih with h1 | h2
      · -- a single digit: it is `m / 10` itself, non-zero
        have hv := ofDigits_digitsBE (m / 10)
        rw [hd, List.length_eq_zero_iff.mp (Nat.succ.inj h1)] at hv
        intro hc
        have : d = 0 := Option.some.inj hc
        subst this
        exact h (Nat.lt_of_div_eq_zero (by decide) hv.symm)
      · exact h2

theorem ofDigits_pos (ds : List Nat) (hne : ds ≠ []) (h : ds.head? ≠ some 0) : 0 < ofDigits ds := by
  cases ds with
  | nil => exact absurd rfl hne
  | cons x xs =>
    rw [ofDigits_cons]
    exact Nat.lt_of_lt_of_le (Nat.mul_pos (Nat.pos_of_ne_zero fun hx => h (hx ▸ rfl)) (Nat.pow_pos (by decide)))
      (Nat.le_add_right _ _)

/-- the canonical digit string is the ONLY list of digits `< 10` without leading zero (or the single `0`) with
value `m`, so `digitsBE` (and with it `decimal` and the code's output) is the usual canonical numeral, characterised
by that property and not only by its own recursion -/
theorem canonical_unique (m : Nat) (ds : List Nat) (hlt : ∀ d ∈ ds, d < 10) (hne : ds ≠ [])
    (hlead : ds.length = 1 ∨ ds.head? ≠ some 0) (hval : ofDigits ds = m) : ds = digitsBE m := by
  induction m using Nat.strongRecOn generalizing ds with
  | _ m ih =>
    -- the last digit is `m % 10`; the rest, if any, is a candidate for `m / 10` and worth at least 1
    obtain ⟨init, d, rfl⟩ : ∃ init d, ds = init ++ [d] := ⟨_, _, (List.dropLast_concat_getLast hne).symm⟩
    have hd : d < 10 := hlt d (List.mem_append_right _ (.head _))
    rw [ofDigits_snoc] at hval
    have hmod : m % 10 = d := by rw [← hval, Nat.mul_add_mod_of_lt hd]
    have hdiv : ofDigits init = m / 10 := by
      rw [← hval, Nat.add_comm, Nat.add_mul_div_right _ _ (by decide), Nat.div_eq_of_lt hd, Nat.zero_add]
    have hl : init ≠ [] → init.head? ≠ some 0 := fun hi hc =>
      hlead.elim (fun hl => hi (List.length_eq_zero_iff.mp (by rw [List.length_append] at hl; exact Nat.succ.inj hl)))
        (fun hh => hh (by rw [List.head?_append, hc]; rfl))
    by_cases h : m < 10
    · cases init with
      | nil => rw [digitsBE_lt10 h, ← hmod, Nat.mod_eq_of_lt h]; rfl
      | cons x xs =>
        have := ofDigits_pos (x :: xs) (List.cons_ne_nil _ _) (hl (List.cons_ne_nil _ _))
        rw [hdiv, Nat.div_eq_of_lt h] at this
        exact absurd this (Nat.lt_irrefl 0)
    · have hi : init ≠ [] := fun hc => by
        subst hc
        exact h (Nat.lt_of_div_eq_zero (by decide) hdiv.symm)
      rw [digitsBE_ge10 h, hmod,
        ← ih (m / 10) (Nat.div_lt_self (Nat.lt_of_lt_of_le (by decide) (Nat.le_of_not_lt h)) (by decide)) init
          (fun x hx => hlt x (List.mem_append_left _ hx)) hi (.inr (hl hi)) hdiv]

example : [1, 0, 7] = digitsBE 107 :=
  canonical_unique 107 [1, 0, 7] (by decide) (by decide) (Or.inr (by decide)) (by decide)

/-! ### the specification text is core `Int.repr` -/

theorem toDigits_eq (m : Nat) : (Nat.toDigits 10 m).map Char.toNat = (digitsBE m).map (· + 48) := by
  have hd : ∀ d < 10, (Nat.digitChar d).toNat = d + 48 := by decide
  induction m using digitsBE.induct with
  | case1 m h => rw [Nat.toDigits_eq_if (by decide), if_pos h, digitsBE_lt10 h]; exact congrArg (· :: []) (hd m h)
  | case2 m h ih =>
    rw [Nat.toDigits_eq_if (by decide), if_neg h, digitsBE_ge10 h, List.map_append, List.map_append, ih]
    exact congrArg (_ ++ [·]) (hd _ (Nat.mod_lt _ (by decide)))

theorem toNat_eq_natAbs {n : Int} (h : 0 ≤ n) : n.toNat = n.natAbs := by
  obtain ⟨k, rfl⟩ := Int.eq_ofNat_of_zero_le h; rfl

theorem decimal_nonneg (n : Int) (h : 0 ≤ n) : decimal n = (digitsBE n.natAbs).map (· + 48) := by
  rw [decimal, Int.toString_eq_repr, Int.repr_eq_if, if_pos h, Nat.toList_repr, toDigits_eq, toNat_eq_natAbs h]

theorem decimal_neg (n : Int) (h : n < 0) : decimal n = 45 :: (digitsBE n.natAbs).map (· + 48) := by
  rw [decimal, Int.toString_eq_repr, Int.repr_eq_if, if_neg (Int.not_le.mpr h), String.toList_append, List.map_append,
    Nat.toList_repr, toDigits_eq, toNat_eq_natAbs (Int.neg_nonneg_of_nonpos (Int.le_of_lt h)), Int.natAbs_neg]
  rfl

theorem decimal_bytes (n : Int) : ∀ b ∈ decimal n, b = 45 ∨ (48 ≤ b ∧ b ≤ 57) := by
  have hdig : ∀ b ∈ (digitsBE n.natAbs).map (· + 48), 48 ≤ b ∧ b ≤ 57 := fun b hb => by
    obtain ⟨d, hd, rfl⟩ := List.mem_map.mp hb
    exact ⟨Nat.le_add_left _ _, Nat.add_le_add_right (Nat.le_of_lt_succ (digitsBE_lt _ d hd)) 48⟩
  intro b hb
  by_cases hn : n < 0
  · rw [decimal_neg n hn] at hb
    exact (List.mem_cons.mp hb).imp_right (hdig b)
  · rw [decimal_nonneg n (Int.not_lt.mp hn)] at hb
    exact .inr (hdig b hb)

/-! ### the grammar (`specDigits`, `specNat`, `specParse`) through `digitVal` -/

theorem allDigits_cons (b : Nat) (t : Bytes) :
    allDigits (b :: t) = (decide (48 ≤ b) && decide (b ≤ 57) && allDigits t) := rfl

theorem allDigits_append (s t : Bytes) : allDigits (s ++ t) = (allDigits s && allDigits t) := List.all_append

theorem not_mem_digits (b : Nat) (s : Bytes) (h : allDigits s = true) (hb : b < 48 ∨ 57 < b) : b ∉ s := by
  intro hm
  have := (List.all_eq_true.mp h) b hm
  simp only [Bool.and_eq_true, decide_eq_true_eq] at this
  exact hb.elim (Nat.not_lt.mpr this.1) (Nat.not_lt.mpr this.2)

theorem unsigned_head (I rest : Bytes) (hI : allDigits I = true)
    (hr : I = [] → isNegRow rest = false ∧ isPosRow rest = false) :
    isNegRow (I ++ rest) = false ∧ isPosRow (I ++ rest) = false := by
  cases I with
  | nil => exact hr rfl
  | cons c cs =>
    rw [allDigits_cons, Bool.and_eq_true, Bool.and_eq_true, decide_eq_true_eq] at hI
    exact ⟨beq_false_of_ne fun hc => by cases hc; exact absurd hI.1.1 (by decide),
      beq_false_of_ne fun hc => by cases hc; exact absurd hI.1.1 (by decide)⟩

theorem omap_digitVal_eq (t : Bytes) : omap digitVal t = if allDigits t then some (t.map (· - 48)) else none := by
  induction t with
  | nil => rfl
  | cons b t ih =>
    rw [omap, ih, allDigits_cons, digitVal]
    by_cases hb : 48 ≤ b ∧ b ≤ 57
    · rw [if_pos hb, decide_eq_true hb.1, decide_eq_true hb.2]; cases allDigits t <;> rfl
    · rw [if_neg hb]
      rcases Classical.not_and_iff_not_or_not.mp hb with h | h
      · rw [decide_eq_false h]; rfl
      · rw [decide_eq_false h, Bool.and_false]; rfl

theorem omap_digitVal (t : Bytes) (h : allDigits t = true) : omap digitVal t = some (t.map (· - 48)) := by
  rw [omap_digitVal_eq, if_pos h]

theorem specDigits_eq (t : Bytes) : specDigits t = (omap digitVal t).map ofDigits := by
  rw [specDigits, omap_digitVal_eq]; cases allDigits t <;> rfl

theorem specNat_eq (t : Bytes) : specNat t = if t = [] then none else specDigits t := by
  rw [specNat, specDigits]
  by_cases h : t = []
  · rw [if_pos h, if_neg (fun hc => hc.1 h)]
  · rw [if_neg h]; cases allDigits t <;> simp [h]

theorem specNat_some (t : Bytes) (u : Nat) (h : specNat t = some u) :
    t ≠ [] ∧ allDigits t = true ∧ u = ofDigits (t.map (· - 48)) := by
  unfold specNat at h
  split at h
  · rename_i hc; exact ⟨hc.1, hc.2, (Option.some.inj h).symm⟩
  · cases h

theorem specDigits_some (t : Bytes) (u : Nat) (h : specDigits t = some u) :
    allDigits t = true ∧ u = ofDigits (t.map (· - 48)) := by
  unfold specDigits at h
  split at h
  · rename_i hc; exact ⟨hc, (Option.some.inj h).symm⟩
  · cases h

theorem specParse_of_unsigned (r : Bytes) (hn : isNegRow r = false) (hp : isPosRow r = false) :
    specParse r = (specNat r).map Int.ofNat := by
  unfold specParse
  split
  · cases hn
  · cases hp
  · cases specNat r <;> rfl

/-! ### one row of `str_to_int` is the grammar parser; the round trip -/

/-- the guard of `strToInt` (written out there): a row that is only a sign makes the call raise -/
def signOnly (r : Bytes) : Bool := (isNegRow r || isPosRow r) && r.length == 1

theorem specDigits_zero_cons (t : Bytes) : specDigits (48 :: t) = specDigits t := by
  -- `allDigits (48 :: t)` and `48 - 48` compute
  show (if allDigits t = true then some (ofDigits (0 :: t.map (· - 48))) else none) = _
  rw [ofDigits_zero_cons]; rfl

/-- what `str_to_int` does to one row, up to the int64 wrap (`none`: the row makes the call raise) -/
def rowParse (r : Bytes) : Option Int :=
  if signOnly r then none
  else (specDigits (stripSign r)).map fun (v : Nat) => (v : Int) * (if isNegRow r then -1 else 1)

/-- a sign is read as a leading zero, a lone sign is rejected -/
theorem rowParse_eq_spec (r : Bytes) (hne : r ≠ []) : rowParse r = specParse r := by
  have signed : ∀ (s : Int) (f : Nat → Int), (∀ v : Nat, (v : Int) * s = f v) → ∀ (c : Nat) (t : Bytes),
      (specDigits (48 :: c :: t)).map (fun (v : Nat) => (v : Int) * s)
        = match specNat (c :: t) with | some v => some (f v) | none => none := by
    intro s f hf c t
    rw [specDigits_zero_cons, specNat_eq, if_neg (List.cons_ne_nil _ _)]
    cases specDigits (c :: t)
    · rfl
    · exact congrArg some (hf _)
  cases r with
  | nil => exact absurd rfl hne
  | cons b t =>
    by_cases h1 : b = 45
    · subst h1
      cases t with
      | nil => rfl
      | cons c t => exact signed (-1) (fun v => -(v : Int)) (fun v => Int.mul_neg_one v) c t
    · by_cases h2 : b = 43
      · subst h2
        cases t with
        | nil => rfl
        | cons c t => exact signed 1 (fun v => (v : Int)) (fun v => Int.mul_one v) c t
      · have hn : isNegRow (b :: t) = false := beq_false_of_ne fun hc => h1 (Option.some.inj hc)
        have hp : isPosRow (b :: t) = false := beq_false_of_ne fun hc => h2 (Option.some.inj hc)
        rw [specParse_of_unsigned _ hn hp, specNat_eq, if_neg (List.cons_ne_nil _ _), rowParse, signOnly, stripSign, hn, hp]
        show (specDigits (b :: t)).map (fun (v : Nat) => (v : Int) * 1) = _
        cases specDigits (b :: t)
        · rfl
        · exact congrArg some (Int.mul_one _)

theorem specNat_digits (m : Nat) : specNat ((digitsBE m).map (· + 48)) = some m := by
  have hd : omap digitVal ((digitsBE m).map (· + 48)) = some (digitsBE m) :=
    (omap_map ..).trans <| omap_eq_self _ _ fun d hd => by
      rw [digitVal, if_pos ⟨Nat.le_add_left _ _, Nat.add_le_add_right (Nat.le_of_lt_succ (digitsBE_lt m d hd)) 48⟩,
        Nat.add_sub_cancel]
  rw [specNat_eq, if_neg, specDigits_eq, hd, Option.map_some, ofDigits_digitsBE]
  exact fun hc => Nat.ne_of_gt (digitsBE_bounds m).2.2 (List.length_map .. ▸ congrArg List.length hc)

/-- the canonical text parses back to the number (specification-level round trip) -/
theorem spec_roundtrip (n : Int) : specParse (decimal n) = some n := by
  by_cases hn : n < 0
  · rw [decimal_neg n hn]
    show (match specNat _ with | some v => some (-(v : Int)) | none => none) = _
    rw [specNat_digits]
    show some (-(n.natAbs : Int)) = _
    rw [Int.ofNat_natAbs_of_nonpos (Int.le_of_lt hn), Int.neg_neg]
  · obtain ⟨hne, hall, _⟩ := specNat_some _ _ (specNat_digits n.natAbs)
    have := unsigned_head _ [] hall fun h => absurd h hne
    rw [List.append_nil] at this
    rw [decimal_nonneg n (Int.not_lt.mp hn), specParse_of_unsigned _ this.1 this.2, specNat_digits]
    exact congrArg some (Int.natAbs_of_nonneg (Int.not_lt.mp hn))

end C18
