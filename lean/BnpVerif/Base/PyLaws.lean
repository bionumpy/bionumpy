import BnpVerif.Base.PySlice
import BnpVerif.Base.PyIdx
/-! Laws of Python / NumPy index resolution. The semantics is written down twice (`Py`, Base/PySlice: one `rangeI` for both
signs of the step, `Option`-valued `pick`; `PyIdx`, Base/PyIdx: `rangeUp` / `rangeDown`, total `gather`). The theory is
developed once, in the `Py` vocabulary; then the `PyIdx` functions are shown to be the same functions and their lemmas are
read off. -/
namespace Py
open Base

/-! ### one integer index -/

/-- `normIdx` is Python's index rule -/
theorem normIdx_eq_some_iff (len : Nat) (i : Int) (p : Nat) :
    normIdx len i = some p ↔ ((0 ≤ i ∧ i < len ∧ (p : Int) = i) ∨ (i < 0 ∧ -(len : Int) ≤ i ∧ (p : Int) = len + i)) := by
  by_cases h : 0 ≤ i
  · obtain ⟨n, rfl⟩ := Int.eq_ofNat_of_zero_le h
    simp only [normIdx, h, Int.not_lt.2 h, Int.toNat_natCast, Option.ite_none_right_eq_some, Option.some.injEq,
      true_and, false_and, or_false, Int.ofNat_lt, Int.natCast_inj, ↓reduceIte, eq_comm (a := n)]
  · obtain ⟨n, rfl⟩ := Int.eq_negSucc_of_lt_zero (Int.not_le.1 h)
    simp only [normIdx, h, Int.not_le.1 h, Option.ite_none_right_eq_some, Option.some.injEq, true_and, false_and,
      false_or, ↓reduceIte]
    show (n + 1 ≤ len ∧ len - (n + 1) = p) ↔ _
    omega

theorem normIdx_lt {len : Nat} {i : Int} {p : Nat} (h : normIdx len i = some p) : p < len := by
  rcases (normIdx_eq_some_iff len i p).1 h with ⟨_, h1, h2⟩ | ⟨h0, _, h2⟩
  · exact Int.ofNat_lt.1 (h2 ▸ h1)
  · exact Int.ofNat_lt.1 (h2 ▸ Int.add_zero (len : Int) ▸ Int.add_lt_add_left h0 len)

theorem normIdx_of_inRange (len : Nat) (i : Int) (h : -(len : Int) ≤ i ∧ i < len) :
    ∃ p, normIdx len i = some p ∧ p < len := by
  by_cases h0 : 0 ≤ i
  · exact ⟨i.toNat, (normIdx_eq_some_iff len i _).2 (Or.inl ⟨h0, h.2, Int.toNat_of_nonneg h0⟩), (Int.toNat_lt h0).2 h.2⟩
  · have hi := Int.not_le.1 h0
    have h1 : 0 ≤ len + i := Int.add_nonneg_iff_neg_le'.2 h.1
    exact ⟨(len + i).toNat, (normIdx_eq_some_iff len i _).2 (Or.inr ⟨hi, h.1, Int.toNat_of_nonneg h1⟩),
      (Int.toNat_lt h1).2 (Int.add_zero (len : Int) ▸ Int.add_lt_add_left hi len)⟩

/-- `IndexError` exactly outside `-len ≤ i < len` -/
theorem normIdx_eq_none_iff (len : Nat) (i : Int) : normIdx len i = none ↔ (i < -(len : Int) ∨ (len : Int) ≤ i) := by
  refine ⟨fun h => ?_, fun h => Option.eq_none_iff_forall_ne_some.2 fun p hp => ?_⟩
  · refine Decidable.by_contra fun hn => ?_
    obtain ⟨p, hp, _⟩ := normIdx_of_inRange len i ⟨Int.not_lt.1 fun h1 => hn (.inl h1), Int.not_le.1 fun h2 => hn (.inr h2)⟩
    exact Option.some_ne_none p (hp.symm.trans h)
  · rcases (normIdx_eq_some_iff len i p).1 hp with ⟨h0, h1, _⟩ | ⟨_, h1, _⟩
    · exact h.elim (fun h => Int.not_lt.2 (Int.le_trans (Int.neg_nonpos_of_nonneg (Int.natCast_nonneg len)) h0) h)
        (Int.not_le.2 h1)
    · exact h.elim (Int.not_lt.2 h1) (fun h => Int.not_le.2 (Int.lt_of_lt_of_le ‹i < 0› (Int.natCast_nonneg len)) h)

/-! ### `rangeI` and the adjusted bounds -/

/-- the loop condition of `range(·, e, step)` -/
abbrev Before (step e x : Int) : Prop := (0 < step ∧ x < e) ∨ (step < 0 ∧ x > e)

theorem rangeI_succ (s e step : Int) (fuel : Nat) :
    rangeI s e step (fuel + 1) =
      if Before step e s then s.toNat :: rangeI (s + step) e step fuel else [] := rfl

/-- `k·step` lies on the side of `0` that `step` does, at distance at least `k` -/
theorem le_mul_step (k : Nat) {step : Int} (h : 0 < step) : (k : Int) ≤ k * step := by
  have := Int.mul_le_mul_of_nonneg_left (show 1 ≤ step from h) (Int.natCast_nonneg k)
  rwa [Int.mul_one] at this

theorem mul_step_le (k : Nat) {step : Int} (h : step < 0) : k * step ≤ -(k : Int) := by
  have := Int.mul_le_mul_of_nonneg_left (Int.le_sub_one_of_lt h) (Int.natCast_nonneg k)
  rwa [Int.zero_sub, Int.mul_neg, Int.mul_one] at this

/-- contrapositive: once the loop condition fails it fails for every later `k` (`k·step` has the sign of `step`) -/
theorem Before.of_add_mul {step e s : Int} {k : Nat} (h : Before step e (s + k * step)) : Before step e s := by
  rcases h with ⟨hp, h⟩ | ⟨hn, h⟩
  · have := le_mul_step k hp
    exact Or.inl ⟨hp, by omega⟩
  · have := mul_step_le k hn
    exact Or.inr ⟨hn, by omega⟩

/-- `rangeI` is `range(s, e, step)` cut off after `fuel` members -/
theorem getElem?_rangeI (s e step : Int) (fuel k : Nat) :
    (rangeI s e step fuel)[k]? =
      if k < fuel ∧ Before step e (s + k * step) then some (s + k * step).toNat else none := by
  induction fuel generalizing s k with
  | zero => exact (if_neg fun h => Nat.not_lt_zero k h.1).symm
  | succ fuel ih =>
    rw [rangeI_succ]
    by_cases hc : Before step e s
    · rw [if_pos hc]
      cases k with
      | zero => rw [Int.natCast_zero, Int.zero_mul, Int.add_zero, if_pos ⟨fuel.succ_pos, hc⟩]; rfl
      | succ k =>
        rw [List.getElem?_cons_succ, ih, Int.natCast_succ, Int.add_mul, Int.one_mul, Int.add_assoc, Int.add_comm step]
        simp only [Nat.add_lt_add_iff_right]
    · rw [if_neg hc, if_neg fun h => hc h.2.of_add_mul]; rfl

theorem lt_length_rangeI (s e step : Int) (fuel k : Nat) :
    k < (rangeI s e step fuel).length ↔ k < fuel ∧ Before step e (s + k * step) := by
  rw [← isSome_getElem? (rangeI s e step fuel) k, getElem?_rangeI]
  by_cases h : k < fuel ∧ Before step e (s + k * step)
  · rw [if_pos h]; exact iff_of_true rfl h
  · rw [if_neg h]; exact iff_of_false Bool.false_ne_true h

theorem sliceIdx_eq (len : Nat) (a b : Option Int) (step : Int) :
    sliceIdx len a b step =
      rangeI (sliceBounds len a b step).1 (sliceBounds len a b step).2 step (len + 1) := rfl

/-- the `adj` of `sliceBounds`, which is written as this nested `if`; `PyIdx.clamp` is the same `if` -/
theorem clamp_mem {lo hi : Int} (h : lo ≤ hi) (v : Int) :
    lo ≤ (if v < lo then lo else if v > hi then hi else v) ∧
      (if v < lo then lo else if v > hi then hi else v) ≤ hi := by
  split
  · exact ⟨Int.le_refl _, h⟩
  · split
    · exact ⟨h, Int.le_refl _⟩
    · exact ⟨Int.not_lt.1 ‹_›, Int.not_lt.1 ‹_›⟩

/-- each bound is an end of `[0, len]` (resp. `[-1, len - 1]`) or a value clamped into it -/
theorem sliceBounds_range (len : Nat) (a b : Option Int) (step : Int) :
    (0 < step → (0 ≤ (sliceBounds len a b step).1 ∧ (sliceBounds len a b step).1 ≤ len) ∧
      (0 ≤ (sliceBounds len a b step).2 ∧ (sliceBounds len a b step).2 ≤ len)) ∧
    (step < 0 → (-1 ≤ (sliceBounds len a b step).1 ∧ (sliceBounds len a b step).1 ≤ (len : Int) - 1) ∧
      (-1 ≤ (sliceBounds len a b step).2 ∧ (sliceBounds len a b step).2 ≤ (len : Int) - 1)) := by
  refine ⟨fun h => ?_, fun h => ?_⟩
  · have h0 : (0 : Int) ≤ len := Int.natCast_nonneg len
    have hc := clamp_mem h0
    have hlo := And.intro (Int.le_refl 0) h0
    have hhi := And.intro h0 (Int.le_refl len)
    unfold sliceBounds
    simp only [Int.not_lt.2 (Int.le_of_lt h), ↓reduceIte]
    cases a <;> cases b
    · exact ⟨hlo, hhi⟩
    · exact ⟨hlo, hc _⟩
    · exact ⟨hc _, hhi⟩
    · exact ⟨hc _, hc _⟩
  · have h0 : (-1 : Int) ≤ len - 1 := Int.sub_le_sub_right (Int.natCast_nonneg len) 1
    have hc := clamp_mem h0
    have hlo := And.intro (Int.le_refl (-1)) h0
    have hhi := And.intro h0 (Int.le_refl (len - 1 : Int))
    unfold sliceBounds
    simp only [h, ↓reduceIte]
    cases a <;> cases b
    · exact ⟨hhi, hlo⟩
    · exact ⟨hhi, hc _⟩
    · exact ⟨hc _, hlo⟩
    · exact ⟨hc _, hc _⟩

/-- both branches show `k < len`: the fuel `len + 1` of `sliceIdx` is one more than a slice can use -/
theorem sliceBounds_step (len : Nat) (a b : Option Int) (step : Int) (k : Nat)
    (h : Before step (sliceBounds len a b step).2 ((sliceBounds len a b step).1 + k * step)) :
    k < len + 1 ∧ ((sliceBounds len a b step).1 + k * step).toNat < len := by
  rcases h with ⟨hp, h⟩ | ⟨hn, h⟩
  · obtain ⟨⟨hs, _⟩, _, he⟩ := (sliceBounds_range len a b step).1 hp
    have hx := Int.lt_of_lt_of_le h he
    have hk := Int.le_trans (le_mul_step k hp) (Int.le_add_of_nonneg_left hs)
    exact ⟨Nat.lt_succ_of_lt (Int.ofNat_lt.1 (Int.lt_of_le_of_lt hk hx)),
      (Int.toNat_lt (Int.le_trans (Int.natCast_nonneg k) hk)).2 hx⟩
  · obtain ⟨⟨_, hs⟩, he, _⟩ := (sliceBounds_range len a b step).2 hn
    have h0 : (0 : Int) ≤ (sliceBounds len a b step).1 + k * step := Int.add_one_le_of_lt (Int.lt_of_le_of_lt he h)
    have hk := Int.add_le_add_left (mul_step_le k hn) (sliceBounds len a b step).1
    have : k < len ∧ (sliceBounds len a b step).1 + k * step < len := by omega
    exact ⟨Nat.lt_succ_of_lt this.1, (Int.toNat_lt h0).2 this.2⟩

/-- position `k` of a slice is `start + k·step`, as long as that lies before `stop` -/
theorem getElem?_sliceIdx (len : Nat) (a b : Option Int) (step : Int) (k : Nat) :
    (sliceIdx len a b step)[k]? =
      if Before step (sliceBounds len a b step).2 ((sliceBounds len a b step).1 + k * step)
      then some ((sliceBounds len a b step).1 + k * step).toNat else none := by
  rw [sliceIdx_eq, getElem?_rangeI]
  exact ite_congr (propext (and_iff_right_of_imp fun h => (sliceBounds_step len a b step k h).1)) (fun _ => rfl) fun _ => rfl

theorem lt_length_sliceIdx (len : Nat) (a b : Option Int) (step : Int) (k : Nat) :
    k < (sliceIdx len a b step).length ↔
      Before step (sliceBounds len a b step).2 ((sliceBounds len a b step).1 + k * step) := by
  rw [sliceIdx_eq, lt_length_rangeI]
  exact and_iff_right_of_imp fun h => (sliceBounds_step len a b step k h).1

/-- the loop condition for the sign the step has -/
theorem Before_iff {step e x : Int} (hs : step ≠ 0) : Before step e x ↔ if 0 < step then x < e else x > e := by
  by_cases hp : 0 < step
  · rw [if_pos hp]
    exact ⟨fun h => h.elim And.right fun h => absurd hp (Int.lt_asymm h.1), fun h => Or.inl ⟨hp, h⟩⟩
  · rw [if_neg hp]
    exact ⟨fun h => h.elim (fun h => absurd h.1 hp) And.right,
      fun h => Or.inr ⟨(Int.lt_or_gt_of_ne hs).resolve_right hp, h⟩⟩

/-- a slice never selects a position outside the sequence, whatever start, stop, step -/
theorem sliceIdx_lt (len : Nat) (a b : Option Int) (step : Int) : ∀ x ∈ sliceIdx len a b step, x < len := by
  intro x hx
  obtain ⟨k, hk⟩ := List.mem_iff_getElem?.1 hx
  rw [getElem?_sliceIdx] at hk
  obtain ⟨h, hx⟩ := Option.ite_none_right_eq_some.1 hk
  cases hx
  exact (sliceBounds_step len a b step k h).2

/-- `range(s, e)` over naturals, with fuel for every member, is `List.range'` (for `e ≤ s` both sides are empty) -/
theorem rangeI_one (s e fuel : Nat) (hf : e - s ≤ fuel) : rangeI s e 1 fuel = List.range' s (e - s) := by
  induction fuel generalizing s with
  | zero => rw [Nat.le_zero.1 hf]; rfl
  | succ fuel ih =>
    rw [rangeI_succ]
    by_cases h : s < e
    · rw [if_pos (Or.inl ⟨by decide, Int.ofNat_lt.2 h⟩), Int.toNat_natCast, ← Int.natCast_succ,
        ih (s + 1) (Nat.pred_le_pred hf), ← Nat.succ_pred_eq_of_pos (Nat.sub_pos_of_lt h)]
      rfl
    · rw [if_neg (fun hc => hc.elim (fun hc => h (Int.ofNat_lt.1 hc.2)) (fun hc => absurd hc.1 (by decide))),
        Nat.sub_eq_zero_of_le (Nat.not_lt.1 h)]
      rfl

theorem rangeI_down (n : Nat) :
    ∀ fuel, n ≤ fuel → rangeI ((n : Int) - 1) (-1) (-1) fuel = (List.range n).reverse := by
  induction n with
  | zero => intro fuel _; cases fuel <;> rfl
  | succ n ih =>
    intro fuel hf
    obtain ⟨fuel, rfl⟩ := Nat.exists_eq_add_one.2 (Nat.lt_of_lt_of_le n.succ_pos hf)
    have hc : Before (-1) (-1) (((n + 1 : Nat) : Int) - 1) :=
      Or.inr ⟨by decide, Int.sub_lt_sub_right (Int.natCast_pos.2 n.succ_pos) 1⟩
    rw [rangeI_succ, if_pos hc, List.range_succ, List.reverse_append, Int.natCast_succ, Int.add_sub_cancel,
      ← ih fuel (Nat.le_of_succ_le_succ hf)]
    rfl

/-- `[::-1]` selects every position, last first -/
theorem sliceIdx_reverse (len : Nat) : sliceIdx len none none (-1) = (List.range len).reverse :=
  rangeI_down len (len + 1) (Nat.le_succ len)

/-! ### boolean masks -/

theorem maskPositions_succ (m : List Bool) (i : Nat) :
    maskPositions (i + 1) m = (maskPositions i m).map (· + 1) := by
  induction m generalizing i with
  | nil => rfl
  | cons b bs ih => cases b <;> simp only [maskPositions, ih, List.map_cons, ↓reduceIte, Bool.false_eq_true]

theorem maskPositions_append (a b : List Bool) (i : Nat) :
    maskPositions i (a ++ b) = maskPositions i a ++ maskPositions (i + a.length) b := by
  induction a generalizing i with
  | nil => rfl
  | cons x xs ih =>
    rw [List.cons_append, maskPositions, maskPositions, ih, List.length_cons, Nat.add_assoc, Nat.add_comm 1]
    split <;> rfl

/-- the selected positions are those of the `True` entries -/
theorem mem_maskPositions (m : List Bool) (i p : Nat) : p ∈ maskPositions i m ↔ ∃ j, p = i + j ∧ m[j]? = some true := by
  induction m generalizing i with
  | nil => exact ⟨nofun, fun ⟨_, _, h⟩ => nomatch h⟩
  | cons b bs ih =>
    have hrec : p ∈ maskPositions (i + 1) bs ↔ ∃ j, p = i + (j + 1) ∧ (b :: bs)[j + 1]? = some true :=
      (ih (i + 1)).trans (exists_congr fun j => by rw [Nat.add_assoc, Nat.add_comm 1]; rfl)
    -- `j = 0` is the head of the mask, `j + 1` a position of the tail, which `hrec` speaks of
    have hsplit (P : Nat → Prop) : (∃ j, P j) ↔ P 0 ∨ ∃ j, P (j + 1) :=
      ⟨fun ⟨j, h⟩ => by cases j with | zero => exact .inl h | succ j => exact .inr ⟨j, h⟩,
        fun h => h.elim (fun h => ⟨0, h⟩) fun ⟨j, h⟩ => ⟨j + 1, h⟩⟩
    rw [hsplit, ← hrec]
    cases b with
    | false => exact ⟨.inr, fun h => h.resolve_left fun h => nomatch h.2⟩
    | true => exact List.mem_cons.trans (or_congr_left ⟨fun h => ⟨h, rfl⟩, fun h => h.1⟩)

/-- in increasing order -/
theorem maskPositions_sorted (m : List Bool) (i : Nat) : (maskPositions i m).Pairwise (· < ·) := by
  induction m generalizing i with
  | nil => exact .nil
  | cons b bs ih =>
    cases b with
    | false => exact ih (i + 1)
    | true =>
      refine List.pairwise_cons.2 ⟨fun p hp => ?_, ih (i + 1)⟩
      obtain ⟨j, rfl, _⟩ := (mem_maskPositions bs (i + 1) p).1 hp
      exact Nat.lt_of_lt_of_le i.lt_succ_self (Nat.le_add_right _ j)

theorem maskPositions_bounds (m : List Bool) (i : Nat) : ∀ p ∈ maskPositions i m, i ≤ p ∧ p < i + m.length := by
  intro p hp
  obtain ⟨j, rfl, hj⟩ := (mem_maskPositions m i p).1 hp
  exact ⟨Nat.le_add_right i j, Nat.add_lt_add_left (List.getElem?_eq_some_iff.1 hj).1 i⟩

/-! ### `pick` at the positions of ranges, slices and masks -/

/-- positions inside the list: picking them cannot fail -/
theorem pick_isSome_iff {α} (l : List α) (pos : List Nat) : (pick l pos).isSome ↔ ∀ p ∈ pos, p < l.length := by
  simp only [pick, omap_isSome_iff, isSome_getElem?]

theorem pick_range' {α} (l : List α) (s n : Nat) (h : s + n ≤ l.length) :
    pick l (List.range' s n) = some ((l.drop s).take n) := by
  induction n generalizing s with
  | zero => rfl
  | succ n ih =>
    have hs : s < l.length := Nat.lt_of_lt_of_le (Nat.lt_add_of_pos_right n.succ_pos) h
    rw [List.drop_eq_getElem_cons hs, List.take_succ_cons]
    exact omap_cons_some _ _ _ _ _ (List.getElem?_eq_getElem hs)
      (ih (s + 1) (Nat.succ_add_eq_add_succ s n ▸ h))

theorem pick_range {α} (l : List α) : pick l (List.range l.length) = some l := by
  rw [List.range_eq_range', pick_range' l 0 _ (Nat.le_of_eq (Nat.zero_add _)), List.drop_zero, List.take_length]

/-- `np.concatenate([f, g])[len(f) + ix] = g[ix]`, raising exactly when `g[ix]` does -/
theorem pick_append_right {α} (l m : List α) (pos : List Nat) :
    pick (l ++ m) (pos.map (· + l.length)) = pick m pos := by
  rw [pick, omap_map]
  exact omap_congr _ _ _ fun p _ => by rw [List.getElem?_append_right (Nat.le_add_left _ _), Nat.add_sub_cancel]

/-- a unit-step slice `l[a:b]` is `drop`/`take` between CPython's adjusted bounds, for every `a`, `b` (present or
omitted) -/
theorem slice_take_drop {α} (l : List α) (a b : Option Int) :
    pick l (sliceIdx l.length a b 1) =
      some ((l.drop (sliceBounds l.length a b 1).1.toNat).take
        ((sliceBounds l.length a b 1).2 - (sliceBounds l.length a b 1).1).toNat) := by
  obtain ⟨⟨hs, hsl⟩, he, hel⟩ := (sliceBounds_range l.length a b 1).1 (by decide)
  rw [sliceIdx_eq]
  generalize (sliceBounds l.length a b 1).1 = s at *
  generalize (sliceBounds l.length a b 1).2 = e at *
  obtain ⟨s, rfl⟩ := Int.eq_ofNat_of_zero_le hs
  obtain ⟨e, rfl⟩ := Int.eq_ofNat_of_zero_le he
  have hsl := Int.ofNat_le.1 hsl
  have hel := Int.ofNat_le.1 hel
  rw [rangeI_one s e _ (Nat.le_trans (Nat.sub_le e s) (Nat.le_succ_of_le hel)), Int.toNat_natCast, Int.toNat_sub]
  exact pick_range' l s (e - s) (by omega)

/-- `l[:]` is `l` -/
theorem slice_full {α} (l : List α) : pick l (sliceIdx l.length none none 1) = some l := by
  rw [slice_take_drop]
  show some ((l.drop 0).take ((l.length : Int) - 0).toNat) = some l
  rw [Int.sub_zero, Int.toNat_natCast, List.drop_zero, List.take_length]

/-- `l[::-1]` is `l.reverse` -/
theorem slice_reverse {α} (l : List α) : pick l (sliceIdx l.length none none (-1)) = some l.reverse := by
  rw [sliceIdx_reverse, pick, omap_reverse]
  exact congrArg (Option.map List.reverse) (pick_range l)

/-- boolean-mask indexing `l[m]` is `[x for x, b in zip(l, m) if b]` -/
theorem mask_filter {α} (l : List α) (m : List Bool) (h : m.length = l.length) :
    pick l (maskPositions 0 m) = some (((l.zip m).filter (·.2)).map (·.1)) := by
  induction m generalizing l with
  | nil => rw [List.zip_nil_right]; rfl
  | cons b bs ih =>
    cases l with
    | nil => cases h
    | cons x xs =>
      -- the positions of the tail are those of `bs` shifted past `x`
      have : pick (x :: xs) ((maskPositions 0 bs).map (· + 1)) = _ :=
        (pick_append_right [x] xs _).trans (ih xs (Nat.succ.inj h))
      rw [← maskPositions_succ] at this
      cases b with
      | false => exact this
      | true => exact omap_cons_some _ _ _ _ _ rfl this

/-! ### every index form -/

/-- every index form only ever selects positions inside the axis -/
theorem resolve_lt {len : Nat} {ix : Idx} {pos : List Nat} (h : ix.resolve len = some pos) : ∀ p ∈ pos, p < len := by
  cases ix with
  | int i =>
    obtain ⟨p, hp, rfl⟩ := Option.map_eq_some_iff.1 h
    exact fun q hq => List.eq_of_mem_singleton hq ▸ normIdx_lt hp
  | slice a b s =>
    obtain ⟨_, h⟩ := Option.ite_none_left_eq_some.1 h
    cases h
    exact sliceIdx_lt len a b s
  | mask m =>
    obtain ⟨hl, h⟩ := Option.ite_none_right_eq_some.1 h
    cases h
    exact fun p hp => hl ▸ Nat.zero_add m.length ▸ (maskPositions_bounds m 0 p hp).2
  | list is =>
    intro p hp
    obtain ⟨i, _, hi⟩ := omap_mem _ _ _ h p hp
    exact normIdx_lt hi

end Py

/-! ### `PyIdx` is the same semantics -/
namespace PyIdx
open Base

theorem norm_eq : norm = Py.normIdx := rfl

theorem rangeUp_eq (stop : Int) {s : Nat} (hs : 0 < s) (fuel : Nat) (cur : Int) :
    rangeUp stop s fuel cur = Py.rangeI cur stop s fuel := by
  induction fuel generalizing cur with
  | zero => rfl
  | succ f ih =>
    rw [rangeUp, Py.rangeI_succ, ih]
    by_cases h : cur < stop
    · rw [if_pos h, if_pos (Or.inl ⟨Int.natCast_pos.2 hs, h⟩)]
    · rw [if_neg h, if_neg fun hc => hc.elim (fun hc => h hc.2) fun hc => Int.not_lt.2 (Int.natCast_nonneg s) hc.1]

theorem rangeDown_eq (stop : Int) {s : Nat} (hs : 0 < s) (fuel : Nat) (cur : Int) :
    rangeDown stop s fuel cur = Py.rangeI cur stop (-(s : Int)) fuel := by
  have hneg : -(s : Int) < 0 := Int.neg_neg_of_pos (Int.natCast_pos.2 hs)
  induction fuel generalizing cur with
  | zero => rfl
  | succ f ih =>
    rw [rangeDown, Py.rangeI_succ, ih, Int.sub_eq_add_neg]
    by_cases h : stop < cur
    · rw [if_pos h, if_pos (Or.inr ⟨hneg, h⟩)]
    · rw [if_neg h, if_neg fun hc => hc.elim (fun hc => Int.lt_asymm hneg hc.1) fun hc => h hc.2]

/-- `slice.indices`: the two bounds are computed separately here, as a pair there -/
theorem sliceBounds_eq (n : Nat) (a b : Option Int) {s : Int} (hs : s ≠ 0) :
    Py.sliceBounds n a b s = (sliceStart n a s, sliceStop n b s) := by
  unfold Py.sliceBounds sliceStart sliceStop clamp
  by_cases h : 0 < s
  · simp only [h, Int.lt_asymm h, ↓reduceIte]
    cases a <;> cases b <;> rfl
  · have h' : s < 0 := (Int.lt_or_gt_of_ne hs).resolve_right h
    simp only [h, h', ↓reduceIte]
    cases a <;> cases b <;> rfl

theorem sliceList_eq (n : Nat) (a b : Option Int) (s : Int) :
    sliceList n a b s = if s = 0 then none else some (Py.sliceIdx n a b s) := by
  unfold sliceList
  by_cases h0 : s = 0
  · rw [if_pos h0, if_pos h0]
  · rw [if_neg h0, if_neg h0, Py.sliceIdx_eq, sliceBounds_eq n a b h0]
    by_cases h : 0 < s
    · rw [if_pos h, rangeUp_eq _ (Int.pos_iff_toNat_pos.1 h), Int.toNat_of_nonneg (Int.le_of_lt h)]
    · have h' : 0 < -s := Int.neg_pos_of_neg ((Int.lt_or_gt_of_ne h0).resolve_right h)
      rw [if_neg h, rangeDown_eq _ (Int.pos_iff_toNat_pos.1 h'), Int.toNat_of_nonneg (Int.le_of_lt h'), Int.neg_neg]

theorem maskList_eq (m : List Bool) (k : Nat) : maskList m k = Py.maskPositions k m := by
  induction m generalizing k with
  | nil => rfl
  | cons b m ih => cases b <;> simp only [maskList, Py.maskPositions, ih, ↓reduceIte, Bool.false_eq_true]

theorem normAll_eq (n : Nat) (l : List Int) : normAll n l = omap (Py.normIdx n) l := by
  induction l with
  | nil => rfl
  | cons i is ih => rw [normAll, omap, ih, norm_eq]; cases Py.normIdx n i <;> cases omap (Py.normIdx n) is <;> rfl

def Idx.toPy : Idx → Py.Idx
  | .int i => .int i
  | .slice a b s => .slice a b s
  | .mask m => .mask m
  | .ints l => .list l

theorem toList_eq (n : Nat) (ix : Idx) : ix.toList n = ix.toPy.resolve n := by
  cases ix with
  | int i => rfl
  | slice a b s => exact sliceList_eq n a b s
  | mask m => exact congrArg (fun x => if m.length = n then some x else none) (maskList_eq m 0)
  | ints l => exact normAll_eq n l

/-- on positions inside the list `gather` is `pick` -/
theorem pick_eq_some_gather {α} {l : List α} {ixs : List Nat} (h : ∀ i ∈ ixs, i < l.length) :
    Py.pick l ixs = some (gather l ixs) := by
  induction ixs with
  | nil => rfl
  | cons i is ih =>
    rw [List.forall_mem_cons] at h
    rw [gather, List.filterMap_cons, List.getElem?_eq_getElem h.1]
    exact omap_cons_some _ _ _ _ _ (List.getElem?_eq_getElem h.1) (ih h.2)

/-- whenever `pick` answers, `gather` gives the same list -/
theorem gather_of_pick {α} {l : List α} {ixs : List Nat} {r : List α} (h : Py.pick l ixs = some r) : gather l ixs = r := by
  have := congrArg (List.filterMap id) (omap_eq_some_iff.1 h)
  rw [List.filterMap_map, List.filterMap_map] at this
  exact this.trans List.filterMap_some

/-- `l[ix]` here is resolve-then-pick there -/
theorem pyIndex_eq {α} (l : List α) (ix : Idx) : pyIndex l ix = (ix.toPy.resolve l.length).bind (Py.pick l) := by
  rw [pyIndex, toList_eq]
  cases h : ix.toPy.resolve l.length with
  | none => rfl
  | some pos => exact (pick_eq_some_gather (Py.resolve_lt h)).symm

theorem pyIndex_slice {α} (l : List α) (a b : Option Int) {s : Int} (hs : s ≠ 0) :
    pyIndex l (.slice a b s) = Py.pick l (Py.sliceIdx l.length a b s) :=
  (pyIndex_eq l _).trans (congrArg (Option.bind · (Py.pick l)) (if_neg hs))

theorem pyIndex_mask {α} (l : List α) (m : List Bool) :
    pyIndex l (.mask m) = if m.length = l.length then Py.pick l (Py.maskPositions 0 m) else none :=
  (pyIndex_eq l _).trans (apply_ite (Option.bind · (Py.pick l)) ..)

theorem pyIndex_ints {α} (l : List α) (is : List Int) :
    pyIndex l (.ints is) = (omap (Py.normIdx l.length) is).bind (Py.pick l) :=
  pyIndex_eq l _

/-! ### the lemmas of `PyIdx` -/

theorem norm_lt {n : Nat} {i : Int} {k : Nat} (h : norm n i = some k) : k < n := Py.normIdx_lt h

/-- `Py.resolve_lt` read through `toList_eq` -/
theorem toList_lt (n : Nat) (ix : Idx) (ks : List Nat) (h : ix.toList n = some ks) : ∀ k ∈ ks, k < n :=
  Py.resolve_lt ((toList_eq n ix).symm.trans h)

@[simp] theorem gather_nil {α} (l : List α) : gather l [] = [] := rfl

theorem gather_cons {α} (l : List α) (i : Nat) (is : List Nat) :
    gather l (i :: is) = (match l[i]? with | some x => x :: gather l is | none => gather l is) := by
  unfold gather
  simp only [List.filterMap_cons]
  cases l[i]? <;> rfl

theorem gather_map {α β} (f : α → β) (l : List α) (ixs : List Nat) :
    gather (l.map f) ixs = (gather l ixs).map f := by
  simp only [gather, List.map_filterMap, List.getElem?_map]

theorem gather_zipWith {α β γ} (f : α → β → γ) (a : List α) (b : List β) (hl : a.length = b.length)
    (ixs : List Nat) : gather (List.zipWith f a b) ixs = List.zipWith f (gather a ixs) (gather b ixs) := by
  induction ixs with
  | nil => rfl
  | cons i is ih =>
    rw [gather_cons, gather_cons, gather_cons, ih]
    by_cases hi : i < a.length
    · have hb : i < b.length := by omega
      simp [List.getElem?_zipWith, List.getElem?_eq_getElem hi, List.getElem?_eq_getElem hb]
    · have hb : ¬ i < b.length := by omega
      simp [List.getElem?_zipWith, List.getElem?_eq_none (Nat.le_of_not_lt hi), List.getElem?_eq_none (Nat.le_of_not_lt hb)]

theorem gather_length {α} (l : List α) (ixs : List Nat) (h : ∀ k ∈ ixs, k < l.length) :
    (gather l ixs).length = ixs.length :=
  omap_length _ _ _ (pick_eq_some_gather h)

theorem gather_getElem? {α} (l : List α) : ∀ (ixs : List Nat), (∀ i ∈ ixs, i < l.length) → ∀ k : Nat,
    (gather l ixs)[k]? = (ixs[k]?).bind (fun i => l[i]?) :=
  fun _ h k => omap_getElem? _ _ _ (pick_eq_some_gather h) k

theorem gather_range {α} (l : List α) : gather l (List.range l.length) = l :=
  gather_of_pick (Py.pick_range l)

theorem gather_gather {α} (l : List α) (a b : List Nat) (ha : ∀ k ∈ a, k < l.length) :
    gather (gather l a) b = gather l (gather a b) := by
  induction b with
  | nil => rfl
  | cons i is ih =>
    rw [gather_cons, gather_cons (l := a), gather_getElem? l a ha i, ih]
    cases hai : a[i]? with
    | none => rfl
    | some k => rw [gather_cons]; rfl

theorem mem_gather {α} (l : List α) (ixs : List Nat) (x : α) (h : x ∈ gather l ixs) : x ∈ l := by
  unfold gather at h
  simp only [List.mem_filterMap] at h
  obtain ⟨i, _, hi⟩ := h
  exact List.mem_of_getElem? hi

theorem mem_pyIndex {α} (l r : List α) (ix : Idx) (h : pyIndex l ix = some r) : ∀ x ∈ r, x ∈ l := by
  obtain ⟨ixs, -, rfl⟩ := Option.map_eq_some_iff.mp h
  exact mem_gather l ixs

theorem pyIndex_map {α β} (f : α → β) (l : List α) (ix : Idx) : pyIndex (l.map f) ix = (pyIndex l ix).map (·.map f) := by
  unfold pyIndex
  rw [List.length_map]
  cases ix.toList l.length with
  | none => rfl
  | some ixs => simp [gather_map]

end PyIdx
