/-! NumPy / Python first-axis index semantics as total functions to index lists
(specified external: NumPy `a[idx]` for idx an int, a slice, a boolean mask, a list of ints).
Import-free; the lemmas are in `Base/PyLaws.lean`. -/
namespace PyIdx

/-- normalise a Python index against length `n` (`none` = IndexError) -/
def norm (n : Nat) (i : Int) : Option Nat :=
  if 0 ≤ i then (if i.toNat < n then some i.toNat else none)
  else (if (-i).toNat ≤ n then some (n - (-i).toNat) else none)

inductive Idx where
  | int (i : Int)
  | slice (a b : Option Int) (s : Int)
  | mask (m : List Bool)
  | ints (l : List Int)
  deriving Repr, DecidableEq

def clamp (lo hi x : Int) : Int := if x < lo then lo else if hi < x then hi else x

/-- `slice(a,b,s).indices(n)`: start -/
def sliceStart (n : Nat) (a : Option Int) (s : Int) : Int :=
  match a with
  | none => if 0 < s then 0 else (n : Int) - 1
  | some a =>
    let a' := if a < 0 then a + n else a
    if 0 < s then clamp 0 n a' else clamp (-1) ((n : Int) - 1) a'

/-- `slice(a,b,s).indices(n)`: stop -/
def sliceStop (n : Nat) (b : Option Int) (s : Int) : Int :=
  match b with
  | none => if 0 < s then n else -1
  | some b =>
    let b' := if b < 0 then b + n else b
    if 0 < s then clamp 0 n b' else clamp (-1) ((n : Int) - 1) b'

/-- `range(cur, stop, s)` for `s > 0`, fuel-indexed -/
def rangeUp (stop : Int) (s : Nat) : Nat → Int → List Nat
  | 0, _ => []
  | f + 1, cur => if cur < stop then cur.toNat :: rangeUp stop s f (cur + s) else []

/-- `range(cur, stop, -s)` for `s > 0`, fuel-indexed -/
def rangeDown (stop : Int) (s : Nat) : Nat → Int → List Nat
  | 0, _ => []
  | f + 1, cur => if stop < cur then cur.toNat :: rangeDown stop s f (cur - s) else []

/-- the positions a slice selects from an axis of length `n` (step 0 = ValueError = `none`) -/
def sliceList (n : Nat) (a b : Option Int) (s : Int) : Option (List Nat) :=
  if s = 0 then none
  else if 0 < s then some (rangeUp (sliceStop n b s) s.toNat (n + 1) (sliceStart n a s))
  else some (rangeDown (sliceStop n b s) (-s).toNat (n + 1) (sliceStart n a s))

def maskList : List Bool → Nat → List Nat
  | [], _ => []
  | true :: m, k => k :: maskList m (k + 1)
  | false :: m, k => maskList m (k + 1)

def normAll (n : Nat) : List Int → Option (List Nat)
  | [] => some []
  | i :: is =>
    match norm n i, normAll n is with
    | some k, some ks => some (k :: ks)
    | _, _ => none

/-- positions selected along an axis of length `n`; `none` = IndexError/ValueError -/
def Idx.toList (n : Nat) : Idx → Option (List Nat)
  | .int i => (norm n i).map (fun k => [k])
  | .slice a b s => sliceList n a b s
  | .mask m => if m.length = n then some (maskList m 0) else none
  | .ints l => normAll n l

/-- take the listed positions (positions out of range are dropped: never happens for `toList`) -/
def gather {α} (l : List α) (ixs : List Nat) : List α := ixs.filterMap (fun i => l[i]?)

/-- NumPy-style indexing of a Python list (the specification side) -/
def pyIndex {α} (l : List α) (ix : Idx) : Option (List α) := (ix.toList l.length).map (gather l)

end PyIdx
