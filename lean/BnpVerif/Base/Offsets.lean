/-! Chromosomes laid end to end (`np.insert(np.cumsum(sizes), 0, 0)`): chromosome `i` begins at `(sizes.take i).sum` and
has `sizes.getD i 0` bases. The lemmas about these two expressions do not ask that `i` be a chromosome: beyond the last
one the size is 0 and the start is the genome size (only the table look-up `getD_of_scan` needs `i ≤ length`). Import-free. -/
namespace Base.Offsets

theorem succ (sizes : List Nat) (i : Nat) : (sizes.take (i + 1)).sum = (sizes.take i).sum + sizes.getD i 0 := by
  rw [List.take_add_one, List.sum_append, List.getD_eq_getElem?_getD]
  cases sizes[i]? <;> simp

theorem mono (sizes : List Nat) {i j : Nat} (h : i ≤ j) : (sizes.take i).sum ≤ (sizes.take j).sum := by
  obtain ⟨k, rfl⟩ := Nat.exists_eq_add_of_le h
  simp [List.take_add]

/-- chromosome `i` ends where a later one begins, or before -/
theorem next_le (sizes : List Nat) {i j : Nat} (h : i < j) : (sizes.take i).sum + sizes.getD i 0 ≤ (sizes.take j).sum :=
  succ sizes i ▸ mono sizes h

theorem next_le_total (sizes : List Nat) (i : Nat) : (sizes.take i).sum + sizes.getD i 0 ≤ sizes.sum := by
  have := next_le sizes (Nat.lt_succ_of_le (Nat.le_add_right i sizes.length))
  rwa [List.take_of_length_le (Nat.le_succ_of_le (Nat.le_add_left ..))] at this

/-- a global position inside chromosome `c₂` lies in no earlier chromosome's stretch or before it -/
theorem chrom_le (sizes : List Nat) {c₁ c₂ p₁ p₂ : Nat} (hp : p₂ < sizes.getD c₂ 0)
    (h : (sizes.take c₁).sum + p₁ ≤ (sizes.take c₂).sum + p₂) : c₁ ≤ c₂ :=
  Nat.le_of_not_lt fun hlt => Nat.lt_irrefl _ <|
    Nat.lt_of_le_of_lt (Nat.le_trans (Nat.le_add_right ..) h) <|
      Nat.lt_of_lt_of_le (Nat.add_lt_add_left hp _) (next_le sizes hlt)

/-- **a global base belongs to one chromosome**: the shifted interval `[s, e)` of chromosome `c'` contains the shifted base
`p` of chromosome `c` exactly when `c' = c` and `[s, e)` contains `p` -/
theorem covers_iff (sizes : List Nat) {c' s e c p : Nat} (he : e ≤ sizes.getD c' 0) (hp : p < sizes.getD c 0) :
    ((sizes.take c').sum + s ≤ (sizes.take c).sum + p ∧ (sizes.take c).sum + p < (sizes.take c').sum + e) ↔
      (c' = c ∧ s ≤ p ∧ p < e) := by
  rcases Nat.lt_trichotomy c' c with h | rfl | h
  · exact iff_of_false (fun ⟨_, hb⟩ => Nat.lt_irrefl _ <| Nat.lt_of_lt_of_le hb <|
      Nat.le_trans (Nat.add_le_add_left he _) <| Nat.le_trans (next_le sizes h) (Nat.le_add_right ..))
      fun h' => Nat.ne_of_lt h h'.1
  · simp only [Nat.add_le_add_iff_left, Nat.add_lt_add_iff_left, true_and]
  · exact iff_of_false (fun ⟨ha, _⟩ => Nat.not_lt.mpr (chrom_le sizes hp ha) h) fun h' => Nat.ne_of_gt h h'.1

/-- cutting `[a, a + k)` out of a dense array given base by base (one chromosome out of the genome-wide array) -/
theorem drop_take_map_range {β} (f : Nat → β) (n a k : Nat) (h : a + k ≤ n) :
    (((List.range n).map f).drop a).take k = (List.range k).map (fun p => f (a + p)) := by
  rw [← List.map_drop, ← List.map_take, List.range_eq_range', List.drop_range', List.take_range'_of_length_ge (by omega),
    List.range'_eq_map_range, List.map_map]
  apply List.map_congr_left
  intro p _
  simp

/-- the table of starts as a scan (`[a, a + x₀, a + x₀ + x₁, …]`): entry `i` is the start of chromosome `i` -/
theorem getD_of_scan (F : Nat → List Nat → List Nat) (hnil : ∀ a, F a [] = [a])
    (hcons : ∀ a x xs, F a (x :: xs) = a :: F (a + x) xs) (a : Nat) (l : List Nat) (i : Nat) (hi : i ≤ l.length) :
    (F a l).getD i 0 = a + (l.take i).sum := by
  induction l generalizing a i with
  | nil => rw [Nat.le_zero.mp hi, hnil]; rfl
  | cons x xs ih =>
    cases i with
    | zero => rw [hcons]; rfl
    | succ j =>
      rw [hcons, List.getD_cons_succ, ih (a + x) j (Nat.le_of_succ_le_succ hi), List.take_succ_cons, List.sum_cons,
        Nat.add_assoc]

end Base.Offsets
