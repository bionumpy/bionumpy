/-! Splitting a list at its separators and joining the pieces again (`str.split(sep)` / `sep.join`), once for
every model that defines its own splitter. Import-free. -/
namespace Base

/-- the piece before the first element that satisfies `P`, and the pieces after it -/
def cut {α} (P : α → Prop) [DecidablePred P] : List α → List α × List (List α)
  | [] => ([], [])
  | x :: xs => if P x then ([], (cut P xs).1 :: (cut P xs).2) else (x :: (cut P xs).1, (cut P xs).2)

/-- the pieces of `s` between the elements that satisfy `P`: one more piece than separators -/
def segments {α} (P : α → Prop) [DecidablePred P] (s : List α) : List (List α) := (cut P s).1 :: (cut P s).2

section
variable {α} {P : α → Prop} [DecidablePred P]

theorem segments_cons_pos {x : α} (h : P x) (xs : List α) : segments P (x :: xs) = [] :: segments P xs := by
  rw [segments, cut, if_pos h]; rfl

theorem segments_cons_neg {x : α} (h : ¬ P x) (xs : List α) :
    segments P (x :: xs) = (x :: (cut P xs).1) :: (cut P xs).2 := by
  rw [segments, cut, if_neg h]

/-- a separator-free stretch is one piece -/
theorem segments_of_free (s : List α) (h : ∀ x ∈ s, ¬ P x) : segments P s = [s] := by
  induction s with
  | nil => rfl
  | cons x xs ih =>
    rw [List.forall_mem_cons] at h
    rw [segments_cons_neg h.1]
    -- `segments P xs` is a cons by definition, so `head!` and `tail` of it compute: this is `ih` with `x` put in front
    exact congrArg (fun ps => (x :: ps.head!) :: ps.tail) (ih h.2)

/-- a separator closes the open piece: the pieces on its two sides are found independently -/
theorem segments_append {x : α} (hx : P x) (a b : List α) :
    segments P (a ++ x :: b) = segments P a ++ segments P b := by
  induction a with
  | nil => exact segments_cons_pos hx b
  | cons y ys ih =>
    by_cases hy : P y
    · rw [List.cons_append, segments_cons_pos hy, segments_cons_pos hy, ih]; rfl
    · rw [List.cons_append, segments_cons_neg hy, segments_cons_neg hy]
      exact congrArg (fun ps => (y :: ps.head!) :: ps.tail) ih

theorem segments_congr {Q : α → Prop} [DecidablePred Q] (s : List α) (h : ∀ x ∈ s, P x ↔ Q x) :
    segments P s = segments Q s := by
  induction s with
  | nil => rfl
  | cons y ys ih =>
    rw [List.forall_mem_cons] at h
    by_cases hy : P y
    · rw [segments_cons_pos hy, segments_cons_pos (h.1.mp hy), ih h.2]
    · rw [segments_cons_neg hy, segments_cons_neg (mt h.1.mpr hy)]
      exact congrArg (fun ps => (y :: ps.head!) :: ps.tail) (ih h.2)

/-- a separator-free stretch before a separator is the first piece -/
theorem segments_append_sep (s : List α) {d : α} (t : List α) (h : ∀ x ∈ s, ¬ P x) (hd : P d) :
    segments P (s ++ d :: t) = s :: segments P t := by
  rw [segments_append hd, segments_of_free s h]; rfl

theorem segments_free (s : List α) : ∀ q ∈ segments P s, ∀ x ∈ q, ¬ P x := by
  induction s with
  | nil => intro q hq; rw [List.eq_of_mem_singleton hq]; exact nofun
  | cons y ys ih =>
    by_cases hy : P y
    · rw [segments_cons_pos hy]
      exact List.forall_mem_cons.mpr ⟨nofun, ih⟩
    · rw [segments, List.forall_mem_cons] at ih
      rw [segments_cons_neg hy]
      exact List.forall_mem_cons.mpr ⟨List.forall_mem_cons.mpr ⟨hy, ih.1⟩, ih.2⟩

theorem flatten_segments (s : List α) : (segments P s).flatten = s.filter (fun x => !decide (P x)) := by
  induction s with
  | nil => rfl
  | cons y ys ih =>
    by_cases hy : P y
    · rw [segments_cons_pos hy, List.flatten_cons, List.nil_append, ih, List.filter_cons_of_neg (by simpa using hy)]
    · rw [segments_cons_neg hy, List.filter_cons_of_pos (by simpa using hy), ← ih]; rfl

theorem length_segments (s : List α) : (segments P s).length = s.countP (fun x => decide (P x)) + 1 := by
  induction s with
  | nil => rfl
  | cons y ys ih =>
    by_cases hy : P y
    · rw [segments_cons_pos hy, List.length_cons, ih, List.countP_cons_of_pos (by simpa using hy)]
    · rw [segments_cons_neg hy, List.countP_cons_of_neg (by simpa using hy), ← ih]; rfl

/-- splitting what was joined: the rows come back when none of them holds a separator -/
theorem segments_intercalate {d : α} (hd : P d) (rows : List (List α)) (hne : rows ≠ [])
    (h : ∀ r ∈ rows, ∀ x ∈ r, ¬ P x) : segments P (List.intercalate [d] rows) = rows := by
  induction rows with
  | nil => exact absurd rfl hne
  | cons r rs ih =>
    rw [List.forall_mem_cons] at h
    cases rs with
    | nil => rw [List.intercalate_singleton, segments_of_free r h.1]
    | cons r' rs =>
      rw [List.intercalate_cons_cons, List.append_assoc, List.singleton_append, segments_append_sep r _ h.1 hd,
        ih (List.cons_ne_nil _ _) h.2]

/-- rows each closed by a separator come back one by one; what follows is split on its own -/
theorem segments_terminated {d : α} (hd : P d) (rows : List (List α)) (t : List α)
    (h : ∀ r ∈ rows, ∀ x ∈ r, ¬ P x) : segments P ((rows.map (· ++ [d])).flatten ++ t) = rows ++ segments P t := by
  induction rows with
  | nil => rfl
  | cons r rs ih =>
    rw [List.forall_mem_cons] at h
    rw [List.map_cons, List.flatten_cons, List.append_assoc, List.append_assoc, List.singleton_append,
      segments_append_sep r _ h.1 hd, ih h.2, List.cons_append]

/-- a splitter that keeps the open piece reversed in an accumulator computes `segments` -/
theorem segments_of_acc (F : List α → List α → List (List α))
    (hnil : ∀ cur, F cur [] = [cur.reverse])
    (hcons : ∀ cur x xs, F cur (x :: xs) = if P x then cur.reverse :: F [] xs else F (x :: cur) xs)
    (cur s : List α) : F cur s = (cur.reverse ++ (cut P s).1) :: (cut P s).2 := by
  induction s generalizing cur with
  | nil => rw [hnil]; exact congrArg (fun a => [a]) (List.append_nil _).symm
  | cons x xs ih =>
    rw [hcons, cut]
    split
    · rw [ih, List.append_nil]; rfl
    · rw [ih, List.reverse_cons, List.append_assoc]; rfl

end

/-- every row followed by the separator, the last one taken off again: the rows joined -/
theorem dropLast_terminated {α} (d : α) (rows : List (List α)) :
    ((rows.map (· ++ [d])).flatten).dropLast = List.intercalate [d] rows := by
  induction rows with
  | nil => rfl
  | cons r rs ih =>
    cases rs with
    | nil => simp
    | cons r' rs =>
      rw [List.intercalate_cons_cons, ← ih, List.map_cons, List.flatten_cons, List.dropLast_append_of_ne_nil (by simp)]

/-- joining what was split, for EVERY list: no hypothesis -/
theorem intercalate_segments {α} [DecidableEq α] (d : α) (s : List α) :
    List.intercalate [d] (segments (· = d) s) = s := by
  induction s with
  | nil => rfl
  | cons y ys ih =>
    by_cases hy : y = d
    · rw [segments_cons_pos (P := (· = d)) hy, segments, List.intercalate_cons_cons, ← segments, ih, hy]; rfl
    · rw [segments_cons_neg (P := (· = d)) hy]
      refine Eq.trans ?_ (congrArg (y :: ·) ih)
      rw [segments]
      cases (cut (· = d) ys).2 with
      | nil => rfl
      | cons q qs => rw [List.intercalate_cons_cons, List.intercalate_cons_cons]; rfl

end Base
