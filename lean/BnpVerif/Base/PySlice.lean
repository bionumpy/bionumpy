import BnpVerif.Base.Opt
/-! Python / NumPy index semantics as total functions from a length to a list of positions. -/
namespace Py
open Base

/-- one index: `i` in `[-len, len)` -/
def normIdx (len : Nat) (i : Int) : Option Nat :=
  if 0 ≤ i then (if i.toNat < len then some i.toNat else none)
  else (if (-i).toNat ≤ len then some (len - (-i).toNat) else none)

/-- `range(start, stop, step)` for `step ≠ 0`, as naturals; the last argument is fuel -/
def rangeI (start stop step : Int) : Nat → List Nat
  | 0 => []
  | fuel+1 =>
    if (0 < step ∧ start < stop) ∨ (step < 0 ∧ start > stop) then
      start.toNat :: rangeI (start + step) stop step fuel
    else []

/-- CPython `PySlice_AdjustIndices`: clamp optional start/stop against `len` for the sign of `step` -/
def sliceBounds (len : Nat) (start stop : Option Int) (step : Int) : Int × Int :=
  let n : Int := len
  let lower : Int := if step < 0 then -1 else 0
  let upper : Int := if step < 0 then n - 1 else n
  let adj (v : Int) : Int :=
    let v := if v < 0 then v + n else v
    if v < lower then lower else if v > upper then upper else v
  let s := match start with
    | none => if step < 0 then upper else lower
    | some v => adj v
  let e := match stop with
    | none => if step < 0 then lower else upper
    | some v => adj v
  (s, e)

/-- positions selected by `a:b:step` (`step ≠ 0`); the fuel `len + 1` is one more than a slice can use -/
def sliceIdx (len : Nat) (start stop : Option Int) (step : Int) : List Nat :=
  let (s, e) := sliceBounds len start stop step
  rangeI s e step (len + 1)

inductive Idx
  | int (i : Int)
  | slice (a b : Option Int) (s : Int)
  | mask (m : List Bool)
  | list (is : List Int)
deriving Repr

def maskPositions : Nat → List Bool → List Nat
  | _, [] => []
  | i, b :: bs => if b then i :: maskPositions (i + 1) bs else maskPositions (i + 1) bs

/-- the selected positions, in order; `none` = the index raises -/
def Idx.resolve (len : Nat) : Idx → Option (List Nat)
  | .int i => (normIdx len i).map (fun p => [p])
  | .slice a b s => if s = 0 then none else some (sliceIdx len a b s)
  | .mask m => if m.length = len then some (maskPositions 0 m) else none
  | .list is => omap (normIdx len) is

/-- gather the elements at the given positions (`none` if one is out of range) -/
def pick {α} (l : List α) (pos : List Nat) : Option (List α) := omap (fun p => l[p]?) pos

theorem pick_map {α β} (f : α → β) (l : List α) (pos : List Nat) :
    pick (l.map f) pos = (pick l pos).map (List.map f) := by
  simp only [pick, List.getElem?_map, omap_map_result]

end Py
