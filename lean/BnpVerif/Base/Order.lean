/-! Order facts the sorting proofs share. A comparison `le : α → α → Bool` handed to a sort (`C08.isort`, `List.mergeSort`)
has to be total and transitive (`TotalTrans`): comparing a key is, and so is a numeric key followed by a further
comparison (the `np.lexsort` orders). Import-free. -/
namespace Base

/-- what a sort needs of its comparison to return a sorted list -/
def TotalTrans {α : Type} (le : α → α → Bool) : Prop :=
  (∀ a b, le a b = true ∨ le b a = true) ∧ ∀ a b c, le a b = true → le b c = true → le a c = true

theorem TotalTrans.key {α κ : Type} [LE κ] [DecidableLE κ] [Std.IsLinearPreorder κ] (k : α → κ) :
    TotalTrans (fun a b => decide (k a ≤ k b)) :=
  ⟨fun a b => (Std.le_total (a := k a) (b := k b)).imp decide_eq_true decide_eq_true,
    fun _ _ _ h1 h2 => decide_eq_true (Std.le_trans (of_decide_eq_true h1) (of_decide_eq_true h2))⟩

theorem TotalTrans.lex {α : Type} (k : α → Nat) {le : α → α → Bool} (h : TotalTrans le) :
    TotalTrans (fun a b => decide (k a < k b) || (k a == k b && le a b)) := by
  refine ⟨fun a b => ?_, fun a b c => ?_⟩ <;> simp only [Bool.or_eq_true, Bool.and_eq_true, decide_eq_true_eq, beq_iff_eq]
  · rcases Nat.lt_trichotomy (k a) (k b) with hk | hk | hk
    · exact .inl (.inl hk)
    · exact (h.1 a b).imp (fun hl => .inr ⟨hk, hl⟩) (fun hl => .inr ⟨hk.symm, hl⟩)
    · exact .inr (.inl hk)
  · rintro (h1 | ⟨h1, l1⟩) (h2 | ⟨h2, l2⟩)
    · exact .inl (Nat.lt_trans h1 h2)
    · exact .inl (h2 ▸ h1)
    · exact .inl (h1 ▸ h2)
    · exact .inr ⟨h1.trans h2, h.2 a b c l1 l2⟩

/-- totality in the form `List.pairwise_mergeSort` asks for -/
theorem TotalTrans.or {α : Type} {le : α → α → Bool} (h : TotalTrans le) (a b : α) : (le a b || le b a) = true :=
  Bool.or_eq_true .. ▸ h.1 a b

/-- for a transitive relation, neighbours in order means all pairs in order -/
theorem pairwise_cons_cons {α : Type} {R : α → α → Prop} (ht : ∀ a b c, R a b → R b c → R a c) {a b : α} {l : List α} :
    (a :: b :: l).Pairwise R ↔ R a b ∧ (b :: l).Pairwise R := by
  rw [List.pairwise_cons (a := a)]
  exact ⟨fun h => ⟨h.1 b (.head _), h.2⟩, fun h => ⟨fun x hx => by
    rcases List.mem_cons.1 hx with rfl | hx
    · exact h.1
    · exact ht _ _ _ h.1 ((List.pairwise_cons.1 h.2).1 x hx), h.2⟩⟩

end Base
