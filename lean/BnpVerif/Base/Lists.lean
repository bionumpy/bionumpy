/-! General facts about lists that several property files need and core does not have. Import-free. -/
namespace Base

theorem getD_mem {α} (l : List α) (i : Nat) (d : α) (h : i < l.length) : l.getD i d ∈ l := by
  rw [List.getD_eq_getElem?_getD, List.getElem?_eq_getElem h]; exact List.getElem_mem h

theorem getD_map {α β} (f : α → β) (l : List α) (i : Nat) (d : α) : (l.map f).getD i (f d) = f (l.getD i d) := by
  rw [List.getD_eq_getElem?_getD, List.getD_eq_getElem?_getD, List.getElem?_map]; cases l[i]? <;> rfl

theorem getD_map_of_lt {α β} (f : α → β) (l : List α) (i : Nat) (h : i < l.length) (d : α) (d' : β) :
    (l.map f).getD i d' = f (l.getD i d) := by
  simp only [List.getD_eq_getElem?_getD, List.getElem?_map, List.getElem?_eq_getElem h, Option.map_some, Option.getD_some]

theorem map_range_getD {α} (l : List α) (d : α) : (List.range l.length).map (l.getD · d) = l := by
  refine List.ext_getElem (by rw [List.length_map, List.length_range]) fun i h _ => ?_
  rw [List.getElem_map, List.getElem_range, List.getD_eq_getElem?_getD, List.getElem?_eq_getElem, Option.getD_some]

theorem length_flatten_const {α} (n : Nat) (rows : List (List α)) (h : ∀ r ∈ rows, r.length = n) :
    rows.flatten.length = rows.length * n := by
  induction rows with
  | nil => exact (Nat.zero_mul n).symm
  | cons r rs ih =>
    rw [List.flatten_cons, List.length_append, ih (fun r' hr' => h r' (List.mem_cons_of_mem _ hr')),
      h r List.mem_cons_self, List.length_cons, Nat.succ_mul, Nat.add_comm]

/-- a window that lies inside the first part does not see what is appended -/
theorem take_drop_append {α} (X Y : List α) (p n : Nat) (h : p + n ≤ X.length) :
    ((X ++ Y).drop p).take n = (X.drop p).take n := by
  rw [List.drop_append_of_le_length (Nat.le_trans (Nat.le_add_right p n) h),
    List.take_append_of_le_length (by rw [List.length_drop]; exact Nat.le_sub_of_add_le' h)]

theorem modify_append_left {α} {x : List α} {b : Nat} (hb : b < x.length) (y : List α) (f : α → α) :
    (x ++ y).modify b f = x.modify b f ++ y := by
  induction x generalizing b with
  | nil => cases hb
  | cons c x ih =>
    cases b with
    | zero => rfl
    | succ b => exact congrArg (c :: ·) (ih (Nat.lt_of_succ_lt_succ hb))

/-- `List.modify l i f` is `l.modifyTailIdx i (modifyHead f)` by definition -/
theorem modify_append_right {α} (x y : List α) (k : Nat) (f : α → α) :
    (x ++ y).modify (x.length + k) f = x ++ y.modify k f :=
  List.modifyTailIdx_add ..

theorem set_replicate {α} (z x : α) (j k : Nat) :
    (List.replicate (j + 1 + k) z).set j x = List.replicate j z ++ x :: List.replicate k z := by
  rw [Nat.add_assoc, ← List.replicate_append_replicate, List.set_append_right _ _ (Nat.le_of_eq List.length_replicate),
    List.length_replicate, Nat.sub_self, Nat.add_comm 1 k, List.replicate_succ, List.set_cons_zero]

/-- induction along `drop n`: the way a list is consumed in chunks or lines of `n` -/
theorem drop_induction {α} {motive : List α → Prop} (n : Nat) (hn : 0 < n) (nil : motive [])
    (step : ∀ xs, xs ≠ [] → motive (xs.drop n) → motive xs) : ∀ xs, motive xs := by
  intro xs
  induction h : xs.length using Nat.strongRecOn generalizing xs with
  | _ m ih =>
    by_cases hx : xs = []
    · exact hx ▸ nil
    · have := List.length_pos_iff.mpr hx
      exact step xs hx (ih _ (List.length_drop ▸ h ▸ Nat.sub_lt this hn) _ rfl)

theorem zipWith_map_map {ρ β γ δ} (f : β → γ → δ) (g : ρ → β) (h : ρ → γ) (l : List ρ) :
    List.zipWith f (l.map g) (l.map h) = l.map (fun x => f (g x) (h x)) := by
  rw [List.zipWith_map, List.zipWith_self]

theorem map_range'_const {β : Type} (f : Nat → β) (v : β) (a n : Nat) (h : ∀ p, a ≤ p → p < a + n → f p = v) :
    (List.range' a n).map f = List.replicate n v := by
  -- `List.map_const'` gives `replicate l.length v`
  rw [← List.length_range' (s := a) (n := n) (step := 1), ← List.map_const', List.length_range']
  exact List.map_congr_left fun p hp => h p (List.mem_range'_1.1 hp).1 (List.mem_range'_1.1 hp).2

theorem range'_split {c s n : Nat} (h1 : c ≤ s) (h2 : s ≤ n) :
    List.range' c (n - c) = List.range' c (s - c) ++ List.range' s (n - s) := by
  rw [← Nat.sub_add_sub_cancel h2 h1, Nat.add_comm, ← List.range'_append_1, Nat.add_sub_of_le h1]

theorem map_range'_prefix {β : Type} (f : Nat → β) (v : β) {c s n : Nat} (hcs : c ≤ s) (hsn : s ≤ n)
    (h : ∀ p, c ≤ p → p < s → f p = v) :
    (List.range' c (n - c)).map f = List.replicate (s - c) v ++ (List.range' s (n - s)).map f := by
  rw [range'_split hcs hsn, List.map_append, map_range'_const f v c (s - c) fun p h1 h2 => h p h1 (Nat.add_sub_of_le hcs ▸ h2)]

end Base
