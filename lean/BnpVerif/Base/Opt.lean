/-! Option-valued map over lists with an induction-friendly definition (the element-wise
meaning of a NumPy lookup that may raise), and its lemmas; also two facts about plain lists that they need, `map_eq_map_of_pairwise` and `findIdx_congr`. Import-free. -/
namespace Base

/-- apply `f` to every element; `none` if some element is rejected -/
def omap {α β} (f : α → Option β) : List α → Option (List β)
  | [] => some []
  | a :: as =>
    match f a, omap f as with
    | some b, some bs => some (b :: bs)
    | _, _ => none

/-! ### equations -/

@[simp] theorem omap_nil {α β} (f : α → Option β) : omap f [] = some [] := rfl

theorem omap_cons {α β} (f : α → Option β) (a : α) (as : List α) :
    omap f (a :: as) = (f a).bind fun b => (omap f as).map (b :: ·) := by
  rw [omap]; cases f a <;> cases omap f as <;> rfl

theorem omap_cons_some {α β} (f : α → Option β) (a : α) (as : List α) (b : β) (bs : List β)
    (ha : f a = some b) (has : omap f as = some bs) : omap f (a :: as) = some (b :: bs) := by
  rw [omap, ha, has]

theorem omap_cons_eq_some {α β} (f : α → Option β) (a : α) (as : List α) (r : List β)
    (h : omap f (a :: as) = some r) : ∃ b bs, f a = some b ∧ omap f as = some bs ∧ r = b :: bs := by
  rw [omap] at h
  split at h
  · next b bs hb hbs => exact ⟨b, bs, hb, hbs, (Option.some.inj h).symm⟩
  · cases h

/-! ### when it answers -/

theorem omap_eq_some_iff {α β} {f : α → Option β} {l : List α} {r : List β} :
    omap f l = some r ↔ l.map f = r.map some := by
  induction l generalizing r with
  | nil => cases r <;> simp
  | cons x xs ih =>
    cases r with
    | nil => rw [omap_cons]; cases f x <;> cases omap f xs <;> simp
    | cons b bs =>
      rw [omap_cons, List.map_cons, List.map_cons, List.cons.injEq, ← ih]
      cases f x <;> cases omap f xs <;> simp

theorem omap_eq_none_iff {α β} {f : α → Option β} {l : List α} : omap f l = none ↔ ∃ a ∈ l, f a = none := by
  induction l with
  | nil => simp
  | cons x xs ih =>
    simp only [omap_cons, List.mem_cons, exists_eq_or_imp, ← ih]
    cases f x <;> cases omap f xs <;> simp

theorem omap_isSome_iff {α β} (f : α → Option β) (l : List α) :
    (omap f l).isSome ↔ ∀ a ∈ l, (f a).isSome := by
  simp only [← Option.ne_none_iff_isSome, ne_eq, omap_eq_none_iff, not_exists, not_and]

theorem omap_mem_some {α β} {f : α → Option β} {l : List α} {r : List β} (h : omap f l = some r) {a : α}
    (ha : a ∈ l) : ∃ b, f a = some b :=
  Option.isSome_iff_exists.mp ((omap_isSome_iff f l).mp (h ▸ rfl) a ha)

theorem omap_mem {α β} (f : α → Option β) (l : List α) (r : List β) (h : omap f l = some r) :
    ∀ b ∈ r, ∃ a ∈ l, f a = some b := by
  intro b hb
  have : some b ∈ l.map f := omap_eq_some_iff.mp h ▸ List.mem_map_of_mem hb
  simpa using this

theorem omap_length {α β} (f : α → Option β) (l : List α) (r : List β) (h : omap f l = some r) :
    r.length = l.length := by
  simpa using congrArg List.length (omap_eq_some_iff.mp h).symm

theorem omap_getElem? {α β} (f : α → Option β) (l : List α) (r : List β) (h : omap f l = some r) (k : Nat) :
    r[k]? = l[k]?.bind f := by
  induction l generalizing r k with
  | nil => cases h; rfl
  | cons a as ih =>
    obtain ⟨b, bs, hb, hbs, rfl⟩ := omap_cons_eq_some f a as r h
    cases k with
    | zero => exact hb.symm
    | succ k => exact ih bs hbs k

/-- `hd`: the index lies inside, or the two defaults correspond (then the equation holds beyond the end as well) -/
theorem omap_getD {α β} (f : α → Option β) (l : List α) (r : List β) (h : omap f l = some r) (i : Nat) (da : α) (db : β)
    (hd : i < l.length ∨ f da = some db) : f (l.getD i da) = some (r.getD i db) := by
  induction l generalizing r i with
  | nil => cases h; exact hd.resolve_left (Nat.not_lt_zero i)
  | cons x xs ih =>
    obtain ⟨b, bs, hb, hbs, rfl⟩ := omap_cons_eq_some f x xs r h
    cases i with
    | zero => exact hb
    | succ i => exact ih bs hbs i (hd.imp_left Nat.lt_of_succ_lt_succ)

/-! ### changing the function -/

theorem omap_congr {α β} (f g : α → Option β) (l : List α)
    (h : ∀ a ∈ l, f a = g a) : omap f l = omap g l := by
  induction l with
  | nil => rfl
  | cons x xs ih =>
    rw [List.forall_mem_cons] at h
    rw [omap, omap, h.1, ih h.2]

theorem omap_some_map {α β} (f : α → Option β) (g : α → β) (l : List α)
    (h : ∀ a ∈ l, f a = some (g a)) : omap f l = some (l.map g) :=
  omap_eq_some_iff.mpr ((List.map_congr_left h).trans (List.map_map ..).symm)

theorem omap_eq_self {α} (f : α → Option α) (l : List α) (h : ∀ a ∈ l, f a = some a) : omap f l = some l :=
  (omap_some_map f id l h).trans (congrArg some l.map_id)

theorem omap_some_exists {α β} [Inhabited β] {f : α → Option β} {l : List α} {r : List β} (h : omap f l = some r) :
    ∃ g : α → β, r = l.map g ∧ ∀ a ∈ l, f a = some (g a) := by
  have hg : ∀ a ∈ l, f a = some ((f a).getD default) := fun a ha => by
    obtain ⟨b, hb⟩ := omap_mem_some h ha
    rw [hb]; rfl
  exact ⟨_, Option.some.inj (h.symm.trans (omap_some_map f _ l hg)), hg⟩

theorem omap_map {α β γ} (g : β → Option γ) (h : α → β) (l : List α) :
    omap g (l.map h) = omap (fun a => g (h a)) l := by
  induction l with
  | nil => rfl
  | cons x xs ih => rw [List.map_cons, omap, omap, ih]

theorem omap_map_result {α β γ} (f : α → Option β) (r : β → γ) (l : List α) :
    omap (fun a => (f a).map r) l = (omap f l).map (List.map r) := by
  induction l with
  | nil => rfl
  | cons x xs ih => rw [omap, omap, ih]; cases f x <;> cases omap f xs <;> rfl

theorem omap_bind {α β γ} (g : α → Option β) (f : β → Option γ) (l : List α) :
    (omap g l).bind (omap f) = omap (fun a => (g a).bind f) l := by
  induction l with
  | nil => rfl
  | cons a as ih =>
    rw [omap, omap, ← ih]
    cases g a with
    | none => rfl
    | some b =>
      cases omap g as with
      | none => rw [Option.bind_some]; cases f b <;> rfl
      | some bs => rfl

/-- round trip: reading each element back from its own image (`f` writes, `g` reads) returns the list (C03: rows, cells) -/
theorem omap_zip_map {α β} (g : α → β → Option α) (f : α → β) (l : List α)
    (h : ∀ a ∈ l, g a (f a) = some a) :
    omap (fun p : α × β => g p.1 p.2) (List.zip l (l.map f)) = some l := by
  induction l with
  | nil => rfl
  | cons a as ih =>
    rw [List.forall_mem_cons] at h
    exact omap_cons_some _ _ _ _ _ h.1 (ih h.2)

/-! ### list operations -/

theorem omap_append {α β} (f : α → Option β) (l₁ l₂ : List α) :
    omap f (l₁ ++ l₂) = (omap f l₁).bind fun a => (omap f l₂).map (a ++ ·) := by
  induction l₁ with
  | nil => rw [List.nil_append]; cases omap f l₂ <;> rfl
  | cons x xs ih =>
    rw [List.cons_append, omap_cons, omap_cons, ih]
    cases f x <;> cases omap f xs <;> cases omap f l₂ <;> rfl

theorem omap_reverse {α β} (f : α → Option β) (l : List α) :
    omap f l.reverse = (omap f l).map List.reverse := by
  induction l with
  | nil => rfl
  | cons x xs ih =>
    rw [List.reverse_cons, omap_append, ih, omap_cons, omap_cons]
    cases f x <;> cases omap f xs <;> simp

theorem omap_take {α β} (f : α → Option β) (l : List α) (r : List β) (n : Nat) (h : omap f l = some r) :
    omap f (l.take n) = some (r.take n) := by
  rw [omap_eq_some_iff] at h ⊢
  rw [List.map_take, h, List.map_take]

theorem omap_drop {α β} (f : α → Option β) (l : List α) (r : List β) (n : Nat) (h : omap f l = some r) :
    omap f (l.drop n) = some (r.drop n) := by
  rw [omap_eq_some_iff] at h ⊢
  rw [List.map_drop, h, List.map_drop]

/-- the step of `omap_flatten` with the flattening kept under the `map`: the form in which a row-wise `omap` is unfolded -/
theorem omap_cons_flatten {α β} (f : α → Option (List β)) (a : α) (l : List α) :
    (omap f (a :: l)).map List.flatten = (f a).bind fun x => ((omap f l).map List.flatten).map (x ++ ·) := by
  rw [omap_cons]; cases f a <;> cases omap f l <;> rfl

theorem omap_flatten {α β} (f : α → Option β) (rows : List (List α)) :
    omap f rows.flatten = (omap (omap f) rows).map List.flatten := by
  induction rows with
  | nil => rfl
  | cons r rs ih => rw [List.flatten_cons, omap_append, ih, omap_cons_flatten]

theorem omap_flatten_some {α β} (f : α → Option β) (rows : List (List α)) (outs : List (List β))
    (h : omap (omap f) rows = some outs) : omap f rows.flatten = some outs.flatten := by
  rw [omap_flatten, h]; rfl

/-! ### from elements to lists -/

/-- lists with equal images under `f` and `g` correspond element by element: what `f x = g y` implies for the elements
holds along the whole lists -/
theorem map_eq_map_of_pairwise {α β γ δ} (f : α → γ) (f' : α → δ) (g : β → γ) (g' : β → δ) (xs : List α) (ys : List β)
    (h : xs.map f = ys.map g) (hp : ∀ x ∈ xs, ∀ y ∈ ys, f x = g y → f' x = g' y) :
    xs.map f' = ys.map g' := by
  induction xs generalizing ys with
  | nil => cases ys with
    | nil => rfl
    | cons y ys => cases h
  | cons x xs ih =>
    cases ys with
    | nil => cases h
    | cons y ys =>
      simp only [List.map_cons, List.cons.injEq] at h ⊢
      exact ⟨hp x (by simp) y (by simp) h.1, ih ys h.2 (fun a ha b hb => hp a (by simp [ha]) b (by simp [hb]))⟩

theorem omap_inj {α β} (f : α → Option β) (hinj : ∀ a a' b, f a = some b → f a' = some b → a = a')
    (l l' : List α) (r : List β) (h : omap f l = some r) (h' : omap f l' = some r) : l = l' := by
  have := map_eq_map_of_pairwise f id f id l l' ((omap_eq_some_iff.mp h).trans (omap_eq_some_iff.mp h').symm)
    fun a ha a' _ e => by
      obtain ⟨b, hb⟩ := omap_mem_some h ha
      exact hinj a a' b hb (e ▸ hb)
  rwa [List.map_id, List.map_id] at this

theorem omap_image {α β γ} (f : α → Option β) (φ : β → γ) (ψ : α → γ) (H : ∀ a b, f a = some b → φ b = ψ a)
    (l : List α) (r : List β) (h : omap f l = some r) : r.map φ = l.map ψ :=
  (map_eq_map_of_pairwise f ψ some φ l r (omap_eq_some_iff.mp h) fun a _ b _ e => (H a b e).symm).symm

theorem omap_omap_of_some {α β γ} {f : α → Option β} {g : β → Option γ} {h : α → γ}
    (H : ∀ a b, f a = some b → g b = some (h a)) (l : List α) (r : List β) (hr : omap f l = some r) :
    omap g r = some (l.map h) :=
  omap_eq_some_iff.mpr ((omap_image f g (fun a => some (h a)) H l r hr).trans (List.map_map ..).symm)

/-- in C14, on codes and again on rows: `f = f'` decode, `g` complement, `r` its specification on letters, `P` being DNA,
where `g` is defined -/
theorem omap_lift {α β γ δ} (f : α → Option β) (g : α → Option γ) (f' : γ → Option δ) (r : β → δ) (P : β → Prop)
    (H : ∀ a b, f a = some b → P b → ∃ c, g a = some c ∧ f' c = some (r b)) (l : List α) (bs : List β)
    (h : omap f l = some bs) (hP : ∀ b ∈ bs, P b) : ∃ cs, omap g l = some cs ∧ omap f' cs = some (bs.map r) := by
  induction l generalizing bs with
  | nil => cases h; exact ⟨[], rfl, rfl⟩
  | cons a as ih =>
    obtain ⟨b, bs, hb, hbs, rfl⟩ := omap_cons_eq_some f a as bs h
    obtain ⟨c, hc, hc'⟩ := H a b hb (hP b (by simp))
    obtain ⟨cs, hcs, hcs'⟩ := ih bs hbs (fun x hx => hP x (by simp [hx]))
    exact ⟨c :: cs, omap_cons_some _ _ _ _ _ hc hcs, omap_cons_some _ _ _ _ _ hc' hcs'⟩

theorem findIdx_congr {α} (p q : α → Bool) (l : List α) (h : ∀ a ∈ l, p a = q a) :
    l.findIdx p = l.findIdx q := by
  induction l with
  | nil => rfl
  | cons x xs ih =>
    simp only [List.findIdx_cons, h x (by simp), ih (fun a ha => h a (by simp [ha]))]

end Base
