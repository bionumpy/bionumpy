/-! `unflatten`: re-wrapping a flat list by row lengths (`RaggedArray(data, lengths)`), with its inverse law. -/
namespace Base

def unflatten {α} : List Nat → List α → List (List α)
  | [], _ => []
  | n :: ns, xs => xs.take n :: unflatten ns (xs.drop n)

theorem unflatten_flatten {α} (rows : List (List α)) :
    unflatten (rows.map List.length) rows.flatten = rows := by
  induction rows with
  | nil => simp [unflatten]
  | cons r rs ih => simp [unflatten, ih]

theorem unflatten_flatten_of_lengths {α} (lens : List Nat) (rows : List (List α))
    (h : rows.map List.length = lens) : unflatten lens rows.flatten = rows := by
  subst h; exact unflatten_flatten rows

theorem unflatten_length {α} (lens : List Nat) (xs : List α) : (unflatten lens xs).length = lens.length := by
  induction lens generalizing xs with
  | nil => simp [unflatten]
  | cons n ns ih => simp [unflatten, ih]

end Base
