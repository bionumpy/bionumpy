import BnpVerif.Model.C05
import BnpVerif.Base.PyLaws
import BnpVerif.Base.Lists
/-! C05: the lazy three-store table and the eager column table are bisimilar. `view` is what a lazy table shows; `R`: the eager
columns are that, plus three invariants of the stores; every operation keeps registers related and is observed alike
(`step_preserves`), hence programs (`lazy_eager_equiv`). -/
namespace C05
open PyIdx

theorem lookup_nil (f : Nat) : lookup [] f = none := rfl

theorem lookup_cons (m : FMap) (g : Nat) (c : Col) (f : Nat) :
    lookup ((g, c) :: m) f = if g = f then some c else lookup m f := by
  unfold lookup
  rw [List.find?_cons]
  by_cases h : g = f
  · rw [if_pos h, beq_iff_eq.2 h]; rfl
  · rw [if_neg h, beq_eq_false_iff_ne.2 h]

theorem lookup_erase (m : FMap) (g f : Nat) :
    lookup (erase m g) f = if g = f then none else lookup m f := by
  induction m with
  | nil => exact (ite_self _).symm
  | cons p m ih =>
    obtain ⟨k, c⟩ := p
    unfold erase at ih ⊢
    rw [List.filter_cons]
    by_cases hk : k = g
    · subst hk
      rw [if_neg (by simp), ih, lookup_cons]
      by_cases h : k = f
      · rw [if_pos h, if_pos h]
      · rw [if_neg h, if_neg h, if_neg h]
    · rw [if_pos (by simpa using hk), lookup_cons, lookup_cons, ih]
      by_cases h : g = f
      · rw [if_pos h, if_pos h, if_neg (h ▸ hk)]
      · rw [if_neg h, if_neg h]

theorem lookup_insert (m : FMap) (g : Nat) (c : Col) (f : Nat) :
    lookup (insert m g c) f = if g = f then some c else lookup m f := by
  unfold insert
  rw [lookup_cons, lookup_erase]
  split <;> rfl

theorem lookup_mapVals (gf : Col → Col) (m : FMap) (f : Nat) :
    lookup (mapVals gf m) f = (lookup m f).map gf := by
  induction m with
  | nil => rfl
  | cons p m ih =>
    unfold mapVals at ih ⊢
    rw [List.map_cons, lookup_cons, lookup_cons, ih]
    split <;> rfl

theorem lookup_isSome_iff_mem_keys (m : FMap) (f : Nat) : (lookup m f).isSome = (keys m).contains f := by
  induction m with
  | nil => rfl
  | cons p m ih =>
    rw [lookup_cons, keys, List.map_cons, List.contains_cons, ← keys, ← ih]
    by_cases h : p.1 = f
    · rw [if_pos h, beq_iff_eq.2 h.symm]; rfl
    · rw [if_neg h, beq_eq_false_iff_ne.2 (Ne.symm h)]; rfl

/-- what a lazy table shows for field `f` -/
def view (l : Lazy) (f : Nat) : Col :=
  match lookup l.set f with
  | some c => c
  | none =>
    match lookup l.computed f with
    | some c => c
    | none => fileCol l.buf f

/-- cache coherence: a cached column is what the buffer would parse now -/
def Coh (l : Lazy) : Prop := ∀ f c, lookup l.computed f = some c → c = fileCol l.buf f

def Aligned (l : Lazy) : Prop := ∀ f c, lookup l.set f = some c → c.length = l.buf.length

/-- the memoised data object (if any) is current -/
def DataOK (nF : Nat) (l : Lazy) : Prop := ∀ d, l.data = some d → d = (List.range nF).map (view l)

def R (nF : Nat) (l : Lazy) (e : Eager) : Prop :=
  Coh l ∧ Aligned l ∧ DataOK nF l ∧ e.cols = (List.range nF).map (view l)

/-- with a coherent cache the cache is invisible -/
theorem view_of_coh (l : Lazy) (h : Coh l) (f : Nat) :
    view l f = (lookup l.set f).getD (fileCol l.buf f) := by
  unfold view
  cases lookup l.set f with
  | some c => rfl
  | none =>
    cases hc : lookup l.computed f with
    | some c => exact h f c hc
    | none => rfl

theorem fileCol_length (buf : List FRow) (f : Nat) : (fileCol buf f).length = buf.length :=
  List.length_map _

theorem view_length (l : Lazy) (hc : Coh l) (ha : Aligned l) (f : Nat) : (view l f).length = l.buf.length := by
  rw [view_of_coh l hc]
  cases hs : lookup l.set f with
  | some c => exact ha f c hs
  | none => exact fileCol_length l.buf f

theorem R_len (nF : Nat) (hn : 0 < nF) (l : Lazy) (e : Eager) (h : R nF l e) : e.len = l.len := by
  -- the eager table reads its length off column 0, which must exist: hence `hn`, here and in everything that observes a length
  obtain ⟨n, rfl⟩ := Nat.exists_eq_succ_of_ne_zero (Nat.ne_of_gt hn)
  rw [Eager.len, h.2.2.2, List.range_succ_eq_map]
  exact view_length l h.1 h.2.1 0

theorem R_get_col (nF : Nat) (l : Lazy) (e : Eager) (h : R nF l e) (f : Nat) (hf : f < nF) :
    e.get f = view l f := by
  rw [Eager.get, h.2.2.2, List.getD_eq_getElem?_getD, List.getElem?_map, List.getElem?_range hf]
  rfl

theorem R_of_data_none {nF : Nat} {l : Lazy} {e : Eager} (hc : Coh l) (ha : Aligned l) (hd : l.data = none)
    (he : e.cols = (List.range nF).map (view l)) : R nF l e :=
  ⟨hc, ha, fun d h => (by rw [hd] at h; cases h), he⟩

theorem get_fst (l : Lazy) (f : Nat) : (l.get f).1 = view l f := by
  unfold Lazy.get view
  cases lookup l.set f with
  | some c => rfl
  | none => cases lookup l.computed f <;> rfl

/-- `l'` is `l` with another cache, coherent if `l`'s was: all that `__getattr__` calls leave behind -/
structure Recached (l l' : Lazy) : Prop where
  buf : l'.buf = l.buf
  set : l'.set = l.set
  data : l'.data = l.data
  coh : Coh l → Coh l'

theorem Recached.refl (l : Lazy) : Recached l l := ⟨rfl, rfl, rfl, id⟩

theorem Recached.trans {a b c : Lazy} (h : Recached a b) (h' : Recached b c) : Recached a c :=
  ⟨h'.buf.trans h.buf, h'.set.trans h.set, h'.data.trans h.data, h'.coh ∘ h.coh⟩

theorem get_recached (l : Lazy) (f : Nat) : Recached l (l.get f).2 := by
  unfold Lazy.get
  cases lookup l.set f with
  | some c => exact .refl l
  | none =>
    cases lookup l.computed f with
    | some c => exact .refl l
    | none =>
      refine ⟨rfl, rfl, rfl, fun hc g c hg => ?_⟩
      -- `show`: `rw` does not unfold the structure update
      rw [show lookup _ g = _ from lookup_insert ..] at hg
      split at hg
      · cases hg; subst_vars; rfl
      · exact hc g c hg

theorem Recached.view {l l' : Lazy} (h : Recached l l') (hc : Coh l) : view l' = view l := by
  funext g
  rw [view_of_coh l hc, view_of_coh l' (h.coh hc), h.set, h.buf]

theorem Recached.R {nF : Nat} {l l' : Lazy} {e : Eager} (h : Recached l l') (hr : R nF l e) : R nF l' e := by
  unfold C05.R Aligned DataOK
  rw [h.view hr.1, h.set, h.buf, h.data]
  exact ⟨h.coh hr.1, hr.2⟩

/-- `getattr(t, f)` may fill the lazy table's cache; the tables stay related -/
theorem R_get (nF : Nat) (l : Lazy) (e : Eager) (h : R nF l e) (f : Nat) : R nF (l.get f).2 e :=
  (get_recached l f).R h

theorem fileCol_gather (buf : List FRow) (f : Nat) (ixs : List Nat) :
    fileCol (gather buf ixs) f = gather (fileCol buf f) ixs :=
  (gather_map _ buf ixs).symm

theorem coh_select (l : Lazy) (hc : Coh l) (ixs : List Nat) : Coh (l.select ixs) := by
  intro f c hf
  simp only [Lazy.select, lookup_mapVals, Option.map_eq_some_iff] at hf
  obtain ⟨c0, h0, rfl⟩ := hf
  rw [hc f c0 h0]
  exact (fileCol_gather l.buf f ixs).symm

theorem view_select (l : Lazy) (ixs : List Nat) (f : Nat) :
    view (l.select ixs) f = gather (view l f) ixs := by
  unfold view Lazy.select
  simp only [lookup_mapVals]
  cases lookup l.set f with
  | some c => rfl
  | none =>
    cases lookup l.computed f with
    | some c => rfl
    | none => exact fileCol_gather l.buf f ixs

theorem R_select (nF : Nat) (l : Lazy) (e : Eager) (h : R nF l e) (ixs : List Nat)
    (hv : ∀ k ∈ ixs, k < l.len) : R nF (l.select ixs) (e.select ixs) := by
  refine R_of_data_none (coh_select l h.1 ixs) (fun f c hf => ?_) rfl ?_
  · simp only [Lazy.select, lookup_mapVals, Option.map_eq_some_iff] at hf
    obtain ⟨c0, h0, rfl⟩ := hf
    exact (gather_length _ _ (by rw [h.2.1 f c0 h0]; exact hv)).trans (gather_length _ _ hv).symm
  · rw [Eager.select, h.2.2.2, List.map_map]
    exact List.map_congr_left fun f _ => (view_select l ixs f).symm

/-- indexing (every NumPy index form) keeps lazy and eager related, and fails in both or in neither -/
theorem step_index (nF : Nat) (hn : 0 < nF) (l : Lazy) (e : Eager) (h : R nF l e) (ix : Idx) :
    match l.index ix, e.index ix with
    | some l', some e' => R nF l' e'
    | none, none => True
    | _, _ => False := by
  unfold Lazy.index Eager.index
  rw [R_len nF hn l e h]
  cases hix : ix.toList l.len with
  | none => trivial
  | some ixs => exact R_select nF l e h ixs (toList_lt _ _ _ hix)

theorem index_rows {l l' : Lazy} {ix : Idx} (h : l.index ix = some l') : ∀ r ∈ l'.buf, r ∈ l.buf := by
  obtain ⟨ixs, _, rfl⟩ := Option.map_eq_some_iff.1 h
  exact fun r hr => mem_gather _ _ _ hr

theorem view_setattr (l : Lazy) (f : Nat) (c : Col) (g : Nat) :
    view (l.setattr f c) g = if f = g then c else view l g := by
  unfold view
  rw [show lookup (l.setattr f c).set g = _ from lookup_insert ..,
    show lookup (l.setattr f c).computed g = _ from lookup_erase ..]
  by_cases h : f = g
  · rw [if_pos h, if_pos h, if_pos h]
  · rw [if_neg h, if_neg h, if_neg h]
    rfl

theorem map_range_set {α} (n : Nat) (F : Nat → α) (f : Nat) (c : α) :
    ((List.range n).map F).set f c = (List.range n).map (fun g => if f = g then c else F g) := by
  apply List.ext_getElem
  · simp
  · intro i h1 h2
    simp only [List.getElem_set, List.getElem_map, List.getElem_range]

/-- `t.f = c` (repaired rule), `c` with one value per row, keeps lazy and eager related -/
theorem R_setattr (nF : Nat) (l : Lazy) (e : Eager) (h : R nF l e) (f : Nat) (c : Col)
    (hc : c.length = l.buf.length) : R nF (l.setattr f c) (e.setattr f c) := by
  refine R_of_data_none (fun g c' hg => ?_) (fun g c' hg => ?_) rfl ?_
  · simp only [Lazy.setattr, lookup_erase] at hg
    split at hg
    · cases hg
    · exact h.1 g c' hg
  · simp only [Lazy.setattr, lookup_insert] at hg
    split at hg
    · cases hg; exact hc
    · exact h.2.1 g c' hg
  · rw [Eager.setattr, h.2.2.2, map_range_set]
    exact List.map_congr_left fun g _ => (view_setattr l f c g).symm

/-- the shipped `__setattr__` keeps a stale memoised data object: after `tolist()`, `t.f = x`, `tolist()`
still shows the old column. Recorded refutation (the repaired rule is `Lazy.setattr`). -/
theorem setattrOld_unsound :
    let row : FRow := ⟨[49, 10], [⟨[49], [49]⟩]⟩
    let l0 := Lazy.ofFile [row]
    let l1 := (l0.dataObject 1).2
    let l2 := l1.setattrOld 0 [[55]]
    (l2.dataObject 1).1 = [[[49]]] ∧ ((Eager.ofFile 1 [row]).setattr 0 [[55]]).cols = [[[55]]] := by
  decide

/-- `replace` with no fields: a new object without the cache -/
theorem R_forget_cache (nF : Nat) (l : Lazy) (e : Eager) (h : R nF l e) :
    R nF ⟨l.buf, [], l.set, none⟩ e := by
  have hc0 : Coh ⟨l.buf, [], l.set, none⟩ := fun f c hf => nomatch hf
  refine R_of_data_none hc0 h.2.1 rfl (h.2.2.2.trans (List.map_congr_left fun g _ => ?_))
  rw [view_of_coh l h.1, view_of_coh _ hc0]

/-- `replace(t, **kw)` (new object: cache dropped, overlay updated) keeps lazy and eager related -/
theorem step_replace (nF : Nat) (l : Lazy) (e : Eager) (h : R nF l e) (kw : FMap)
    (hkw : ∀ p ∈ kw, p.2.length = l.buf.length) : R nF (l.replace kw) (e.replace kw) := by
  -- `replace` with a first field `f := c` is `setattr f c` followed by `replace` with the other fields, on both sides
  induction kw generalizing l e with
  | nil => exact R_forget_cache nF l e h
  | cons p kw ih =>
    exact ih (l.setattr p.1 p.2) (e.setattr p.1 p.2) (R_setattr nF l e h p.1 p.2 (hkw p (.head _)))
      fun q hq => hkw q (.tail _ hq)

theorem getAll_spec (n f : Nat) (l : Lazy) :
    Recached l (getAll n f l).2 ∧ (Coh l → (getAll n f l).1 = (List.range' f n).map (view l)) := by
  induction n generalizing f l with
  | zero => exact ⟨.refl l, fun _ => rfl⟩
  | succ n ih =>
    have hg := get_recached l f
    have ⟨i1, i2⟩ := ih (f + 1) (l.get f).2
    exact ⟨hg.trans i1, fun hc => by rw [getAll, List.range'_succ, List.map_cons, i2 (hg.coh hc), get_fst, hg.view hc]⟩

theorem dataObject_buf_set (nF : Nat) (l : Lazy) :
    (l.dataObject nF).2.buf = l.buf ∧ (l.dataObject nF).2.set = l.set := by
  unfold Lazy.dataObject
  cases l.data with
  | some d => exact ⟨rfl, rfl⟩
  | none => have h := (getAll_spec nF 0 l).1; exact ⟨h.buf, h.set⟩

theorem R_memo {nF : Nat} {l : Lazy} {e : Eager} (h : R nF l e) : R nF { l with data := some e.cols } e :=
  ⟨h.1, h.2.1, fun _ hd => (Option.some.inj hd).symm.trans h.2.2.2, h.2.2.2⟩

/-- `get_data_object()` gives the eager table's columns and leaves the table related, its rows unchanged -/
theorem dataObject_spec (nF : Nat) (l : Lazy) (e : Eager) (h : R nF l e) :
    (l.dataObject nF).1 = e.cols ∧ R nF (l.dataObject nF).2 e ∧ (l.dataObject nF).2.buf = l.buf := by
  unfold Lazy.dataObject
  cases hdat : l.data with
  | some d => exact ⟨(h.2.2.1 d hdat).trans h.2.2.2.symm, h, rfl⟩
  | none =>
    have ⟨h2, h1⟩ := getAll_spec nF 0 l
    have h1 := h1 h.1
    rw [← List.range_eq_range', ← h.2.2.2] at h1
    dsimp only
    rw [h1]
    exact ⟨rfl, R_memo (h2.R h), h2.buf⟩

theorem rowOf_select (cols : List Col) (j : Nat) :
    rowOf (cols.map (fun c => gather c [j])) 0 = rowOf cols j := by
  unfold rowOf
  rw [List.map_map]
  refine List.map_congr_left fun c _ => ?_
  rw [Function.comp_apply, gather_cons, List.getD_eq_getElem?_getD, List.getD_eq_getElem?_getD]
  cases c[j]? <;> rfl

theorem getMany_recached (ns : List Nat) (a : Lazy) : Recached a (getMany ns a) := by
  induction ns generalizing a with
  | nil => exact .refl a
  | cons n ns ih => exact (get_recached a n).trans (ih _)

theorem getEach_spec (name : Nat) (ls : List Lazy) :
    (getEach name ls).1 = ls.map (fun a => view a name) ∧
    (getEach name ls).2 = ls.map (fun a => (a.get name).2) := by
  induction ls with
  | nil => exact ⟨rfl, rfl⟩
  | cons a r ih => exact ⟨by rw [getEach, ih.1, get_fst]; rfl, by rw [getEach, ih.2]; rfl⟩

theorem concatSet_spec (names : List Nat) (ls : List Lazy) :
    (concatSet names ls).2 = ls.map (getMany names) ∧
    ((∀ a ∈ ls, Coh a) →
      (concatSet names ls).1 = names.map (fun n => (n, (ls.map (fun a => view a n)).flatten))) := by
  induction names generalizing ls with
  | nil => exact ⟨(List.map_id' ls).symm, fun _ => rfl⟩
  | cons n ns ih =>
    have ⟨g1, g2⟩ := getEach_spec n ls
    have ⟨i1, i2⟩ := ih (getEach n ls).2
    refine ⟨by rw [concatSet, i1, g2, List.map_map]; rfl, fun hc => ?_⟩
    -- the operands after `getattr(·, n)` show what they showed before
    have hv (m : Nat) : ((getEach n ls).2.map fun a => view a m) = ls.map fun a => view a m := by
      rw [g2, List.map_map]
      refine List.map_congr_left fun a ha => ?_
      rw [Function.comp_apply, (get_recached a n).view (hc a ha)]
    rw [concatSet, g1, i2 (g2 ▸ List.forall_mem_map.2 fun a ha => (get_recached a n).coh (hc a ha))]
    simp only [hv, List.map_cons]

theorem keys_map (names : List Nat) (X : Nat → Col) : keys (names.map fun n => (n, X n)) = names := by
  induction names with
  | nil => rfl
  | cons n ns ih => exact congrArg (n :: ·) ih

theorem mem_of_lookup {m : FMap} {f : Nat} {c : Col} (h : lookup m f = some c) : (f, c) ∈ m := by
  obtain ⟨p, hp, rfl⟩ := Option.map_eq_some_iff.1 h
  have hf := List.find?_some hp
  exact beq_iff_eq.1 hf ▸ List.mem_of_find?_eq_some hp

theorem fileCol_flatten (bufs : List (List FRow)) (f : Nat) :
    fileCol bufs.flatten f = (bufs.map (fun b => fileCol b f)).flatten :=
  List.map_flatten

theorem fileCol_append (a b : List FRow) (f : Nat) : fileCol (a ++ b) f = fileCol a f ++ fileCol b f :=
  List.map_append

theorem flatten_cached (ls : List Lazy) (hc : ∀ a ∈ ls, Coh a) (f : Nat)
    (h : ∀ a ∈ ls, (lookup a.computed f).isSome) :
    (ls.map fun a => (lookup a.computed f).getD []).flatten = fileCol (ls.map (·.buf)).flatten f := by
  rw [fileCol_flatten, List.map_map]
  congr 1
  refine List.map_congr_left fun a ha => ?_
  obtain ⟨c, hcc⟩ := Option.isSome_iff_exists.1 (h a ha)
  rw [hcc]
  exact hc a ha f c hcc

/-- `setNames` of the model's `concatNew`, where it is a local `let` (so `concatNew_spec`, stated in the model's terms, writes the filter out) -/
abbrev setNames (nF : Nat) (af : Bool) (ls : List Lazy) : List Nat :=
  (List.range nF).filter fun name => af || ls.any fun a => (lookup a.set name).isSome

theorem mem_setNames {nF : Nat} {af : Bool} {ls : List Lazy} {f : Nat} :
    f ∈ setNames nF af ls ↔ f < nF ∧ (af = true ∨ ∃ a ∈ ls, (lookup a.set f).isSome) := by
  simp only [setNames, List.mem_filter, List.mem_range, Bool.or_eq_true, List.any_eq_true]

/-- the result of the repaired concatenate with its overlay spelled out -/
theorem concatNew_eq (nF : Nat) (af : Bool) (ls : List Lazy) (hne : ls ≠ []) (hc : ∀ a ∈ ls, Coh a) :
    ∃ r, concatNew nF af ls = some (r, ls.map (getMany (setNames nF af ls))) ∧ Coh r ∧ r.data = none ∧
      r.buf = (ls.map (·.buf)).flatten ∧
      r.set = (setNames nF af ls).map fun n => (n, (ls.map fun a => view a n).flatten) := by
  cases ls with
  | nil => exact absurd rfl hne
  | cons self rest =>
    have ⟨s2, s1⟩ := concatSet_spec (setNames nF af (self :: rest)) (self :: rest)
    refine ⟨_, by rw [← s2]; rfl, fun f c hf => ?_, ?_⟩
    · -- a cache entry of the result is a field cached by every operand
      obtain ⟨name, hn, heq⟩ := List.mem_map.1 (mem_of_lookup hf)
      cases heq
      have hall := List.all_eq_true.1 (Bool.and_eq_true_iff.1 (List.mem_filter.1 hn).2).2
      rw [s2] at hall ⊢
      refine (flatten_cached _ (List.forall_mem_map.2 fun a ha => (getMany_recached _ a).coh (hc a ha)) f hall).trans ?_
      rw [List.map_map]
      exact congrArg (fun b => fileCol (List.flatten b) f) (List.map_congr_left fun a _ => (getMany_recached _ a).buf)
    · exact ⟨rfl, rfl, s1 hc⟩

/-- everything the repaired concatenate guarantees about its result and its operands -/
theorem concatNew_spec (nF : Nat) (af : Bool) (ls : List Lazy) (hne : ls ≠ []) (hc : ∀ a ∈ ls, Coh a) (ha : ∀ a ∈ ls, Aligned a) :
    ∃ r, concatNew nF af ls = some (r, ls.map (getMany ((List.range nF).filter (fun name => af || ls.any (fun a => (lookup a.set name).isSome))))) ∧
      Coh r ∧ Aligned r ∧ r.data = none ∧ r.buf = (ls.map (·.buf)).flatten ∧
      (∀ f, f < nF → view r f = (ls.map (fun a => view a f)).flatten) := by
  obtain ⟨r, hr, c1, c3, c4, hs⟩ := concatNew_eq nF af ls hne hc
  refine ⟨r, hr, c1, fun f c hf => ?_, c3, c4, fun f hf => ?_⟩
  · obtain ⟨n, _, heq⟩ := List.mem_map.1 (mem_of_lookup (hs ▸ hf))
    cases heq
    rw [c4, List.length_flatten, List.length_flatten, List.map_map, List.map_map]
    exact congrArg _ (List.map_congr_left fun a h => view_length a (hc a h) (ha a h) f)
  · rw [view_of_coh r c1]
    cases hl : lookup r.set f with
    | some c =>
      obtain ⟨n, _, heq⟩ := List.mem_map.1 (mem_of_lookup (hs ▸ hl))
      cases heq
      rfl
    | none =>
      -- no operand has `f` in its overlay: each shows its file column
      have hk : (setNames nF af ls).contains f = false := by
        have := lookup_isSome_iff_mem_keys r.set f
        rwa [hl, hs, keys_map, eq_comm] at this
      rw [Option.getD_none, c4, fileCol_flatten, List.map_map]
      refine congrArg List.flatten (List.map_congr_left fun a h => ?_)
      rw [view_of_coh a (hc a h), Option.not_isSome_iff_eq_none.1 fun hs =>
        Bool.false_ne_true (hk ▸ List.contains_iff_mem.2 (mem_setNames.2 ⟨hf, .inr ⟨a, h, hs⟩⟩))]
      rfl

theorem forall_mem_pair {α} {P : α → Prop} {a b : α} (ha : P a) (hb : P b) : ∀ x ∈ [a, b], P x :=
  List.forall_mem_cons.2 ⟨ha, List.forall_mem_cons.2 ⟨hb, nofun⟩⟩

/-- what `np.concatenate([la, lb])` (repaired rule) leaves behind: the result `r`, and the operands with their caches filled -/
structure CatPair (nF : Nat) (af : Bool) (la lb r la' lb' : Lazy) : Prop where
  eq : concatNew nF af [la, lb] = some (r, [la', lb'])
  left : Recached la la'
  right : Recached lb lb'
  coh : Coh r
  aligned : Aligned r
  data : r.data = none
  buf : r.buf = la.buf ++ lb.buf
  view : ∀ f, f < nF → view r f = view la f ++ view lb f

theorem concat_pair (nF : Nat) (af : Bool) (la lb : Lazy) (ha : Coh la ∧ Aligned la) (hb : Coh lb ∧ Aligned lb) :
    ∃ r la' lb', CatPair nF af la lb r la' lb' := by
  obtain ⟨r, hr, c1, c2, c3, c4, c5⟩ := concatNew_spec nF af [la, lb] (List.cons_ne_nil _ _)
    (forall_mem_pair ha.1 hb.1) (forall_mem_pair ha.2 hb.2)
  exact ⟨r, _, _, hr, getMany_recached _ la, getMany_recached _ lb, c1, c2, c3, c4.trans (congrArg _ (List.append_nil _)),
    fun f hf => (c5 f hf).trans (congrArg _ (List.append_nil _))⟩

theorem appendCols_map (n : Nat) (F G : Nat → Col) :
    appendCols ((List.range n).map F) ((List.range n).map G) = (List.range n).map (fun g => F g ++ G g) := by
  rw [List.range_eq_range']
  generalize 0 = s
  induction n generalizing s with
  | zero => rfl
  | succ n ih => simp only [List.range'_succ, List.map_cons, appendCols, ih]

/-- the concatenation of two related pairs is related to the eager concatenation -/
theorem CatPair.R {nF : Nat} {af : Bool} {la lb r la' lb' : Lazy} (h : CatPair nF af la lb r la' lb') {ea eb : Eager}
    (h1 : R nF la ea) (h2 : R nF lb eb) : R nF r ⟨appendCols ea.cols eb.cols⟩ := by
  refine R_of_data_none h.coh h.aligned h.data ?_
  rw [h1.2.2.2, h2.2.2.2, appendCols_map]
  exact List.map_congr_left fun f hf => (h.view f (List.mem_range.1 hf)).symm

/-- `np.concatenate([t, u])` (repaired rule) on related pairs gives related results, and leaves both operands related (only
their caches may have been filled) -/
theorem step_concat (nF : Nat) (af : Bool) (la lb : Lazy) (ea eb : Eager) (h1 : R nF la ea) (h2 : R nF lb eb) :
    ∃ r la' lb', concatNew nF af [la, lb] = some (r, [la', lb']) ∧
      R nF r ⟨appendCols ea.cols eb.cols⟩ ∧ R nF la' ea ∧ R nF lb' eb ∧ Eager.concat [ea, eb] = some ⟨appendCols ea.cols eb.cols⟩ := by
  obtain ⟨r, la', lb', h⟩ := concat_pair nF af la lb ⟨h1.1, h1.2.1⟩ ⟨h2.1, h2.2.1⟩
  exact ⟨r, la', lb', h.eq, h.R h1 h2, h.left.R h1, h.right.R h2, rfl⟩

/-- the shipped rule is refuted: `np.concatenate([t, replace(u, f0=[7])])` shows u's FILE value where the eager tables
show 7; and with f0 cached only in `t` the shipped rule fails (KeyError) where the eager concatenate succeeds. -/
theorem concatOld_unsound :
    let rowT : FRow := ⟨[49, 10], [⟨[49], [49]⟩]⟩
    let rowU : FRow := ⟨[51, 10], [⟨[51], [51]⟩]⟩
    let t := Lazy.ofFile [rowT]
    let u := (Lazy.ofFile [rowU]).replace [(0, [[55]])]
    (concatOld [t, u]).map (fun r => view r 0) = some [[49], [51]] ∧
    (Eager.concat [Eager.ofFile 1 [rowT], (Eager.ofFile 1 [rowU]).replace [(0, [[55]])]]).map (·.cols) = some [[[49], [55]]] ∧
    concatOld [(t.get 0).2, u] = none := by
  decide

/-- a file whose text is canonical for the entry type: every record is exactly the join of its
fields' texts, there are no columns beyond the entry type, and every text is the canonical spelling
of its value (`dump (parse bytes) = bytes`) -/
def Canon (nF : Nat) (join : List Bytes → Bytes) (buf : List FRow) : Prop :=
  ∀ r ∈ buf, r.cells.length = nF ∧ r.raw = join (r.cells.map (·.text)) ∧ ∀ c ∈ r.cells, c.text = c.val

theorem fileCol_getD (buf : List FRow) (f i : Nat) :
    (fileCol buf f).getD i [] = (((buf[i]?).bind (fun r => r.cells[f]?)).map (·.val)).getD [] := by
  rw [fileCol, List.getD_eq_getElem?_getD, List.getElem?_map]
  cases buf[i]? <;> rfl

theorem cellText_of_canon {nF : Nat} {join : List Bytes → Bytes} {buf : List FRow} (hcan : Canon nF join buf) (i f : Nat) :
    (((buf[i]?).bind (fun r => r.cells[f]?)).map (·.text)).getD [] = (fileCol buf f).getD i [] := by
  rw [fileCol_getD]
  cases hr : buf[i]? with
  | none => rfl
  | some r =>
    cases hc : r.cells[f]? with
    | none => rw [Option.bind_some, hc]; rfl
    | some c => rw [Option.bind_some, hc]; exact (hcan r (List.mem_of_getElem? hr)).2.2 c (List.mem_of_getElem? hc)

theorem map_eq_map_range {α β} (l : List α) (g : α → β) (d : β) :
    l.map g = (List.range l.length).map fun i => ((l[i]?).map g).getD d := by
  rw [← Base.map_range_getD (l.map g) d, List.length_map]
  exact List.map_congr_left fun i _ => by rw [List.getD_eq_getElem?_getD, List.getElem?_map]

/-- for a canonical file both branches of `get_buffer` write the rows of what the table shows -/
theorem write_of_canon (nF : Nat) (join : List Bytes → Bytes) (l : Lazy) (hc : Coh l) (hcan : Canon nF join l.buf) :
    l.write join nF =
      ((List.range l.buf.length).map fun i => join ((List.range nF).map fun f => (view l f).getD i [])).flatten := by
  unfold Lazy.write
  split
  · next hemp =>
    rw [map_eq_map_range l.buf (·.raw) []]
    refine congrArg List.flatten (List.map_congr_left fun i hi => ?_)
    have hi := List.getElem?_eq_getElem (List.mem_range.1 hi)
    obtain ⟨c1, c2, _⟩ := hcan _ (List.mem_of_getElem? hi)
    rw [hi, Option.map_some, Option.getD_some, c2, map_eq_map_range _ Cell.text [], c1]
    refine congrArg join (List.map_congr_left fun f _ => ?_)
    rw [view_of_coh l hc, List.isEmpty_iff.1 hemp, lookup_nil, Option.getD_none, ← cellText_of_canon hcan, hi]
    rfl
  · refine congrArg List.flatten (List.map_congr_left fun i _ => congrArg join (List.map_congr_left fun f _ => ?_))
    rw [view_of_coh l hc]
    cases lookup l.set f with
    | some c => rfl
    | none => exact cellText_of_canon hcan i f

theorem write_of_set_nil (join : List Bytes → Bytes) (nF : Nat) (l : Lazy) (hs : l.set = []) :
    l.write join nF = (l.buf.map (·.raw)).flatten := by
  rw [Lazy.write, hs]
  rfl

/-- for a canonical file, what the lazy table writes (raw bytes when untouched; original field text
joined with the overlay's values otherwise) is byte-for-byte what the eager table writes -/
theorem write_equal (nF : Nat) (hn : 0 < nF) (join : List Bytes → Bytes) (l : Lazy) (e : Eager) (h : R nF l e)
    (hcan : Canon nF join l.buf) : l.write join nF = e.write join := by
  rw [write_of_canon nF join l h.1 hcan, Eager.write, transposeN, R_len nF hn l e h, h.2.2.2, List.map_map]
  unfold rowOf
  simp only [List.map_map]
  rfl

def RAll (nF : Nat) (ls : List Lazy) (es : List Eager) : Prop :=
  ls.length = es.length ∧ ∀ (i : Nat) (l : Lazy) (e : Eager), ls[i]? = some l → es[i]? = some e → R nF l e

theorem RAll.cases {nF : Nat} {ls : List Lazy} {es : List Eager} (h : RAll nF ls es) (a : Nat) :
    (ls[a]? = none ∧ es[a]? = none) ∨ ∃ l e, ls[a]? = some l ∧ es[a]? = some e ∧ R nF l e := by
  by_cases ha : a < ls.length
  · have hl := List.getElem?_eq_getElem ha
    have he := List.getElem?_eq_getElem (h.1 ▸ ha)
    exact .inr ⟨_, _, hl, he, h.2 a _ _ hl he⟩
  · have ha := Nat.le_of_not_lt ha
    exact .inl ⟨List.getElem?_eq_none ha, List.getElem?_eq_none (h.1 ▸ ha)⟩

theorem RAll.set {nF : Nat} {ls : List Lazy} {es : List Eager} (h : RAll nF ls es) (a : Nat) {l' : Lazy} {e' : Eager}
    (hr : R nF l' e') : RAll nF (ls.set a l') (es.set a e') := by
  refine ⟨by rw [List.length_set, List.length_set, h.1], fun i l e hl he => ?_⟩
  by_cases hai : a = i
  · subst hai
    have ha := (List.getElem?_eq_some_iff.1 hl).1
    rw [List.length_set] at ha
    rw [List.getElem?_set_self ha] at hl
    rw [List.getElem?_set_self (h.1 ▸ ha)] at he
    cases hl; cases he
    exact hr
  · rw [List.getElem?_set_ne hai] at hl he
    exact h.2 i l e hl he

theorem set_self_of_getElem? {α} (l : List α) (a : Nat) (x : α) (h : l[a]? = some x) : l.set a x = l := by
  obtain ⟨ha, rfl⟩ := List.getElem?_eq_some_iff.1 h
  exact List.set_getElem_self ha

theorem RAll.set_left {nF : Nat} {ls : List Lazy} {es : List Eager} (h : RAll nF ls es) {a : Nat} {l' : Lazy} {e : Eager}
    (he : es[a]? = some e) (hr : R nF l' e) : RAll nF (ls.set a l') es :=
  set_self_of_getElem? es a e he ▸ RAll.set h a hr

theorem forall_mem_set {α} {Q : α → Prop} {l : List α} (h : ∀ x ∈ l, Q x) (a : Nat) {x' : α} (hx : Q x') :
    ∀ x ∈ l.set a x', Q x := fun x hm =>
  (List.mem_or_eq_of_mem_set hm).elim (h x) (· ▸ hx)

def Op.isWrite : Op → Bool
  | .write _ => true
  | _ => false

theorem Op.eq_write_of_isWrite {op : Op} (h : op.isWrite = true) : ∃ a, op = .write a := by
  unfold Op.isWrite at h
  split at h
  · exact ⟨_, rfl⟩
  · cases h

/-- replacement columns have one value per row: the DOMAIN of the property, not a totalisation (an ill-sized column ASSIGNED to an
attribute is accepted by both real tables and shows differently afterwards: the lazy table fails at the next materialisation, the
eager one zips to the shortest column; an ill-sized `replace` is handed to the data class by both; the model's sides diverge there
too: `illsized_setattr_diverges`, C05More). A field number outside the entry type is NOT guarded: both machines fail, as both real
tables raise AttributeError. -/
def OpOK (op : Op) (ls : List Lazy) : Prop :=
  match op with
  | .replace a _ kw => ∀ l, ls[a]? = some l → ∀ p ∈ kw, p.2.length = l.buf.length
  | .setattr a _ c => ∀ l, ls[a]? = some l → c.length = l.buf.length
  | _ => True

theorem opOKb_sound (op : Op) (ls : List Lazy) (h : opOKb op ls = true) : OpOK op ls := by
  cases op with
  | replace a d kw =>
    intro l hl p hp
    simp only [opOKb, hl, List.all_eq_true, beq_iff_eq] at h
    exact h p hp
  | setattr a f c =>
    intro l hl
    simp only [opOKb, hl, beq_iff_eq] at h
    exact h
  | _ => trivial

/-- hide the PAYLOAD of a written-bytes observation; failure stays failure -/
def maskObs : Obs → Obs
  | .bytes _ => .bytes []
  | o => o

def CanonAll (nF : Nat) (join : List Bytes → Bytes) (ls : List Lazy) : Prop := ∀ l ∈ ls, Canon nF join l.buf

/-- same observation, related register files, and no new file rows (so canonical text stays canonical) -/
def StepOK (k : Cfg) (ls : List Lazy) (x : Obs × List Lazy) (y : Obs × List Eager) : Prop :=
  ∃ o ls' es', x = (o, ls') ∧ y = (o, es') ∧ RAll k.nF ls' es' ∧ (CanonAll k.nF k.join ls → CanonAll k.nF k.join ls')

theorem StepOK.mk {k : Cfg} {ls ls' : List Lazy} {es' : List Eager} (o : Obs) (hr : RAll k.nF ls' es')
    (hc : CanonAll k.nF k.join ls → CanonAll k.nF k.join ls') : StepOK k ls (o, ls') (o, es') :=
  ⟨o, ls', es', rfl, rfl, hr, hc⟩

theorem StepOK.err {k : Cfg} {ls : List Lazy} {es : List Eager} (h : RAll k.nF ls es) : StepOK k ls (.err, ls) (.err, es) :=
  .mk _ h id

/-- both machines look the register up and fail when it is absent -/
theorem RAll.lookup {nF : Nat} {ls : List Lazy} {es : List Eager} (h : RAll nF ls es)
    {P : Obs × List Lazy → Obs × List Eager → Prop} (a : Nat) (F : Lazy → Obs × List Lazy) (G : Eager → Obs × List Eager)
    (herr : P (.err, ls) (.err, es))
    (hs : ∀ l e, ls[a]? = some l → es[a]? = some e → R nF l e → P (F l) (G e)) :
    P (match ls[a]? with | some l => F l | none => (.err, ls)) (match es[a]? with | some e => G e | none => (.err, es)) := by
  rcases h.cases a with ⟨hl, he⟩ | ⟨l, e, hl, he, hr⟩ <;> rw [hl, he]
  · exact herr
  · exact hs l e hl he hr

/-- every operation but `write` (that one: `step_write`); `step_preserves` puts the two together -/
theorem step_core (k : Cfg) (hn : 0 < k.nF) (hfc : k.fixedConcat = true) (hfs : k.fixedSetattr = true)
    (op : Op) (hw : op.isWrite = false) (ls : List Lazy) (es : List Eager) (h : RAll k.nF ls es) (hok : OpOK op ls) :
    StepOK k ls (stepLazy k op ls) (stepEager k op es) := by
  have hg {a : Nat} {l : Lazy} (hc : CanonAll k.nF k.join ls) (hl : ls[a]? = some l) : Canon k.nF k.join l.buf :=
    hc l (List.mem_of_getElem? hl)
  cases op with
  | len a =>
    dsimp only [stepLazy, stepEager]
    exact h.lookup a _ _ (.err h) fun l e hl he hr => R_len k.nF hn l e hr ▸ .mk _ h id
  | get a f =>
    dsimp only [stepLazy, stepEager]
    refine h.lookup a _ _ (.err h) fun l e hl he hr => ?_
    by_cases hf : f < k.nF
    · rw [if_pos hf, if_pos hf, get_fst, R_get_col k.nF l e hr f hf]
      exact .mk _ (RAll.set_left h he (R_get k.nF l e hr f))
        fun hc => forall_mem_set hc a ((get_recached l f).buf ▸ hg hc hl)
    · rw [if_neg hf, if_neg hf]
      exact .err h
  | index a d ix =>
    dsimp only [stepLazy, stepEager]
    refine h.lookup a _ _ (.err h) fun l e hl he hr => ?_
    have hs := step_index k.nF hn l e hr ix
    split at hs
    · next l' e' hli hei =>
      rw [hli, hei]
      dsimp only
      rw [R_len k.nF hn l' e' hs]
      exact .mk _ (RAll.set h d hs) fun hc => forall_mem_set hc d fun r hr => hg hc hl r (index_rows hli r hr)
    · next hli hei => rw [hli, hei]; exact .err h
    · exact hs.elim
  | row a i =>
    dsimp only [stepLazy, stepEager]
    refine h.lookup a _ _ (.err h) fun l e hl he hr => ?_
    rw [R_len k.nF hn l e hr]
    cases hj : norm l.len i with
    | none => exact .err h
    | some j =>
      have hs := R_select k.nF l e hr [j] (List.forall_mem_singleton.2 (norm_lt hj))
      dsimp only
      rw [(dataObject_spec k.nF _ _ hs).1, Eager.select, rowOf_select]
      exact .mk _ h id
  | cat a b =>
    dsimp only [stepLazy, stepEager]
    rcases h.cases a with ⟨hla, hea⟩ | ⟨la, ea, hla, hea, hra⟩ <;> rw [hla, hea]
    · exact .err h
    rcases h.cases b with ⟨hlb, heb⟩ | ⟨lb, eb, hlb, heb, hrb⟩ <;> rw [hlb, heb]
    · exact .err h
    dsimp only
    obtain ⟨r, la', lb', hcat⟩ := concat_pair k.nF (!k.bufferConcat) la lb ⟨hra.1, hra.2.1⟩ ⟨hrb.1, hrb.2.1⟩
    have hrr := hcat.R hra hrb
    rw [hfc, if_pos rfl, hcat.eq]
    dsimp only [Eager.concat, Option.map_some]
    rw [R_len k.nF hn _ _ hrr]
    -- register `b` is rewritten only when it is not register `a`
    refine .mk _ (RAll.set ?_ a hrr) fun hc => forall_mem_set ?_ a fun x hx => ?_
    · cases a == b
      · exact RAll.set_left h heb (hcat.right.R hrb)
      · exact h
    · cases a == b
      · exact forall_mem_set hc b (hcat.right.buf ▸ hg hc hlb)
      · exact hc
    · rw [hcat.buf] at hx
      exact (List.mem_append.1 hx).elim (hg hc hla x) (hg hc hlb x)
  | replace a d kw =>
    dsimp only [stepLazy, stepEager]
    exact h.lookup a _ _ (.err h) fun l e hl he hr =>
      .mk _ (RAll.set h d (step_replace k.nF l e hr kw (hok l hl))) fun hc => forall_mem_set hc d (hg (l := l) hc hl)
  | setattr a f c =>
    dsimp only [stepLazy, stepEager]
    rw [hfs]
    exact h.lookup a _ _ (.err h) fun l e hl he hr =>
      .mk _ (RAll.set h a (R_setattr k.nF l e hr f c (hok l hl))) fun hc => forall_mem_set hc a (hg (l := l) hc hl)
  | tolist a =>
    dsimp only [stepLazy, stepEager]
    refine h.lookup a _ _ (.err h) fun l e hl he hr => ?_
    have ⟨d1, d2, d3⟩ := dataObject_spec k.nF l e hr
    rw [d1, R_len k.nF hn l e hr]
    exact .mk _ (RAll.set_left h he d2) fun hc => forall_mem_set hc a (d3 ▸ hg hc hl)
  | write a => cases hw

theorem stepLazy_write_snd (k : Cfg) (a : Nat) (ls : List Lazy) : (stepLazy k (.write a) ls).2 = ls := by
  dsimp only [stepLazy]
  cases ls[a]? with
  | none => rfl
  | some l => exact (apply_ite Prod.snd _ _ _).trans (ite_self _)

theorem stepEager_write_snd (k : Cfg) (a : Nat) (es : List Eager) : (stepEager k (.write a) es).2 = es := by
  dsimp only [stepEager]
  cases es[a]? with
  | none => rfl
  | some e => exact (apply_ite Prod.snd _ _ _).trans (ite_self _)

theorem step_write (k : Cfg) (hn : 0 < k.nF) (a : Nat) (ls : List Lazy) (es : List Eager) (h : RAll k.nF ls es)
    (hm : k.modWrite = true) (he : k.eagerWrite = true) :
    maskObs (stepLazy k (.write a) ls).1 = maskObs (stepEager k (.write a) es).1 ∧
    (CanonAll k.nF k.join ls → (stepLazy k (.write a) ls).1 = (stepEager k (.write a) es).1) := by
  dsimp only [stepLazy, stepEager]
  rw [hm, he]
  refine h.lookup (P := fun x y => maskObs x.1 = maskObs y.1 ∧ (CanonAll k.nF k.join ls → x.1 = y.1)) a _ _
    ⟨rfl, fun _ => rfl⟩ fun l e hl _ hr => ?_
  simp only [Bool.not_true, Bool.false_and, Bool.false_eq_true, if_false, maskObs, true_and]
  exact fun hc => congrArg Obs.bytes (write_equal k.nF hn k.join l e hr (hc l (List.mem_of_getElem? hl)))

/-- one step of any operation (repaired concatenate and attribute assignment) on related register files: equal observations
— or failure in both — and related register files again. Written BYTES only for canonical files (`canon`) and a buffer type
that writes both kinds of table; otherwise a write still agrees on success-vs-failure (`maskObs`). -/
theorem step_preserves (k : Cfg) (hn : 0 < k.nF) (hfc : k.fixedConcat = true) (hfs : k.fixedSetattr = true)
    (canon : Bool) (op : Op) (ls : List Lazy) (es : List Eager)
    (h : RAll k.nF ls es) (hcan : canon = true → CanonAll k.nF k.join ls) (hok : OpOK op ls) :
    ((stepLazy k op ls).1 = (stepEager k op es).1 ∨
      (op.isWrite = true ∧ (canon = false ∨ k.modWrite = false ∨ k.eagerWrite = false))) ∧
    RAll k.nF (stepLazy k op ls).2 (stepEager k op es).2 ∧
    (canon = true → CanonAll k.nF k.join (stepLazy k op ls).2) ∧
    (k.modWrite = true → k.eagerWrite = true → maskObs (stepLazy k op ls).1 = maskObs (stepEager k op es).1) := by
  cases hw : op.isWrite with
  | false =>
    obtain ⟨o, ls', es', e1, e2, s2, s3⟩ := step_core k hn hfc hfs op hw ls es h hok
    rw [e1, e2]
    exact ⟨.inl rfl, s2, fun hc => s3 (hcan hc), fun _ _ => rfl⟩
  | true =>
    obtain ⟨a, rfl⟩ := Op.eq_write_of_isWrite hw
    have w := step_write k hn a ls es h
    refine ⟨?_, by rw [stepLazy_write_snd, stepEager_write_snd]; exact h, fun hc => by rw [stepLazy_write_snd]; exact hcan hc,
      fun hm he => (w hm he).1⟩
    cases hc : canon with
    | false => exact .inr ⟨rfl, .inl rfl⟩
    | true =>
      cases hm : k.modWrite with
      | false => exact .inr ⟨rfl, .inr (.inl rfl)⟩
      | true =>
        cases he : k.eagerWrite with
        | false => exact .inr ⟨rfl, .inr (.inr rfl)⟩
        | true => exact .inl ((w hm he).2 (hcan hc))

/-- every operation of the sequence is applied with well-sized arguments (checked along the run) -/
def RunOK (k : Cfg) : List Op → List Lazy → Prop
  | [], _ => True
  | op :: ops, ls => OpOK op ls ∧ RunOK k ops (stepLazy k op ls).2

/-- `runOKb = true` (reported by the driver for every request) establishes the hypothesis `RunOK` of the
program theorems -/
theorem runOKb_sound (k : Cfg) (ops : List Op) : ∀ (ls : List Lazy), runOKb k ops ls = true → RunOK k ops ls := by
  induction ops with
  | nil => intro _ _; trivial
  | cons op ops ih =>
    intro ls h
    simp only [runOKb, Bool.and_eq_true] at h
    exact ⟨opOKb_sound op ls h.1, ih _ h.2⟩

theorem R_ofFile (nF : Nat) (buf : List FRow) : R nF (Lazy.ofFile buf) (Eager.ofFile nF buf) :=
  R_of_data_none (fun _ _ h => nomatch h) (fun _ _ h => nomatch h) rfl rfl

theorem RAll_ofFile (nF : Nat) (bufs : List (List FRow)) :
    RAll nF (bufs.map Lazy.ofFile) (bufs.map (Eager.ofFile nF)) := by
  refine ⟨by rw [List.length_map, List.length_map], fun i l e hl he => ?_⟩
  rw [List.getElem?_map] at hl he
  obtain ⟨b, hb, rfl⟩ := Option.map_eq_some_iff.1 hl
  rw [hb] at he
  cases he
  exact R_ofFile nF b

/-- hide the observations of `write` steps (for buffer types that do not write both kinds of table) -/
def maskWrites : List Op → List Obs → List Obs
  | op :: ops, o :: os => (if op.isWrite then Obs.unit else o) :: maskWrites ops os
  | _, _ => []

/-- hide only the PAYLOAD of the `write` observations: success-vs-failure of a write stays visible -/
def maskPayload (os : List Obs) : List Obs := os.map maskObs

/-- the three levels of trace agreement in one induction; `canon` as in `step_preserves` -/
theorem run_equiv (k : Cfg) (hn : 0 < k.nF) (hfc : k.fixedConcat = true) (hfs : k.fixedSetattr = true) (canon : Bool)
    (ops : List Op) :
    ∀ (ls : List Lazy) (es : List Eager), RAll k.nF ls es → (canon = true → CanonAll k.nF k.join ls) → RunOK k ops ls →
      maskWrites ops (runLazy k ops ls) = maskWrites ops (runEager k ops es) ∧
      (k.modWrite = true → k.eagerWrite = true →
        maskPayload (runLazy k ops ls) = maskPayload (runEager k ops es) ∧
        (canon = true → runLazy k ops ls = runEager k ops es)) := by
  induction ops with
  | nil => exact fun _ _ _ _ _ => ⟨rfl, fun _ _ => ⟨rfl, fun _ => rfl⟩⟩
  | cons op ops ih =>
    intro ls es h hcan hok
    have ⟨s1, s2, s3, s4⟩ := step_preserves k hn hfc hfs canon op ls es h hcan hok.1
    have ⟨i1, i2⟩ := ih _ _ s2 s3 hok.2
    refine ⟨List.cons_eq_cons.2 ⟨?_, i1⟩, fun hm he =>
      ⟨List.cons_eq_cons.2 ⟨s4 hm he, (i2 hm he).1⟩, fun hc => List.cons_eq_cons.2 ⟨?_, (i2 hm he).2 hc⟩⟩⟩
    · rcases s1 with s1 | s1
      · rw [s1]
      · rw [s1.1]; rfl
    · rcases s1 with s1 | ⟨_, s1⟩
      · exact s1
      · rw [hc, hm, he] at s1
        exact absurd s1 (by decide)

/-- for canonical files and a buffer type that writes both kinds of table: every sequence of public operations gives the same
observation trace (lengths, columns, rows, written BYTES, or failure) on both register files -/
theorem programs (k : Cfg) (hn : 0 < k.nF) (hfc : k.fixedConcat = true) (hfs : k.fixedSetattr = true)
    (hmw : k.modWrite = true) (hew : k.eagerWrite = true) (ops : List Op) :
    ∀ (ls : List Lazy) (es : List Eager), RAll k.nF ls es → CanonAll k.nF k.join ls → RunOK k ops ls →
      runLazy k ops ls = runEager k ops es :=
  fun ls es h hcan hok => ((run_equiv k hn hfc hfs true ops ls es h (fun _ => hcan) hok).2 hmw hew).2 rfl

/-- for ALL files and a buffer type that writes both kinds of table: the traces agree at every step, a write as far as its
SUCCESS OR FAILURE goes (for non-canonical text the lazy write keeps the original spelling, C04, the eager one re-formats) -/
theorem programs_values (k : Cfg) (hn : 0 < k.nF) (hfc : k.fixedConcat = true) (hfs : k.fixedSetattr = true)
    (hmw : k.modWrite = true) (hew : k.eagerWrite = true) (ops : List Op) :
    ∀ (ls : List Lazy) (es : List Eager), RAll k.nF ls es → RunOK k ops ls →
      maskPayload (runLazy k ops ls) = maskPayload (runEager k ops es) :=
  fun ls es h hok => ((run_equiv k hn hfc hfs false ops ls es h nofun hok).2 hmw hew).1

/-- for EVERY configuration (BAM included): the traces agree at every step that is not a write -/
theorem programs_nonwrite (k : Cfg) (hn : 0 < k.nF) (hfc : k.fixedConcat = true) (hfs : k.fixedSetattr = true) (ops : List Op) :
    ∀ (ls : List Lazy) (es : List Eager), RAll k.nF ls es → RunOK k ops ls →
      maskWrites ops (runLazy k ops ls) = maskWrites ops (runEager k ops es) :=
  fun ls es h hok => (run_equiv k hn hfc hfs false ops ls es h nofun hok).1

/-- where the two modes really differ: with a buffer type that writes neither modified nor eager tables (BAM) an UNTOUCHED lazy
table is written (its records' original bytes), the eager table cannot be -/
theorem bam_untouched_write_diverges (k : Cfg) (hmw : k.modWrite = false) (hew : k.eagerWrite = false)
    (ls : List Lazy) (es : List Eager) (a : Nat) (l : Lazy) (e : Eager) (hl : ls[a]? = some l) (he : es[a]? = some e)
    (hs : l.set = []) :
    (stepLazy k (.write a) ls).1 = .bytes (l.buf.map (·.raw)).flatten ∧ (stepEager k (.write a) es).1 = .err := by
  dsimp only [stepLazy, stepEager]
  rw [hl, he, hmw, hew, ← write_of_set_nil k.join k.nF l hs]
  dsimp only
  rw [hs]
  exact ⟨rfl, rfl⟩

/-- with such a buffer type a lazy table with replaced columns fails to write, like the eager one -/
theorem bam_modified_write_both_err (k : Cfg) (hmw : k.modWrite = false) (hew : k.eagerWrite = false)
    (ls : List Lazy) (es : List Eager) (a : Nat) (l : Lazy) (e : Eager) (hl : ls[a]? = some l) (he : es[a]? = some e)
    (hs : l.set ≠ []) :
    (stepLazy k (.write a) ls).1 = .err ∧ (stepEager k (.write a) es).1 = .err := by
  dsimp only [stepLazy, stepEager]
  rw [hl, he, hmw, hew]
  dsimp only
  rw [List.isEmpty_eq_false_iff.2 hs]
  exact ⟨rfl, rfl⟩

/-- the property itself: tables read lazily and eagerly from the same files are observationally equivalent under every
operation sequence: at every non-write step always; in success-vs-failure of every write when the buffer type writes both
kinds of table; in the written BYTES when moreover the text is canonical -/
theorem lazy_eager_equiv (k : Cfg) (hn : 0 < k.nF) (hfc : k.fixedConcat = true) (hfs : k.fixedSetattr = true)
    (bufs : List (List FRow)) (ops : List Op) (hok : RunOK k ops (bufs.map Lazy.ofFile)) :
    maskWrites ops (runLazy k ops (bufs.map Lazy.ofFile)) = maskWrites ops (runEager k ops (bufs.map (Eager.ofFile k.nF))) ∧
    (k.modWrite = true → k.eagerWrite = true →
      maskPayload (runLazy k ops (bufs.map Lazy.ofFile)) = maskPayload (runEager k ops (bufs.map (Eager.ofFile k.nF)))) ∧
    ((∀ b ∈ bufs, Canon k.nF k.join b) → k.modWrite = true → k.eagerWrite = true →
      runLazy k ops (bufs.map Lazy.ofFile) = runEager k ops (bufs.map (Eager.ofFile k.nF))) :=
  have h := RAll_ofFile k.nF bufs
  ⟨programs_nonwrite k hn hfc hfs ops _ _ h hok, fun hm he => programs_values k hn hfc hfs hm he ops _ _ h hok,
    fun hc hm he => programs k hn hfc hfs hm he ops _ _ h (List.forall_mem_map.2 hc) hok⟩

/-! demonstration data; `demoCfgK`: a buffer type without `concatenate` -/

def demoRow (a b : Nat) : FRow := ⟨[a, 9, b, 10], [⟨[a], [a]⟩, ⟨[b], [b]⟩]⟩
def demoJoin (fs : List Bytes) : Bytes := (match fs with | [] => [] | f :: r => r.foldl (fun acc x => acc ++ [9] ++ x) f) ++ [10]
def demoCfg : Cfg := ⟨2, demoJoin, true, true, true, true, true⟩
def demoCfgK : Cfg := ⟨2, demoJoin, true, false, true, true, true⟩
def demoOps : List Op :=
  [.get 0 1, .replace 1 1 [(0, [[55], [56]])], .cat 0 1, .index 0 0 (.slice none none (-1)), .setattr 0 1 [[65], [66], [67]],
   .tolist 0, .write 0, .row 0 (-1)]

example : runLazy demoCfg demoOps [Lazy.ofFile [demoRow 49 50], Lazy.ofFile [demoRow 51 52, demoRow 53 54]]
    = runEager demoCfg demoOps [Eager.ofFile 2 [demoRow 49 50], Eager.ofFile 2 [demoRow 51 52, demoRow 53 54]] :=
  programs demoCfg (by decide) rfl rfl rfl rfl demoOps _ _ (RAll_ofFile 2 [[demoRow 49 50], [demoRow 51 52, demoRow 53 54]])
    (by unfold CanonAll Canon; decide +kernel) (runOKb_sound _ _ _ (by decide +kernel))
example : (runLazy demoCfg demoOps [Lazy.ofFile [demoRow 49 50], Lazy.ofFile [demoRow 51 52, demoRow 53 54]]).getD 5 .err
    = .rows [[[56], [65]], [[55], [66]], [[49], [67]]] := by decide +kernel

example : runLazy demoCfgK demoOps [Lazy.ofFile [demoRow 49 50], Lazy.ofFile [demoRow 51 52, demoRow 53 54]]
    = runEager demoCfgK demoOps [Eager.ofFile 2 [demoRow 49 50], Eager.ofFile 2 [demoRow 51 52, demoRow 53 54]] :=
  programs demoCfgK (by decide) rfl rfl rfl rfl demoOps _ _ (RAll_ofFile 2 [[demoRow 49 50], [demoRow 51 52, demoRow 53 54]])
    (by unfold CanonAll Canon; decide +kernel) (runOKb_sound _ _ _ (by decide +kernel))

example : Canon 2 demoJoin [demoRow 51 52, demoRow 53 54] := by unfold Canon; decide +kernel

example : RunOK demoCfg [.get 0 1, .replace 1 1 [(0, [[55], [56]])], .cat 0 1]
    [Lazy.ofFile [demoRow 49 50], Lazy.ofFile [demoRow 51 52, demoRow 53 54]] :=
  runOKb_sound _ _ _ (by decide +kernel)

end C05
