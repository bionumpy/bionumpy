import BnpVerif.Model.C03
import BnpVerif.Gen.C03
import BnpVerif.Props.C02Delimited
import BnpVerif.Props.C02Records
/-! C03: the writers' bytes are the canonical serialisation, the canonical bytes read back as the table written, and
`write` calls / writer sessions compose. The theorems the property rests on are those listed in `Audit/C03.lean`. -/
namespace C03
open Base
open C02 (Bytes joinWith splitOn unlines linesOf specNat specInt specIntList isDigit Col Schema columnOf)

theorem natDigits_eq (n : Nat) : natDigits n = C18.digitsBE n := by
  induction n using C18.digitsBE.induct with
  | case1 n h => rw [natDigits, dif_pos h, C18.digitsBE_lt10 h]
  | case2 n h ih => rw [natDigits, dif_neg h, C18.digitsBE_ge10 h, ih]

theorem formatInt_eq (i : Int) : formatInt i = C18.decimal i := by
  unfold formatInt formatNat
  split
  · next h => rw [C18.decimal_neg i h, natDigits_eq]
  · next h => rw [C18.decimal_nonneg i (Int.not_lt.mp h), natDigits_eq]

/-- The decimal text has no leading zero (except for 0 itself) and only digits 0..9. -/
theorem natDigits_canonical (n : Nat) :
    (∀ d ∈ natDigits n, d < 10) ∧ (0 < n → (natDigits n).head? ≠ some 0) ∧ natDigits 0 = [0] := by
  refine ⟨natDigits_eq n ▸ C18.digitsBE_lt n, fun hn hc => ?_, by rw [natDigits]; rfl⟩
  rw [natDigits_eq] at hc
  refine (C18.digitsBE_head n).elim (fun h1 => ?_) (fun h => h hc)
  -- a single digit is the number itself
  have hv := C18.ofDigits_digitsBE n
  match hd : C18.digitsBE n, h1, hc with
  | [_], _, rfl => rw [hd] at hv; exact Nat.lt_irrefl 0 ((show 0 = n from hv) ▸ hn)

theorem map_add_sub (k : Nat) (l : List Nat) : (l.map (· + k)).map (· - k) = l := by
  rw [List.map_map]
  exact (List.map_congr_left (g := id) fun d _ => Nat.add_sub_cancel d k).trans (List.map_id l)

theorem specNat_formatNat (n : Nat) : specNat (formatNat n) = some n := by
  rw [C02.specNat_eq, formatNat, natDigits_eq]; exact C18.specNat_digits n

/-- Reading the decimal text written for an integer gives the integer back. -/
theorem parse_format_int (i : Int) : specInt (formatInt i) = some i := by
  rw [C02.specInt_eq, formatInt_eq]; exact C18.spec_roundtrip i

/-- Different integers are never written with the same text. -/
theorem formatInt_injective (i j : Int) (h : formatInt i = formatInt j) : i = j :=
  Option.some.inj (by rw [← parse_format_int i, h, parse_format_int j])

theorem formatInt_ne_nil (i : Int) : formatInt i ≠ [] :=
  C02.specInt_nonempty _ i (parse_format_int i)

/-- an integer text is '-' (45) and digits (48..57) -/
theorem not_mem_formatInt {x : Nat} (hx : x < 45) (i : Int) : x ∉ formatInt i := fun hm =>
  (C18.decimal_bytes i x (formatInt_eq i ▸ hm)).elim (fun h => Nat.lt_irrefl _ (h ▸ hx))
    fun h => absurd (Nat.lt_of_le_of_lt h.1 hx) (by decide)

theorem getD_map_getD {α} (l : List (List α)) (d : α) (i j : Nat) :
    (l.map (·.getD j d)).getD i d = (l.getD i []).getD j d := by
  simp only [List.getD_eq_getElem?_getD, List.getElem?_map]
  cases l[i]? <;> rfl

theorem joinRow (sep : Nat) (xs : List Bytes) (hne : xs ≠ []) :
    (List.range xs.length).flatMap (fun c => xs.getD c [] ++ [if c + 1 = xs.length then 10 else sep])
      = joinWith sep xs ++ [10] := by
  induction xs with
  | nil => exact absurd rfl hne
  | cons x ys ih =>
    simp only [List.length_cons, List.range_succ_eq_map, List.flatMap_cons, List.flatMap_map, List.getD_cons_zero,
      List.getD_cons_succ, Nat.add_right_cancel_iff]
    cases ys with
    | nil => simp [joinWith]
    | cons y zs => rw [ih (by simp)]; simp [joinWith]

/-- the records of a column-major table, as `joinColumns` reads it: as many as the first column is long, a missing cell
empty; on a rectangular table the inverse of `columnsOf` -/
def rowsOf (cols : List (List Bytes)) : List (List Bytes) :=
  (List.range ((cols.head?.map List.length).getD 0)).map (fun r => cols.map (fun col => col.getD r []))

theorem joinColumns_rows (sep : Nat) (cols : List (List Bytes)) : joinColumns sep cols = dumpSpec sep (rowsOf cols) := by
  cases cols with
  | nil => rfl
  | cons col cols =>
    unfold joinColumns dumpSpec rowsOf
    simp only
    rw [List.flatMap_map]
    congr 1; funext r
    have := joinRow sep ((col :: cols).map (·.getD r [])) (by simp)
    simpa only [List.length_map, getD_map_getD] using this

theorem rowsOf_columnsOf (n : Nat) (hn : 0 < n) (rows : List (List Bytes)) (hrect : ∀ r ∈ rows, r.length = n) :
    rowsOf (columnsOf n rows) = rows := by
  have hhead : ((columnsOf n rows).head?.map List.length).getD 0 = rows.length := by
    cases n with
    | zero => omega
    | succ m => simp [columnsOf, List.range_succ_eq_map]
  rw [rowsOf, hhead, columnsOf]
  simp only [List.map_map, Function.comp_def, getD_map_getD]
  conv => rhs; rw [← map_range_getD rows []]
  apply List.map_congr_left
  intro r hr
  have hlen : (rows.getD r []).length = n := by
    rw [List.mem_range] at hr
    rw [List.getD_eq_getElem?_getD, List.getElem?_eq_getElem hr]
    exact hrect _ (List.getElem_mem hr)
  exact hlen ▸ map_range_getD (rows.getD r []) []

/-- For every table (any number of rows, every row with the same `n ≥ 1` cells) the bytes
produced by the column-interleaving writer are exactly the canonical serialisation: for each record its cell
texts joined by TAB, followed by a newline. -/
theorem dump_canonical (n : Nat) (hn : 0 < n) (rows : List Row) (hrect : ∀ r ∈ rows, r.length = n) :
    dumpDelimited n rows = dumpSpec 9 (rows.map (·.map cellText)) := by
  unfold dumpDelimited
  split
  · next h => rw [h]; rfl
  · rw [joinColumns_rows, rowsOf_columnsOf n hn]
    exact List.forall_mem_map.mpr fun r hr => by rw [List.length_map]; exact hrect r hr

example : dumpDelimited 2 [[Cell.text [99], Cell.int (-5)]] = [99, 9, 45, 53, 10] := by decide +kernel

theorem dumpSpec_append (sep : Nat) (a b : List (List Bytes)) :
    dumpSpec sep (a ++ b) = dumpSpec sep a ++ dumpSpec sep b :=
  List.flatMap_append

theorem dumpDelimited_additive (n : Nat) (hn : 0 < n) :
    ∀ a b : List Row, (∀ r ∈ a ++ b, r.length = n) →
      dumpDelimited n (a ++ b) = dumpDelimited n a ++ dumpDelimited n b := by
  intro a b h
  rw [List.forall_mem_append] at h
  rw [dump_canonical n hn _ (List.forall_mem_append.mpr h), dump_canonical n hn a h.1, dump_canonical n hn b h.2,
    List.map_append, dumpSpec_append]

def cellOK : Cell → Prop
  | .text b => 9 ∉ b ∧ 10 ∉ b
  | _ => True

/-- reading a field back according to the kind of cell that was written (the schema) -/
def readCell : Cell → Bytes → Option Cell
  | .text _, t => some (.text t)
  | .int _, t => (specInt t).map Cell.int
  | .ints _, t => (specIntList t).map Cell.ints
  | .qual _, t => some (.qual (t.map (· - 33)))

def readRow (shape : Row) (fields : List Bytes) : Option Row :=
  if shape.length = fields.length then omap (fun p : Cell × Bytes => readCell p.1 p.2) (List.zip shape fields)
  else none            -- a record with more or fewer fields than the schema has columns is not read

/-- the reference reader: complete lines, split on TAB, each field read by its column's kind; `shape` only supplies the
kinds and the counts -/
def readTable (shape : List Row) (bs : Bytes) : Option (List Row) :=
  if shape.length = (linesOf bs).length then
    omap (fun p : Row × List Bytes => readRow p.1 p.2) (List.zip shape ((linesOf bs).map (splitOn 9)))
  else none            -- surplus or missing lines are not dropped silently

/-- bytes below 33 come from text cells only: quality bytes are `q + 33`, integer lists are integer texts joined by ',' (44) -/
theorem not_mem_cellText {x : Nat} (hx : x < 33) (c : Cell) (h : ∀ b, c = Cell.text b → x ∉ b) : x ∉ cellText c := by
  have hx' : x < 44 := Nat.lt_trans hx (by decide)
  cases c with
  | text b => exact h b rfl
  | int i => exact not_mem_formatInt (Nat.lt_succ_of_lt hx') i
  | ints l =>
    exact C02.not_mem_joinWith (Nat.ne_of_lt hx') (List.forall_mem_map.mpr fun i _ => not_mem_formatInt (Nat.lt_succ_of_lt hx') i)
  | qual q =>
    simp only [cellText, List.mem_map]
    rintro ⟨a, _, rfl⟩
    exact absurd hx (Nat.not_lt.mpr (Nat.le_add_left 33 a))

theorem cellText_free (c : Cell) (h : cellOK c) : 9 ∉ cellText c ∧ 10 ∉ cellText c :=
  ⟨not_mem_cellText (by decide) c fun _ hb => by subst hb; exact h.1,
   not_mem_cellText (by decide) c fun _ hb => by subst hb; exact h.2⟩

theorem specIntList_format (l : List Int) : specIntList (joinWith 44 (l.map formatInt)) = some l := by
  unfold specIntList
  cases l with
  | nil => rfl
  | cons a as =>
    have hfree : ∀ f ∈ (a :: as).map formatInt, 44 ∉ f :=
      List.forall_mem_map.mpr fun i _ => not_mem_formatInt (by decide) i
    rw [C02.splitOn_joinWith 44 _ (by simp) hfree,
      List.filter_eq_self.mpr (List.forall_mem_map.mpr fun i _ => by simpa using formatInt_ne_nil i), omap_map,
      omap_eq_self _ _ fun i _ => parse_format_int i]

theorem readCell_cellText (c : Cell) : readCell c (cellText c) = some c := by
  cases c with
  | text b => rfl
  | int i => exact congrArg (Option.map Cell.int) (parse_format_int i)
  | ints l => exact congrArg (Option.map Cell.ints) (specIntList_format l)
  | qual q => exact congrArg (some ∘ Cell.qual) (map_add_sub 33 q)

theorem linesOf_dumpSpec (sep : Nat) (hsep : 10 ≠ sep) (rows : List (List Bytes)) (hfree : ∀ r ∈ rows, ∀ f ∈ r, 10 ∉ f) :
    linesOf (dumpSpec sep rows) = rows.map (joinWith sep) := by
  have h : dumpSpec sep rows = unlines (rows.map (joinWith sep)) := by
    simp [dumpSpec, unlines, List.flatMap_def, List.map_map, Function.comp_def]
  rw [h, C02.linesOf_unlines]
  exact List.forall_mem_map.mpr fun r hr => C02.not_mem_joinWith hsep (hfree r hr)

/-- Text level: for every table of non-empty records whose fields contain neither TAB nor newline, the complete lines of
the canonical serialisation, split at TAB, are the table. -/
theorem roundtrip_records (rows : List (List Bytes)) (hne : ∀ r ∈ rows, r ≠ [])
    (hfree : ∀ r ∈ rows, ∀ f ∈ r, 9 ∉ f ∧ 10 ∉ f) :
    (linesOf (dumpSpec 9 rows)).map (splitOn 9) = rows := by
  rw [linesOf_dumpSpec 9 (by decide) rows fun r hr f hf => (hfree r hr f hf).2, List.map_map]
  conv => rhs; rw [← List.map_id rows]
  exact List.map_congr_left fun r hr => C02.splitOn_joinWith 9 r (hne r hr) fun f hf => (hfree r hr f hf).1

/-- The canonical bytes determine the table of cell texts: two tables (non-empty records, texts
free of TAB and newline) with the same serialisation are the same table. -/
theorem dump_injective (a b : List (List Bytes)) (hane : ∀ r ∈ a, r ≠ []) (hbne : ∀ r ∈ b, r ≠ [])
    (hafree : ∀ r ∈ a, ∀ f ∈ r, 9 ∉ f ∧ 10 ∉ f) (hbfree : ∀ r ∈ b, ∀ f ∈ r, 9 ∉ f ∧ 10 ∉ f)
    (h : dumpSpec 9 a = dumpSpec 9 b) : a = b := by
  rw [← roundtrip_records a hane hafree, ← roundtrip_records b hbne hbfree, h]

theorem dumpDelimited_lines (n : Nat) (hn : 0 < n) (rows : List Row) (hrect : ∀ r ∈ rows, r.length = n)
    (hfree : ∀ r ∈ rows, ∀ c ∈ r, 9 ∉ cellText c ∧ 10 ∉ cellText c) :
    linesOf (dumpDelimited n rows) = (rows.map (·.map cellText)).map (joinWith 9) ∧
    ((rows.map (·.map cellText)).map (joinWith 9)).map (splitOn 9) = rows.map (·.map cellText) := by
  have hne : ∀ r ∈ rows.map (·.map cellText), r ≠ [] := List.forall_mem_map.mpr fun r hr h0 => by
    have := hrect r hr
    rw [← List.length_map (f := cellText), h0] at this
    exact absurd this (Nat.ne_of_lt hn)
  have hf : ∀ r ∈ rows.map (·.map cellText), ∀ f ∈ r, 9 ∉ f ∧ 10 ∉ f :=
    List.forall_mem_map.mpr fun r hr => List.forall_mem_map.mpr (hfree r hr)
  rw [dump_canonical n hn rows hrect]
  have hl := linesOf_dumpSpec 9 (by decide) _ fun r hr f hf' => (hf r hr f hf').2
  exact ⟨hl, hl ▸ roundtrip_records _ hne hf⟩

/-- For every schema of text / identifier / integer / integer-list / quality columns and every
representable table (text cells free of TAB and newline; every record with the same `n ≥ 1` cells), reading the
bytes the writer produced with the reference reader gives the table back, cell for cell. -/
theorem roundtrip (n : Nat) (hn : 0 < n) (rows : List Row) (hrect : ∀ r ∈ rows, r.length = n)
    (hok : ∀ r ∈ rows, ∀ c ∈ r, cellOK c) :
    readTable rows (dumpDelimited n rows) = some rows := by
  obtain ⟨hl, hs⟩ := dumpDelimited_lines n hn rows hrect fun r hr c hc => cellText_free c (hok r hr c hc)
  rw [readTable, hl, hs, if_pos (by rw [List.length_map, List.length_map])]
  refine omap_zip_map _ _ _ fun r _ => ?_
  rw [readRow, if_pos (List.length_map _).symm]
  exact omap_zip_map _ _ _ fun c _ => readCell_cellText c

example : cellOK (Cell.text [99, 104, 114]) := ⟨by decide, by decide⟩
example : readTable [[Cell.text [99], Cell.int (-5)], [Cell.text [100, 101], Cell.int 300]]
    (dumpDelimited 2 [[Cell.text [99], Cell.int (-5)], [Cell.text [100, 101], Cell.int 300]])
    = some [[Cell.text [99], Cell.int (-5)], [Cell.text [100, 101], Cell.int 300]] := by decide +kernel

/-- the characters of Python's `str(float)` for a finite value (digits, sign, point, exponent mark) -/
def floatChar (b : Nat) : Bool := isDigit b || b == 45 || b == 43 || b == 46 || b == 101

/-- What is proved about a float cell. Its text — produced by Python's `str(float)`, an external
function, and consisting of `floatChar`s only — contains neither TAB nor newline, so it is a legal text cell; and in
whatever column of a record of otherwise legal cells it stands, the record is written and read back (strict reference
reader) with exactly that text in that column. NOT proved here, only corresponded (byte-exact against Python `repr` on
the way out, value within 1e-12 on the way back): that `str(float)` picks a decimal text whose value is the float
(Python's repr guarantee) and that `str_to_float` of such a text is the float to printing precision (C18's). -/
theorem float_partial (t : Bytes) (h : t.all floatChar = true) :
    cellOK (Cell.text t) ∧
    ∀ (pre post : Row), (∀ c ∈ pre ++ post, cellOK c) →
      readTable [pre ++ Cell.text t :: post] (dumpDelimited (pre.length + 1 + post.length) [pre ++ Cell.text t :: post])
        = some [pre ++ Cell.text t :: post] := by
  have hb : ∀ b, b = 9 ∨ b = 10 → b ∉ t := fun b hb hm => by
    have := List.all_eq_true.mp h b hm
    rcases hb with rfl | rfl <;> exact absurd this (by decide)
  have hok : cellOK (Cell.text t) := ⟨hb 9 (Or.inl rfl), hb 10 (Or.inr rfl)⟩
  refine ⟨hok, fun pre post hpp => roundtrip _ (Nat.lt_of_lt_of_le (Nat.succ_pos _) (Nat.le_add_right _ _)) _ ?_ ?_⟩
  · intro r hr
    rw [List.mem_singleton.mp hr, List.length_append, List.length_cons, ← Nat.add_assoc, Nat.add_right_comm]
  · intro r hr
    rw [List.forall_mem_append] at hpp
    rw [List.mem_singleton.mp hr]
    exact List.forall_mem_append.mpr ⟨hpp.1, List.forall_mem_cons.mpr ⟨hok, hpp.2⟩⟩

example : ∃ t : Bytes, t.all floatChar = true ∧ t = [45, 49, 46, 53, 101, 45, 48, 55] := ⟨_, by decide, rfl⟩
example : [45, 50, 46, 53, 101, 45, 48, 53].all floatChar = true := by decide +kernel

/-- a serialiser that works record by record -/
def Additive (dump : List Row → Bytes) : Prop := dump [] = [] ∧ ∀ a b, dump (a ++ b) = dump a ++ dump b

example : Additive (fun rows => dumpSpec 9 (rows.map (·.map cellText))) :=
  ⟨rfl, fun _ _ => (congrArg (dumpSpec 9) List.map_append).trans (dumpSpec_append ..)⟩

theorem map_dump_flatten (dump : List Row → Bytes) (hadd : Additive dump) (ts : List (List Row)) :
    (ts.map dump).flatten = dump ts.flatten := by
  induction ts with
  | nil => exact hadd.1.symm
  | cons t rest ih => rw [List.map_cons, List.flatten_cons, List.flatten_cons, ih, hadd.2]

section
variable {hdr : Bytes} {dump : List Row → Bytes}

/-- what one `write` call leaves after the header: nothing for an empty table, whatever `dump` would make of it -/
def put (dump : List Row → Bytes) (t : List Row) : Bytes := if t = [] then [] else dump t

theorem flatMap_put (hadd : Additive dump) (ts : List (List Row)) : ts.flatMap (put dump) = dump ts.flatten := by
  rw [← map_dump_flatten dump hadd]
  refine congrArg List.flatten (List.map_congr_left fun t _ => ?_)
  unfold put; split
  · next h => rw [h, hadd.1]
  · rfl

theorem writeStep_eq (pa : Bool) (st : WState) (t : List Row) :
    writeStep hdr dump pa st t
      = if (!pa && !st.headerWritten) = true then (hdr ++ put dump t, ⟨true⟩) else (put dump t, st) := by
  unfold writeStep put
  by_cases ht : t = []
  · rw [if_pos ht, if_pos ht, List.append_nil]
  · rw [if_neg ht, if_neg ht]; cases (!pa && !st.headerWritten) <;> rfl

/-- any serialiser, any state, any calls: the header once, in front, iff it was owed and a call was made (an empty
table still takes it), then what the calls put -/
theorem writeAll_eq (pa : Bool) (st : WState) (ts : List (List Row)) :
    writeAll hdr dump pa st ts
      = (if ts = [] then [] else if (!pa && !st.headerWritten) = true then hdr else []) ++ ts.flatMap (put dump) := by
  induction ts generalizing st with
  | nil => rfl
  | cons t rest ih =>
    rw [writeAll, writeStep_eq, if_neg (List.cons_ne_nil _ _), List.flatMap_cons]
    split
    · rw [ih]; simp
    · rw [ih]; simp [*]

theorem runSess_nil (s : Sess) : runSess hdr dump [] s = writeAll hdr dump false ⟨false⟩ s.calls := by
  cases s with | mk mode stream pieces
  cases mode <;> cases stream <;> rfl

theorem runSess_write (acc : Bytes) (s : Sess) (h : s.mode = .write) :
    runSess hdr dump acc s = runSess hdr dump [] s := by
  simp only [runSess, h, if_true]

theorem runSess_append (acc : Bytes) (s : Sess) (h : s.mode = .append) :
    runSess hdr dump acc s = acc ++ writeAll hdr dump false ⟨!(acc == [])⟩ s.calls := by
  cases s with | mk mode stream pieces
  subst h
  cases stream <;> rfl

/-- the invariant of a run: content = header (iff any call) ++ what the calls so far put; kept by a session that appends
or starts from nothing -/
theorem runSess_step (done : List (List Row)) (s : Sess) (hs : s.mode = Mode.append ∨ done = []) :
    runSess hdr dump ((if done = [] then [] else hdr) ++ done.flatMap (put dump)) s
      = (if done ++ s.calls = [] then [] else hdr) ++ (done ++ s.calls).flatMap (put dump) := by
  by_cases hd : done = []
  · subst hd
    rw [if_pos rfl, List.flatMap_nil, List.nil_append, List.nil_append, runSess_nil, writeAll_eq]
    rfl
  · rw [runSess_append _ _ (hs.resolve_right hd), writeAll_eq, if_neg hd,
      if_neg fun h => hd (List.append_eq_nil_iff.mp h).1, List.flatMap_append]
    -- content is there already: this session writes no header (or the header is empty)
    by_cases h0 : hdr ++ done.flatMap (put dump) = []
    · rw [(List.append_eq_nil_iff.mp h0).1]; simp
    · simp [h0]

theorem runAll_append (ss : List Sess) (hall : ∀ s ∈ ss, s.mode = Mode.append) (done : List (List Row)) :
    runAll hdr dump ((if done = [] then [] else hdr) ++ done.flatMap (put dump)) ss
      = (if done ++ ss.flatMap Sess.calls = [] then [] else hdr) ++ (done ++ ss.flatMap Sess.calls).flatMap (put dump) := by
  induction ss generalizing done with
  | nil => simp [runAll]
  | cons s rest ih =>
    rw [List.forall_mem_cons] at hall
    rw [runAll, runSess_step done s (Or.inl hall.1), ih hall.2, List.flatMap_cons, List.append_assoc]

/-- any serialiser: the first writer opened for writing or appending to nothing, all later ones appending -/
theorem runAll_eq (ss : List Sess) (htail : ∀ s ∈ ss.tail, s.mode = Mode.append) :
    runAll hdr dump [] ss
      = (if ss.flatMap Sess.calls = [] then [] else hdr) ++ (ss.flatMap Sess.calls).flatMap (put dump) := by
  cases ss with
  | nil => rfl
  | cons s rest =>
    have h0 := runSess_step (hdr := hdr) (dump := dump) [] s (Or.inr rfl)
    simp only [List.flatMap_nil, List.nil_append, if_true] at h0
    rw [runAll, h0, runAll_append rest htail]
    rfl

end

/-- For every list of tables written by successive `write` calls of one writer opened for
writing — any split of the rows, empty tables included — the file is the header exactly once (written by the
first call) followed by ONE dump of the concatenated table. (`e`: whether the target was empty when the writer was
opened; a 'w' writer owes the header either way.) -/
theorem writes_compose (hdr : Bytes) (dump : List Row → Bytes) (hadd : Additive dump) (e : Bool) (ts : List (List Row)) :
    writeAll hdr dump false (initState .write e) ts = (if ts = [] then [] else hdr) ++ dump ts.flatten := by
  rw [writeAll_eq, flatMap_put hadd]; simp [initState]

/-- a writer that owes the header (a 'w' writer, or an appending writer on a new/empty target) -/
theorem writes_compose_owing (hdr : Bytes) (dump : List Row → Bytes) (hadd : Additive dump) (ts : List (List Row)) :
    writeAll hdr dump false ⟨false⟩ ts = (if ts = [] then [] else hdr) ++ dump ts.flatten :=
  writes_compose hdr dump hadd true ts

/-- an appending writer on a non-empty target never writes a header -/
theorem writes_compose_append (hdr : Bytes) (dump : List Row → Bytes) (hadd : Additive dump)
    (ts : List (List Row)) :
    writeAll hdr dump false (initState .append false) ts = dump ts.flatten := by
  rw [writeAll_eq, flatMap_put hadd]; simp [initState]

/-- Any two ways of cutting the same rows into successive `write` calls of one
writer give the same file, as soon as at least one call is made in both. -/
theorem writes_chunking_independent (hdr : Bytes) (dump : List Row → Bytes) (hadd : Additive dump)
    (ts us : List (List Row)) (hsame : ts.flatten = us.flatten) (ht : ts ≠ []) (hu : us ≠ []) :
    writeAll hdr dump false (initState .write true) ts = writeAll hdr dump false (initState .write true) us := by
  rw [writes_compose hdr dump hadd, writes_compose hdr dump hadd, hsame, if_neg ht, if_neg hu]

example : ([[[Cell.int 1]], [[Cell.int 2]]] : List (List Row)).flatten = ([[[Cell.int 1], [Cell.int 2]]] : List (List Row)).flatten := rfl

/-- Cutting a table at increasing positions loses and duplicates nothing: the pieces put together
are the table (from the first position on); `cutAt` is the driver's cut into successive `write` calls. -/
theorem cutAt_flatten {α} (rows : List α) (prev : Nat) (cuts : List Nat)
    (hs : List.Pairwise (· ≤ ·) (prev :: cuts)) : (cutAt rows prev cuts).flatten = rows.drop prev := by
  induction cuts generalizing prev with
  | nil => simp [cutAt]
  | cons c cs ih =>
    rw [List.pairwise_cons] at hs
    have hpc : prev ≤ c := hs.1 c List.mem_cons_self
    -- `rows.drop prev` is its part below `c` followed by `rows.drop c`
    rw [cutAt, List.flatten_cons, ih c hs.2, ← List.take_append_drop (c - prev) (rows.drop prev), List.drop_drop,
      Nat.add_sub_cancel' hpc, List.drop_take]

example : (cutAt [1, 2, 3, 4, 5] 0 [0, 2, 2, 4]).flatten = [1, 2, 3, 4, 5] := rfl

theorem flatten_filter_ne_nil {α} (ts : List (List α)) : (ts.filter (· ≠ [])).flatten = ts.flatten :=
  List.flatten_filter_ne_nil

/-- a stream of chunks is the same as successive `write` calls: the header is written by the first chunk, empty or not -/
theorem writes_compose_stream (hdr : Bytes) (dump : List Row → Bytes) (hadd : Additive dump) (ts : List (List Row)) :
    writeStream hdr dump false (initState .write true) ts
      = (if ts = [] then [] else hdr) ++ dump ts.flatten :=
  writes_compose_owing hdr dump hadd ts

/-- the shipped stream rule dropped the header of a stream whose chunks are all empty -/
theorem writeStreamOld_unsound :
    writeStreamOld [35, 10] (fun t => List.replicate t.length 120) false (initState .write true) [[], []] = [] ∧
    writeStream [35, 10] (fun t => List.replicate t.length 120) false (initState .write true) [[], []] = [35, 10] := by decide +kernel

/-- Any sequence of writers on one target — the first opened for writing or appending (to a
new or empty file), all later ones appending; each fed by successive `write` calls or by one stream
of chunks; any split of the rows, empty pieces included — leaves: the header exactly once in front (iff at least
one `write` call was made at all), followed by ONE dump of the concatenated table. (The target is modelled as a byte
string: for a gzip target this is the decompressed content, by the stated external assumption on `gzip.open`; the
shipped rule that told plain from gzip targets is `runAllOld`/`sessionOld_unsound`.) `dump` is any record-by-record
serialiser; for the writer models of the formats see `sessions_compose_writer`. -/
theorem sessions_compose (hdr : Bytes) (dump : List Row → Bytes) (hadd : Additive dump) (ss : List Sess)
    (htail : ∀ s ∈ ss.tail, s.mode = Mode.append) :
    runAll hdr dump [] ss
      = (if ss.flatMap Sess.calls = [] then [] else hdr) ++ dump (ss.flatMap Sess.calls).flatten := by
  rw [runAll_eq ss htail, flatMap_put hadd]

/-- A writer opened with 'w' forgets whatever the target held: only the sessions from the
last 'w' on matter. -/
theorem sessions_truncate (hdr : Bytes) (dump : List Row → Bytes) (acc : Bytes) (before after : List Sess) (s : Sess)
    (hs : s.mode = Mode.write) :
    runAll hdr dump acc (before ++ s :: after) = runAll hdr dump [] (s :: after) := by
  induction before generalizing acc with
  | nil => rw [List.nil_append, runAll, runAll, runSess_write acc s hs]
  | cons b rest ih => exact ih _

example : (⟨Mode.write, false, [[]]⟩ : Sess).mode = Mode.write := rfl

/-- the shipped rule: appending to a gzip target wrote the header again; appending to a new plain file wrote none -/
theorem sessionOld_unsound :
    runAllOld [35, 10] (fun t => List.replicate t.length 120) true []
        [⟨Mode.write, false, [[[]]]⟩, ⟨Mode.append, false, [[[]]]⟩] = [35, 10, 120, 35, 10, 120] ∧
    runAllOld [35, 10] (fun t => List.replicate t.length 120) false [] [⟨Mode.append, false, [[[]]]⟩] = [120] ∧
    runAll [35, 10] (fun t => List.replicate t.length 120) []
        [⟨Mode.write, false, [[[]]]⟩, ⟨Mode.append, false, [[[]]]⟩] = [35, 10, 120, 120] ∧
    runAll [35, 10] (fun t => List.replicate t.length 120) [] [⟨Mode.append, false, [[[]]]⟩] = [35, 10, 120] := by decide +kernel

theorem nLines_succ (W k : Nat) : nLines W (k + 1) = k / W + 1 := by
  rw [nLines, Int.natCast_succ, Int.add_sub_cancel, ← Int.ofNat_fdiv]
  exact Int.toNat_natCast (k / W + 1)

theorem lastLen_succ (W k : Nat) : lastLen W (k + 1) = k % W + 1 := by
  rw [lastLen, Int.natCast_succ, Int.add_sub_cancel, ← Int.ofNat_fmod]
  exact Int.toNat_natCast (k % W + 1)

theorem nLines_zero (W : Nat) (hW : 0 < W) : nLines W 0 = 0 := by
  rw [nLines, Int.fdiv_eq_ediv_of_nonneg _ (Int.natCast_nonneg W)]
  -- `(0 : Int) - 1` computes to `Int.negSucc 0`
  show (Int.negSucc 0 / (W : Int) + 1).toNat = 0
  rw [Int.negSucc_ediv 0 (Int.natCast_pos.mpr hW), show Int.ediv (0 : Nat) (W : Int) = 0 from Int.zero_ediv _]
  rfl

theorem lastLen_zero (W : Nat) (hW : 0 < W) : lastLen W 0 = W := by
  rw [lastLen, Int.fmod_eq_emod_of_nonneg _ (Int.natCast_nonneg W)]
  show (Int.negSucc 0 % (W : Int) + 1).toNat = W
  rw [Int.negSucc_emod 0 (Int.natCast_pos.mpr hW)]
  simp

/-- For every line width `W ≥ 1` and sequence length `L ≥ 1`: there is at least one line, the
last line has between 1 and `W` characters, the full lines plus the last line hold exactly `L` characters, which fit into that many lines. -/
theorem fasta_wrap (W L : Nat) (hW : 0 < W) (hL : 0 < L) :
    1 ≤ nLines W L ∧ 1 ≤ lastLen W L ∧ lastLen W L ≤ W ∧ (nLines W L - 1) * W + lastLen W L = L ∧
    L ≤ nLines W L * W := by
  obtain ⟨k, rfl⟩ := Nat.exists_eq_add_one_of_ne_zero (Nat.ne_of_gt hL)
  rw [nLines_succ, lastLen_succ, Nat.add_sub_cancel, Nat.succ_mul, Nat.mul_comm]
  have h1 := Nat.mod_lt k hW
  have h2 := Nat.div_add_mod k W
  generalize k / W = q at *
  generalize k % W = r at *
  subst h2
  exact ⟨Nat.le_add_left 1 q, Nat.le_add_left 1 r, h1, (Nat.add_assoc ..).symm,
    Nat.add_assoc .. ▸ Nat.add_le_add_left h1 _⟩

/-- `L = 0`: the arithmetic gives zero lines and a "last line" of `W`; the last-line slot then coincides with the
header line (kept inside the property's domain: see `headerLenOld_unsound`) -/
theorem fasta_wrap_empty (W : Nat) (hW : 0 < W) : nLines W 0 = 0 ∧ lastLen W 0 = W ∧ lineLens W 0 = [] :=
  ⟨nLines_zero W hW, lastLen_zero W hW, by rw [lineLens, nLines_zero W hW]⟩

theorem lineLens_succ (W k : Nat) : lineLens W (k + 1) = List.replicate (k / W) W ++ [k % W + 1] := by
  rw [lineLens, nLines_succ, lastLen_succ]

/-- the line lengths the writer allots to a sequence always add up to the sequence length (so filling all
lines from the flat concatenation of all sequences never shifts a later record), every line is 1..W long -/
theorem lineLens_sum (W L : Nat) (hW : 0 < W) :
    (lineLens W L).sum = L ∧ ∀ x ∈ lineLens W L, 1 ≤ x ∧ x ≤ W := by
  cases L with
  | zero => simp [(fasta_wrap_empty W hW).2.2]
  | succ k =>
    rw [lineLens_succ]
    refine ⟨?_, ?_⟩
    · rw [List.sum_append, List.sum_replicate_nat, List.sum_singleton, Nat.mul_comm, ← Nat.add_assoc, Nat.div_add_mod]
    · simp only [List.mem_append, List.mem_replicate, List.mem_singleton]
      rintro x (⟨_, rfl⟩ | rfl)
      · exact ⟨hW, Nat.le_refl _⟩
      · exact ⟨Nat.le_add_left 1 _, Nat.mod_lt k hW⟩

example : lineLens 80 161 = [80, 80, 1] := by decide +kernel

/-- joining the wrapped lines gives the sequence back -/
theorem fasta_unwrap (W : Nat) (hW : 0 < W) (fuel : Nat) (s : Bytes) (h : s.length ≤ fuel) :
    (wrap W fuel s).flatten = s := by
  induction fuel generalizing s with
  | zero => rw [List.eq_nil_of_length_eq_zero (Nat.le_zero.mp h)]; rfl
  | succ k ih =>
    rw [wrap]
    split
    · next h0 => rw [h0]; rfl
    · have hlen : (s.drop W).length ≤ k :=
        List.length_drop ▸ Nat.le_trans (Nat.sub_le_sub_left hW _) (Nat.sub_le_of_le_add h)
      rw [List.flatten_cons, ih (s.drop W) hlen, List.take_append_drop]

theorem wrap_nil (W fuel : Nat) : wrap W fuel [] = [] := by
  cases fuel <;> rfl

/-- Every line of a wrapped sequence has between 1 and `W` characters and all lines but the last
have exactly `W`. -/
theorem wrap_lengths (W : Nat) (hW : 0 < W) (fuel : Nat) (s : Bytes) :
    (∀ x ∈ wrap W fuel s, 1 ≤ x.length ∧ x.length ≤ W) ∧ ∀ x ∈ (wrap W fuel s).dropLast, x.length = W := by
  induction fuel generalizing s with
  | zero => exact ⟨nofun, nofun⟩
  | succ k ih =>
    rw [wrap]
    split
    · exact ⟨nofun, nofun⟩
    · next hne =>
      obtain ⟨ih1, ih2⟩ := ih (s.drop W)
      have hpos : 0 < s.length := List.length_pos_iff.mpr hne
      refine ⟨List.forall_mem_cons.mpr ⟨List.length_take ▸ ⟨Nat.le_min.mpr ⟨hW, hpos⟩, Nat.min_le_left ..⟩, ih1⟩, ?_⟩
      cases hrest : wrap W k (s.drop W) with
      | nil => exact nofun
      | cons y ys =>
        -- more lines follow, so the sequence is longer than `W` and the first line is full
        have hlong : ¬ s.length ≤ W := fun h => by
          rw [List.drop_eq_nil_iff.mpr h, wrap_nil] at hrest; cases hrest
        rw [List.dropLast_cons_cons]
        exact List.forall_mem_cons.mpr ⟨List.length_take ▸ Nat.min_eq_left (Nat.le_of_not_le hlong), hrest ▸ ih2⟩

theorem unflatten_replicate_wrap (W q r : Nat) (hr : r < W) (fuel : Nat) (hf : q < fuel) (s : Bytes)
    (hs : s.length = q * W + r + 1) : C02.unflatten (List.replicate q W ++ [r + 1]) s = wrap W fuel s := by
  induction q generalizing fuel s with
  | zero =>
    cases fuel with
    | zero => exact absurd hf (Nat.lt_irrefl 0)
    | succ f =>
      rw [Nat.zero_mul, Nat.zero_add] at hs
      have hW : s.length ≤ W := hs ▸ hr
      simp only [List.replicate_zero, List.nil_append, C02.unflatten, wrap, if_neg (List.ne_nil_of_length_eq_add_one hs),
        List.drop_of_length_le hW, List.take_of_length_le hW, List.take_of_length_le (Nat.le_of_eq hs)]
      cases f <;> rfl
  | succ q ih =>
    cases fuel with
    | zero => exact absurd hf (Nat.not_lt_zero _)
    | succ f =>
      have hlen : (s.drop W).length = q * W + r + 1 := by
        rw [List.length_drop, hs, Nat.succ_mul, Nat.add_right_comm _ W r, Nat.add_right_comm _ W 1, Nat.add_sub_cancel]
      simp only [List.replicate_succ, List.cons_append, C02.unflatten, wrap,
        if_neg (List.ne_nil_of_length_eq_add_one hs), ih f (Nat.lt_of_succ_lt_succ hf) _ hlen]

theorem unflatten_lineLens (W : Nat) (hW : 0 < W) (s : Bytes) :
    C02.unflatten (lineLens W s.length) s = wrap W s.length s := by
  cases hs : s.length with
  | zero => rw [(fasta_wrap_empty W hW).2.2]; rfl
  | succ k =>
    rw [lineLens_succ]
    exact unflatten_replicate_wrap W _ _ (Nat.mod_lt k hW) _ (Nat.lt_succ_of_le (Nat.div_le_self k W)) s
      (by rw [hs, Nat.div_add_mod'])

theorem allLines_eq (W : Nat) (hW : 0 < W) (entries : List (Bytes × Bytes)) :
    C02.unflatten (entries.map (fun e => lineLens W e.2.length)).flatten (entries.map (·.2)).flatten
      = (entries.map (fun e => wrap W e.2.length e.2)).flatten := by
  induction entries with
  | nil => rfl
  | cons e rest ih =>
    simp only [List.map_cons, List.flatten_cons]
    rw [C02.unflatten_append, (lineLens_sum W e.2.length hW).1, List.take_left, List.drop_left, ih, unflatten_lineLens W hW]

theorem zip_map_flatMap {α β γ} (l : List α) (f : α → β) (g : α × β → List γ) :
    (List.zip l (l.map f)).flatMap g = l.flatMap (fun a => g (a, f a)) := by
  induction l with
  | nil => rfl
  | cons a as ih => simp [ih]

/-- For every list of records and every line width `W ≥ 1`, the bytes the FASTA writer builds
(line-length table + one flat fill of all sequences) are the canonical wrapped layout:
'>' name, newline, then the sequence in chunks of `W`, one per line — an empty sequence gives no sequence line. -/
theorem fasta_layout (W : Nat) (hW : 0 < W) (entries : List (Bytes × Bytes)) :
    dumpFasta W entries = fastaSpec W entries := by
  have hlen : (entries.map (fun e => lineLens W e.2.length)).map List.length
      = (entries.map (fun e => wrap W e.2.length e.2)).map List.length := by
    simp only [List.map_map]
    exact List.map_congr_left fun e _ => by
      simp only [Function.comp, ← unflatten_lineLens W hW e.2, C02.unflatten_length]
  simp only [dumpFasta, fastaSpec]
  rw [allLines_eq W hW, hlen, C02.unflatten_flatten]
  exact zip_map_flatMap entries (fun e => wrap W e.2.length e.2) _

/-- before the repair the header line's length slot was overwritten by `last_length + 1` when the sequence was
empty (e.g. name "ab": 81 instead of 4), which the ragged assignment then rejected (AssertionError) -/
theorem headerLenOld_unsound :
    headerLenOld 80 2 0 = 81 ∧ headerLenNew 80 2 0 = 4 ∧ headerLenOld 80 2 5 = headerLenNew 80 2 5 := by decide

theorem exists_of_length_two {α} {l : List α} (h : l.length = 2) : ∃ a b, l = [a, b] :=
  ⟨_, _, List.eq_getElem_of_length_eq_two l h⟩

theorem exists_of_length_three {α} {l : List α} (h : l.length = 3) : ∃ a b c, l = [a, b, c] :=
  ⟨_, _, _, List.eq_getElem_of_length_eq_three l h⟩

/-- Every record is written as '@' name / sequence / '+' / qualities, one per line. -/
theorem fastq_layout (rows : List Row) (h : ∀ r ∈ rows, r.length = 3) :
    dumpFastq 64 [1, 0, 0, 0] rows = fastqSpec rows := by
  unfold dumpFastq fastqSpec joinFields
  rw [List.flatMap_map]
  refine congrArg List.flatten (List.map_congr_left fun r hr => ?_)
  obtain ⟨a, b, c, rfl⟩ := exists_of_length_three (h r hr)
  simp

/-- the writer's line structure measured on the running code (every length 0..242 and around 400) is the
arithmetic the theorems are about, at the code's own line width -/
theorem gen_fasta_wrap :
    Gen.C03.fastaLineWidth = 80 ∧
    Gen.C03.fastaWrapTable.all (fun e =>
      (lineLens Gen.C03.fastaLineWidth e.1).length == e.2.1 &&
      (lineLens Gen.C03.fastaLineWidth e.1).getLast?.getD 0 == e.2.2.1 &&
      (lineLens Gen.C03.fastaLineWidth e.1).foldl max 0 == e.2.2.2) = true := by
  decide +kernel

/-- the default VCF header consists of complete '#' lines only (so it can never be taken for a record) -/
theorem gen_vcf_header :
    (C02.linesOf Gen.C03.vcfDefaultHeader).all (fun l => l.head? == some 35) = true ∧
    C02.tailOf Gen.C03.vcfDefaultHeader = [] ∧ Gen.C03.vcfDefaultHeader ≠ [] := by decide +kernel

/-- the FASTQ / FASTA markers and line offsets measured on the package are the ones the layout theorems use -/
theorem gen_fastq : Gen.C03.fastqMarker = 64 ∧ Gen.C03.fastqLineOffsets = [1, 0, 0, 0] ∧
    Gen.C03.fastqLinesPerEntry = 4 ∧ Gen.C03.fastaMarker = 62 := by decide

/-- the cell is a legal value of a column of documented kind `k` (the kinds of `C02.specColumn`): a text cell is free
of TAB, LF, CR; a quality cell fits none -/
def cellFits (k : String) : Cell → Prop
  | .int i => k = "sint" ∨ k = "oint" ∨ (k = "int" ∧ 0 ≤ i)
  | .text t => (k = "str" ∨ k = "float" ∨ (k = "id" ∧ t.getLast? ≠ some 0) ∨ (k = "strand" ∧ t.length = 1 ∧ t.all C02.strandOK = true))
      ∧ 9 ∉ t ∧ 10 ∉ t ∧ 13 ∉ t
  | .ints _ => k = "ilist"
  | .qual _ => False

/-- the parsed column that a list of cells of one kind denotes -/
def colOf (k : String) (cells : List Cell) : Col :=
  if k = "int" ∨ k = "sint" ∨ k = "oint" then Col.ints (cells.map (fun c => match c with | .int i => i | _ => 0))
  else if k = "ilist" then Col.intLists (cells.map (fun c => match c with | .ints l => l | _ => []))
  else if k = "float" then Col.floats (cells.map cellText)
  else Col.strs (cells.map cellText)

theorem specNatI_formatInt (i : Int) (h : 0 ≤ i) : C02.specNatI (formatInt i) = some i := by
  rw [formatInt, if_neg (Int.not_lt.mpr h), C02.specNatI, specNat_formatNat]
  exact congrArg some (Int.natAbs_of_nonneg h)

theorem specOInt_formatInt (i : Int) : C02.specOInt (formatInt i) = some i := by
  -- "." (the missing-value text) is not an integer text
  have h2 : formatInt i ≠ [46] := fun h => by
    have : specInt [46] = some i := h ▸ parse_format_int i
    cases this
  rw [C02.specOInt, if_neg (not_or.mpr ⟨formatInt_ne_nil i, h2⟩), parse_format_int]

theorem omap_cellText {β} (rd : Bytes → Option β) (g : Cell → β) (cells : List Cell)
    (h : ∀ c ∈ cells, rd (cellText c) = some (g c)) : omap rd (cells.map cellText) = some (cells.map g) := by
  rw [omap_map, omap_some_map _ g cells h]

theorem specColumn_cells (k : String) (hk : C02.modelledKind k) (cells : List Cell) (hfit : ∀ c ∈ cells, cellFits k c) :
    C02.specColumn k (cells.map cellText) = some (colOf k cells) := by
  -- "str" and "float" are closed by the reduction; of the others each admits one constructor of `Cell`
  rcases hk with rfl | rfl | rfl | rfl | rfl | rfl | rfl | rfl <;>
    simp only [C02.specColumn, colOf, ↓reduceIte, String.reduceEq, true_or, or_true, or_self]
  · -- "int"
    refine congrArg (Option.map Col.ints) (omap_cellText _ _ cells fun c hc => ?_)
    have h := hfit c hc
    cases c with
    | int i => exact specNatI_formatInt i (by simpa only [cellFits, String.reduceEq, false_or, true_and] using h)
    | _ => simp only [cellFits, String.reduceEq, or_self, false_and] at h
  · -- "sint"
    refine congrArg (Option.map Col.ints) (omap_cellText _ _ cells fun c hc => ?_)
    have h := hfit c hc
    cases c with
    | int i => exact parse_format_int i
    | _ => simp only [cellFits, String.reduceEq, or_self, false_and] at h
  · -- "oint"
    refine congrArg (Option.map Col.ints) (omap_cellText _ _ cells fun c hc => ?_)
    have h := hfit c hc
    cases c with
    | int i => exact specOInt_formatInt i
    | _ => simp only [cellFits, String.reduceEq, or_self, false_and] at h
  · -- "id"
    rw [if_pos]
    refine List.all_eq_true.mpr (List.forall_mem_map.mpr fun c hc => ?_)
    have h := hfit c hc
    cases c with
    | text t => simpa [cellFits, cellText] using h.1
    | _ => simp only [cellFits, String.reduceEq, or_self, false_and] at h
  · -- "ilist"
    refine congrArg (Option.map Col.intLists) (omap_cellText _ _ cells fun c hc => ?_)
    have h := hfit c hc
    cases c with
    | ints l => exact specIntList_format l
    | _ => simp only [cellFits, String.reduceEq, or_self, false_and] at h
  · -- "strand"
    rw [if_pos]
    refine List.all_eq_true.mpr (List.forall_mem_map.mpr fun c hc => ?_)
    have h := hfit c hc
    cases c with
    | text t => simpa [cellFits, cellText] using h.1
    | _ => simp only [cellFits, String.reduceEq, or_self, false_and] at h

/-- columns `j, j+1, …` of the table as the parsed columns of kinds `ks` (what `C02.specColumnsFrom` is to return) -/
def colsFrom (rows : List Row) : Nat → List String → List Col
  | _, [] => []
  | j, k :: ks => colOf k (columnOf rows j) :: colsFrom rows (j + 1) ks

theorem specColumnsFrom_cells (rows : List Row) (ks : List String) (j : Nat)
    (hmod : ∀ k ∈ ks, C02.modelledKind k)
    (hfit : ∀ i k, ks[i]? = some k → ∀ c ∈ columnOf rows (j + i), cellFits k c) :
    C02.specColumnsFrom (rows.map (fun r => r.map cellText)) j ks = some (colsFrom rows j ks) := by
  induction ks generalizing j with
  | nil => rfl
  | cons k rest ih =>
    rw [List.forall_mem_cons] at hmod
    rw [C02.specColumnsFrom, C02.columnOf_map, specColumn_cells k hmod.1 (columnOf rows j) (hfit 0 k rfl),
      ih (j + 1) hmod.2 fun i k' hi => by simpa only [Nat.add_assoc, Nat.add_comm 1] using hfit (i + 1) k' hi]
    rfl

theorem cellText_bytes_fit (k : String) (c : Cell) (h : cellFits k c) :
    9 ∉ cellText c ∧ 10 ∉ cellText c ∧ 13 ∉ cellText c := by
  refine ⟨not_mem_cellText (by decide) c ?_, not_mem_cellText (by decide) c ?_, not_mem_cellText (by decide) c ?_⟩ <;>
    (rintro b rfl; first | exact h.2.1 | exact h.2.2.1 | exact h.2.2.2)

/-- Model-level round trip through BOTH models: for every schema of the modelled column types
and every non-empty table whose cells fit their column kinds (text free of TAB/LF/CR; unsigned columns non-negative),
parsing — with the model of the code's reader (offset table, CR rule, digit matrix / sign path, padded identifiers,
list split) — the bytes produced by the model of the code's writer (column interleave, `ints_to_strings` text)
returns exactly the table, column by column, with one entry per row. -/
theorem write_read_model (S : Schema) (sks : List String) (rows : List Row)
    (hk : S.cols.map (·.2) = sks.map C02.normKind) (hS : S.delim = 9)
    (hmod : ∀ k ∈ sks, C02.modelledKind k)
    (hrows : rows ≠ []) (hn : 0 < sks.length) (hrect : ∀ r ∈ rows, r.length = sks.length)
    (hfit : ∀ i k, sks[i]? = some k → ∀ c ∈ columnOf rows i, cellFits k c) :
    C02.parseDelimited S (dumpDelimited sks.length rows) = .ok (rows.length, colsFrom rows 0 sks) := by
  -- every cell stands in a column whose kind it fits, hence its text has no TAB / LF / CR
  have hcell : ∀ r ∈ rows, ∀ c ∈ r, 9 ∉ cellText c ∧ 10 ∉ cellText c ∧ 13 ∉ cellText c := fun r hr c hc => by
    obtain ⟨i, hi, rfl⟩ := List.getElem_of_mem hc
    exact cellText_bytes_fit _ _ (hfit i _ (List.getElem?_eq_getElem (hrect r hr ▸ hi)) _
      (List.mem_filterMap.mpr ⟨r, hr, List.getElem?_eq_getElem hi⟩))
  obtain ⟨hlines, hsplit⟩ := dumpDelimited_lines _ hn rows hrect fun r hr c hc =>
    ⟨(hcell r hr c hc).1, (hcell r hr c hc).2.1⟩
  have h13 : ∀ t ∈ rows.map (·.map cellText), ∀ f ∈ t, 13 ∉ f :=
    List.forall_mem_map.mpr fun r hr => List.forall_mem_map.mpr fun c hc => (hcell r hr c hc).2.2
  have hnocr : ∀ l ∈ linesOf (dumpDelimited sks.length rows), l.getLast? ≠ some 13 := by
    rw [hlines]
    exact List.forall_mem_map.mpr fun t ht h => C02.not_mem_joinWith (by decide) (h13 t ht) (List.mem_of_getLast? h)
  -- first the delimiter: neither LF nor CR
  have := C02.parse_delimited S sks (dumpDelimited sks.length rows) hk (hS ▸ by decide) (hS ▸ by decide)
    (fun h => hrows (List.map_eq_nil_iff.mp (List.map_eq_nil_iff.mp (hlines ▸ h)))) (Or.inl hnocr)
    (by
      rw [hS, C02.specLines_of_nocr _ hnocr, hlines]
      intro l hl
      have := List.mem_map_of_mem (f := splitOn 9) hl
      rw [hsplit] at this
      obtain ⟨r, hr, hrl⟩ := List.mem_map.mp this
      rw [← hrl, List.length_map, hrect r hr])
    (colsFrom rows 0 sks)
    (by
      rw [hS, C02.specLines_of_nocr _ hnocr, hlines, hsplit]
      exact specColumnsFrom_cells rows sks 0 hmod fun i k hi => (Nat.zero_add i).symm ▸ hfit i k hi)
  rwa [hlines, List.length_map, List.length_map] at this

example : Gen.C02.bed3.cols.map (·.2) = ["id", "int", "int"].map C02.normKind ∧ Gen.C02.bed3.delim = 9 := by decide +kernel
example : (match C02.parseDelimited Gen.C02.bed3 (dumpDelimited 3 [[Cell.text [99], Cell.int 1, Cell.int 22], [Cell.text [120, 121], Cell.int 333, Cell.int 4]]) with
    | .ok r => r == (2, colsFrom [[Cell.text [99], Cell.int 1, Cell.int 22], [Cell.text [120, 121], Cell.int 333, Cell.int 4]] 0 ["id", "int", "int"])
    | .error _ => false) = true := by decide +kernel

theorem mem_of_mem_wrap {W : Nat} (hW : 0 < W) {s x : Bytes} {b : Nat} (hx : x ∈ wrap W s.length s) (hb : b ∈ x) :
    b ∈ s := by
  have := List.mem_flatten.mpr ⟨x, hx, hb⟩
  rwa [fasta_unwrap W hW _ s (Nat.le_refl _)] at this

theorem fastaSpec_unlines (W : Nat) (entries : List (Bytes × Bytes)) :
    fastaSpec W entries = unlines (C02.fastaSer 62 (entries.map (fun e => (e.1, wrap W e.2.length e.2)))) := by
  unfold fastaSpec unlines C02.fastaSer
  induction entries with
  | nil => rfl
  | cons e rest ih =>
    simp only [List.flatMap_cons, List.map_cons, List.map_append, List.flatten_append, List.flatten_cons] at ih ⊢
    rw [ih]

/-- Model-level FASTA round trip: for every line width `W ≥ 1` and every list of records
whose names contain no newline and whose sequences contain neither a newline nor the record marker '>': grouping
(with the model of the code's reader) the lines of the bytes built by the model of the code's writer returns every
name and every sequence — the empty ones included — exactly. -/
theorem fasta_write_read_model (W : Nat) (hW : 0 < W) (entries : List (Bytes × Bytes))
    (hname : ∀ e ∈ entries, 10 ∉ e.1) (hseq : ∀ e ∈ entries, 10 ∉ e.2 ∧ 62 ∉ e.2) :
    C02.fastaGroup 62 (linesOf (dumpFasta W entries)) = (entries.map (·.1), entries.map (·.2)) := by
  have hfree : ∀ l ∈ C02.fastaSer 62 (entries.map (fun e => (e.1, wrap W e.2.length e.2))), 10 ∉ l := by
    simp only [C02.fastaSer, List.mem_flatMap, List.mem_map, List.mem_cons]
    rintro l ⟨_, ⟨e, he, rfl⟩, rfl | hl⟩ hm
    · exact (List.mem_cons.mp hm).elim (by decide) (hname e he)
    · exact (hseq e he).1 (mem_of_mem_wrap hW hl hm)
  -- a sequence line cannot look like a header: it does not even contain the marker
  have hhead : ∀ p ∈ entries.map (fun e => (e.1, wrap W e.2.length e.2)), ∀ l ∈ p.2, l.head? ≠ some 62 :=
    List.forall_mem_map.mpr fun e he l hl hh => (hseq e he).2 (mem_of_mem_wrap hW hl (List.mem_of_mem_head? hh))
  rw [fasta_layout W hW, fastaSpec_unlines, C02.linesOf_unlines _ hfree, C02.fasta_wrapped_join 62 _ hhead]
  simp only [List.map_map, Function.comp_def]
  exact congrArg _ (List.map_congr_left fun e _ => fasta_unwrap W hW e.2.length e.2 (Nat.le_refl _))

/-- the four lines of a record. Keep it in front of `fastq_write_read_model`: the `match` in that statement elaborates to
this definition's matcher. -/
def fastqLines (r : Row) : List Bytes :=
  match r.map cellText with
  | [n, s, q] => [64 :: n, s, [43], q]
  | _ => []

theorem fastqSpec_unlines (rows : List Row) (h3 : ∀ r ∈ rows, r.length = 3) :
    fastqSpec rows = unlines (rows.map fastqLines).flatten := by
  rw [unlines, List.map_flatten, List.flatten_flatten, List.map_map, List.map_map]
  refine congrArg List.flatten (List.map_congr_left fun r hr => ?_)
  obtain ⟨a, b, c, rfl⟩ := exists_of_length_three (h3 r hr)
  simp [fastqLines]

/-- Model-level FASTQ round trip: for every non-empty list of records (name, sequence,
qualities; no newline inside a text), the (start, end) table that the model of the reader builds on the bytes
produced by the model of the writer denotes, record by record: the name (marker dropped), the sequence, the '+'
line and the quality text. -/
theorem fastq_write_read_model (rows : List Row) (hne : rows ≠ []) (h3 : ∀ r ∈ rows, r.length = 3)
    (hfree : ∀ r ∈ rows, ∀ c ∈ r, 10 ∉ cellText c) :
    ∃ t, C02.klineTable 4 [1, 0, 0, 0] (dumpFastq 64 [1, 0, 0, 0] rows) = .ok t ∧
      t.map (fun e => e.map (fun p => C02.slice (dumpFastq 64 [1, 0, 0, 0] rows) p.1 p.2))
        = rows.map (fun r => match r.map cellText with | [n, s, q] => [n, s, [43], q] | _ => []) := by
  have hlen4 : ∀ ls ∈ rows.map fastqLines, ls.length = 4 := List.forall_mem_map.mpr fun r hr => by
    obtain ⟨a, b, c, rfl⟩ := exists_of_length_three (h3 r hr); rfl
  have hlfree : ∀ l ∈ (rows.map fastqLines).flatten, 10 ∉ l := by
    simp only [List.mem_flatten, List.mem_map]
    rintro l ⟨_, ⟨r, hr, rfl⟩, hl⟩
    obtain ⟨a, b, c, rfl⟩ := exists_of_length_three (h3 r hr)
    have hf := hfree _ hr
    simp only [List.forall_mem_cons] at hf
    simp only [fastqLines, List.map_cons, List.map_nil, List.mem_cons, List.not_mem_nil, or_false] at hl
    rcases hl with rfl | rfl | rfl | rfl
    · exact fun hm => (List.mem_cons.mp hm).elim (by decide) hf.1
    · exact hf.2.1
    · decide
    · exact hf.2.2.1
  have hlines : linesOf (dumpFastq 64 [1, 0, 0, 0] rows) = (rows.map fastqLines).flatten := by
    rw [fastq_layout rows h3, fastqSpec_unlines rows h3, C02.linesOf_unlines _ hlfree]
  have hcount : (linesOf (dumpFastq 64 [1, 0, 0, 0] rows)).length = rows.length * 4 := by
    rw [hlines, length_flatten_const 4 _ hlen4, List.length_map]
  obtain ⟨t, ht, htx⟩ := C02.kline_roles 4 [1, 0, 0, 0] (dumpFastq 64 [1, 0, 0, 0] rows) (by decide)
    (by rw [hcount]; exact Nat.mul_mod_left _ _) (by rw [hcount]; exact Nat.le_mul_of_pos_left 4 (List.length_pos_iff.mpr hne))
  refine ⟨t, ht, ?_⟩
  have hch := C02.chunkF_flatten 4 (rows.map fastqLines) hlen4
  rw [List.length_map] at hch
  rw [htx, hcount, Nat.mul_div_cancel _ (by decide : 0 < 4), hlines, hch, List.map_map]
  refine List.map_congr_left fun r hr => ?_
  obtain ⟨a, b, c, rfl⟩ := exists_of_length_three (h3 r hr)
  rfl

def Rect (n : Nat) (rows : List Row) : Prop := ∀ r ∈ rows, r.length = n

instance (n : Nat) (rows : List Row) : Decidable (Rect n rows) := by unfold Rect; exact inferInstance

/-- the tables a format's writer is specified for: FASTQ records have 3 cells, two-line FASTA records 2, the records of
a delimited table (after the format's `prepRow`) all have the same number `n ≥ 1` of cells; wrapped FASTA: any -/
def WF (fmt : String) (rows : List Row) : Prop :=
  if fmt = "fasta" then True
  else if fmt = "fastq" then Rect 3 rows
  else if fmt = "fasta2" then Rect 2 rows
  else ∃ n, 0 < n ∧ Rect n (prep fmt rows)

example : WF "bed3" [[Cell.text [99], Cell.int 1, Cell.int 5], [Cell.text [100], Cell.int 7, Cell.int 9]] := by
  simp only [WF, String.reduceEq, ↓reduceIte]; exact ⟨3, by decide, by decide +kernel⟩
example : WF "fastq" [[Cell.text [114], Cell.text [65], Cell.qual [40]]] := by
  simp only [WF, String.reduceEq, ↓reduceIte]; decide +kernel

theorem Rect_sub {n : Nat} {rows sub : List Row} (h : Rect n rows) (hs : ∀ r ∈ sub, r ∈ rows) : Rect n sub :=
  fun r hr => h r (hs r hr)

theorem WF_sub (fmt : String) (rows sub : List Row) (h : WF fmt rows) (hs : ∀ r ∈ sub, r ∈ rows) : WF fmt sub := by
  unfold WF at h ⊢
  by_cases h1 : fmt = "fasta"
  · rw [if_pos h1]; trivial
  rw [if_neg h1] at h ⊢
  by_cases h2 : fmt = "fastq"
  · rw [if_pos h2] at h ⊢; exact Rect_sub h hs
  rw [if_neg h2] at h ⊢
  by_cases h3 : fmt = "fasta2"
  · rw [if_pos h3] at h ⊢; exact Rect_sub h hs
  rw [if_neg h3] at h ⊢
  obtain ⟨n, hn, hr⟩ := h
  exact ⟨n, hn, Rect_sub hr (List.forall_mem_map.mpr fun r hr => List.mem_map_of_mem (hs r hr))⟩

theorem joinFields2 (rows : List Row) (h : Rect 2 rows) :
    joinFields 62 [1, 0] (rows.map (·.map cellText)) = (entriesOf rows).flatMap (fun e => 62 :: e.1 ++ [10] ++ e.2 ++ [10]) := by
  unfold joinFields entriesOf
  rw [List.flatMap_map, List.flatMap_map]
  refine congrArg List.flatten (List.map_congr_left fun r hr => ?_)
  obtain ⟨a, b, rfl⟩ := exists_of_length_two (h r hr)
  simp

/-- On the tables it is specified for, the bytes of every format's writer model — run
with the constants measured on the package — are the canonical serialisation of the format. -/
theorem dumpModel_eq_dumpCanon (fmt : String) (rows : List Row) (h : WF fmt rows) :
    dumpModel Gen.C03.consts fmt rows = dumpCanon fmt rows := by
  have hW : Gen.C03.consts.fastaWidth = 80 := gen_fasta_wrap.1
  have hq : Gen.C03.consts.fastqMarker = 64 := gen_fastq.1
  have ho : Gen.C03.consts.fastqOffsets = [1, 0, 0, 0] := gen_fastq.2.1
  have hm : Gen.C03.consts.fastaMarker = 62 := gen_fastq.2.2.2
  unfold WF at h
  unfold dumpModel dumpCanon
  by_cases h1 : fmt = "fasta"
  · rw [if_pos h1, if_pos h1, hW]
    by_cases hr : rows = []
    · rw [if_pos hr, hr]; rfl
    · rw [if_neg hr]; exact fasta_layout 80 (by decide) _
  rw [if_neg h1] at h
  rw [if_neg h1, if_neg h1]
  by_cases h2 : fmt = "fastq"
  · rw [if_pos h2] at h
    rw [if_pos h2, if_pos h2, hq, ho]
    exact fastq_layout rows h
  rw [if_neg h2] at h
  rw [if_neg h2, if_neg h2]
  by_cases h3 : fmt = "fasta2"
  · rw [if_pos h3] at h
    rw [if_pos h3, if_pos h3, hm]
    exact joinFields2 rows h
  rw [if_neg h3] at h
  rw [if_neg h3, if_neg h3]
  -- the column count is read off the first record
  obtain ⟨n, hn, hr⟩ := h
  cases hp : prep fmt rows with
  | nil => rfl
  | cons r0 rest =>
    rw [hp] at hr
    show dumpDelimited r0.length _ = _
    rw [hr r0 List.mem_cons_self]
    exact dump_canonical n hn _ hr

theorem dumpCanon_flatMap (fmt : String) : ∃ f : Row → Bytes, ∀ rows, dumpCanon fmt rows = rows.flatMap f := by
  by_cases h1 : fmt = "fasta"
  · exact ⟨_, fun rows => by rw [dumpCanon, if_pos h1]; exact List.flatMap_map ..⟩
  by_cases h2 : fmt = "fastq"
  · exact ⟨_, fun rows => by rw [dumpCanon, if_neg h1, if_pos h2]; rfl⟩
  by_cases h3 : fmt = "fasta2"
  · exact ⟨_, fun rows => by rw [dumpCanon, if_neg h1, if_neg h2, if_pos h3]; exact List.flatMap_map ..⟩
  · exact ⟨_, fun rows => by
      rw [dumpCanon, if_neg h1, if_neg h2, if_neg h3, dumpSpec, prep, List.flatMap_map, List.flatMap_map]⟩

/-- the canonical serialisation of every format is a record-by-record serialiser -/
theorem dumpCanon_additive (fmt : String) : Additive (dumpCanon fmt) := by
  obtain ⟨f, hf⟩ := dumpCanon_flatMap fmt
  exact ⟨hf [], fun a b => by rw [hf, hf, hf]; exact List.flatMap_append⟩

/-- the column count of the delimited serialiser comes from the first record, so — as a function on ALL tables — it is
not additive: `Additive` is only available for the canonical serialisation (`dumpCanon_additive`); the delimited writer
is additive at a fixed column count on rectangular tables (`dumpDelimited_additive`), the format writers on `WF` tables
(through `dumpModel_eq_dumpCanon`) -/
theorem dumpModel_not_additive : ¬ Additive (dumpModel Gen.C03.consts "bed3") :=
  fun h => absurd (h.2 [[Cell.text [97]]] [[Cell.text [98], Cell.text [99]]]) (by decide +kernel)

theorem flatMap_put_writer (fmt : String) (ts : List (List Row)) (hwf : WF fmt ts.flatten) :
    ts.flatMap (put (dumpModel Gen.C03.consts fmt)) = dumpCanon fmt ts.flatten := by
  rw [← flatMap_put (dumpCanon_additive fmt)]
  refine congrArg List.flatten (List.map_congr_left fun t ht => ?_)
  rw [put, put, dumpModel_eq_dumpCanon fmt t (WF_sub fmt _ t hwf fun r hr => List.mem_flatten.mpr ⟨t, ht, hr⟩)]

/-- For every format and every sequence of writers on one target (first 'w' or 'a', later
ones 'a'; `write` calls or streams; any split, empty pieces included) whose rows taken together form a table the
format's writer is specified for: the bytes the WRITER MODEL leaves are the header exactly once in front (iff a call
was made) followed by the canonical serialisation of the concatenated table — which is also what ONE call of the
writer model on the concatenated table produces. -/
theorem sessions_compose_writer (fmt : String) (hdr : Bytes) (ss : List Sess)
    (htail : ∀ s ∈ ss.tail, s.mode = Mode.append) (hwf : WF fmt (ss.flatMap Sess.calls).flatten) :
    runAll hdr (dumpModel Gen.C03.consts fmt) [] ss
      = (if ss.flatMap Sess.calls = [] then [] else hdr) ++ dumpCanon fmt (ss.flatMap Sess.calls).flatten ∧
    dumpCanon fmt (ss.flatMap Sess.calls).flatten = dumpModel Gen.C03.consts fmt (ss.flatMap Sess.calls).flatten := by
  rw [runAll_eq ss htail, flatMap_put_writer fmt _ hwf]
  exact ⟨rfl, (dumpModel_eq_dumpCanon fmt _ hwf).symm⟩

/-- One writer opened with 'w', any cut of a specified table into successive calls. -/
theorem writes_compose_writer (fmt : String) (hdr : Bytes) (e : Bool) (ts : List (List Row)) (hwf : WF fmt ts.flatten) :
    writeAll hdr (dumpModel Gen.C03.consts fmt) false (initState .write e) ts
      = (if ts = [] then [] else hdr) ++ dumpModel Gen.C03.consts fmt ts.flatten := by
  rw [writeAll_eq, flatMap_put_writer fmt ts hwf, dumpModel_eq_dumpCanon fmt _ hwf]; simp [initState]

/-- VCF: POS is written +1 and the reader's shift (tabulated from the code, Gen/C02) takes it back -/
theorem vcf_pos_roundtrip (c0 : Cell) (p : Int) (rest : Row) :
    shiftPos 1 (c0 :: Cell.int p :: rest) = c0 :: Cell.int (p + 1) :: rest ∧ (p + 1) + Gen.C02.vcfPosShift = p := by
  exact ⟨rfl, C02.gen_shifts.1 ▸ Int.add_neg_cancel_right p 1⟩

theorem shiftPos_inv (r : Row) : shiftPos (-1) (shiftPos 1 r) = r := by
  fun_cases shiftPos 1 r with
  | case1 c0 p rest => simp [shiftPos, Int.add_neg_cancel_right]
  | case2 r h => rw [shiftPos]; exact fun c0 p rest hr => h c0 p rest hr

theorem shiftPos_ok (d : Int) (r : Row) (h : ∀ c ∈ r, cellOK c) : ∀ c ∈ shiftPos d r, cellOK c := by
  fun_cases shiftPos d r with
  | case1 c0 p rest =>
    simp only [List.forall_mem_cons] at h ⊢
    exact ⟨h.1, trivial, h.2.2⟩
  | case2 r _ => exact h

/-- VCF through write and read: for every table of legal cells whose records (position shifted by
the writer) all have the same `n ≥ 1` cells, the strict reference reader applied to the bytes of the VCF writer model,
followed by the reader's position shift (tabulated from the running code, `Gen.C02.vcfPosShift`), returns the table —
positions included, every other cell untouched. -/
theorem vcf_roundtrip (rows : List Row) (n : Nat) (hn : 0 < n) (hrect : Rect n (prep "vcf" rows))
    (hok : ∀ r ∈ rows, ∀ c ∈ r, cellOK c) :
    (readTable (prep "vcf" rows) (dumpModel Gen.C03.consts "vcf" rows)).map (·.map (shiftPos Gen.C02.vcfPosShift))
      = some rows := by
  have hprep : prep "vcf" rows = rows.map (shiftPos 1) := List.map_congr_left fun r _ => by
    simp only [prepRow, isVcf, String.reduceEq, true_or, decide_true, ↓reduceIte]
  have hwf : WF "vcf" rows := by
    simp only [WF, String.reduceEq, ↓reduceIte]
    exact ⟨n, hn, hrect⟩
  have hcanon : dumpModel Gen.C03.consts "vcf" rows = dumpDelimited n (prep "vcf" rows) := by
    rw [dumpModel_eq_dumpCanon "vcf" rows hwf, dump_canonical n hn _ hrect]
    simp only [dumpCanon, String.reduceEq, ↓reduceIte]
  have hok' : ∀ r ∈ prep "vcf" rows, ∀ c ∈ r, cellOK c := by
    rw [hprep]
    exact List.forall_mem_map.mpr fun r hr => shiftPos_ok 1 r (hok r hr)
  rw [hcanon, roundtrip n hn _ hrect hok', C02.gen_shifts.1, hprep, Option.map_some, List.map_map]
  conv => rhs; rw [← List.map_id rows]
  exact congrArg some (List.map_congr_left fun r _ => shiftPos_inv r)

example : Rect 3 (prep "vcf" [[Cell.text [99], Cell.int 6, Cell.text [65]]]) := by decide +kernel

end C03
