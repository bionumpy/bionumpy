import BnpVerif.Props.C11Reduce
import BnpVerif.Props.C11Graph
/-! C11, computation graph, the value: the values of a node on the buffers concatenate to its in-memory value `evalMem`
(`node_chunks`: node functions commute with concatenation when both node operands are equally long). From it
`compute()` = in-memory value for element-wise expressions, mask selections, several roots, and reductions over the buffers. -/
namespace C11
open Base

/-- all streams are cut at the same positions -/
def Aligned (g : List NodeDef) (lens : List Nat) : Prop :=
  ∀ (n : Nat) (cs : List (List Int)), g[n]? = some (NodeDef.stream cs) → cs.map List.length = lens

/-- element-wise functions only -/
def EwOn (g : List NodeDef) (P : Nat → Prop) : Prop :=
  ∀ (n : Nat) (f : Fn) (a b : Arg), P n → g[n]? = some (NodeDef.comp f a b) → f.elementwise = true

/-- element-wise functions and `node[mask_node]` selections only -/
def EwSelOn (g : List NodeDef) (P : Nat → Prop) : Prop :=
  ∀ (n : Nat) (f : Fn) (a b : Arg), P n → g[n]? = some (NodeDef.comp f a b) →
    f.elementwise = true ∨ (f = Fn.sel ∧ ∃ x y, a = Arg.node x ∧ b = Arg.node y)

/-- the streamed run is shape-correct: in every buffer the two node operands of a node in `P` have the same length (what
NumPy needs for a binary ufunc / a boolean index; automatic without mask selections, `shapeOK_of_aligned`) -/
def ShapeOK (g : List NodeDef) (K : Nat) (P : Nat → Prop) : Prop :=
  ∀ (n : Nat) (f : Fn) (x y : Nat), P n → g[n]? = some (NodeDef.comp f (Arg.node x) (Arg.node y)) →
    ∀ i, i < K → ∀ u v, valAt g i (x + 1) x = some u → valAt g i (y + 1) y = some v → u.length = v.length

theorem applySel_append (x x' m m' : List Int) (h : x.length = m.length) :
    applySel (x ++ x') (m ++ m') = applySel x m ++ applySel x' m' := by
  simp [applySel, List.zip_append h]

theorem applySel_eq_filter (x m : List Int) :
    applySel x m = ((x.zip m).filter (fun p => p.2 ≠ 0)).map (·.1) := by
  unfold applySel
  induction x.zip m with
  | nil => rfl
  | cons p l ih =>
    simp only [ne_eq, ite_not, decide_not] at ih
    by_cases hp : p.2 = 0 <;> simp [hp, ih]

theorem flatten_binop (F : List Int → List Int → List Int) (h0 : F [] [] = [])
    (hF : ∀ x x' y y', x.length = y.length → F (x ++ x') (y ++ y') = F x y ++ F x' y')
    (A B : Nat → List Int) (l : List Nat) (hl : ∀ i ∈ l, (A i).length = (B i).length) :
    F (l.map A).flatten (l.map B).flatten = (l.map fun i => F (A i) (B i)).flatten := by
  induction l with
  | nil => exact h0
  | cons i l ih =>
    simp only [List.map_cons, List.flatten_cons]
    rw [hF _ _ _ _ (hl i List.mem_cons_self), ih fun j hj => hl j (List.mem_cons_of_mem _ hj)]

/-- an argument on buffer `i`, given the nodes' buffers `B` -/
def argAt (B : Nat → Nat → List Int) : Arg → Nat → List Int ⊕ Int
  | .node m, i => .inl (B m i)
  | .const c, _ => .inr c

/-- an argument on the concatenation of the buffers `l` -/
def argWhole (B : Nat → Nat → List Int) (l : List Nat) : Arg → List Int ⊕ Int
  | .node m => .inl (l.map (B m)).flatten
  | .const c => .inr c

/-- node functions commute with concatenation, when the two node operands have equally long buffers -/
theorem applyFn_chunks (B : Nat → Nat → List Int) (f : Fn) (a b : Arg) (l : List Nat)
    (hf : f.elementwise = true ∨ (f = Fn.sel ∧ ∃ x y, a = Arg.node x ∧ b = Arg.node y))
    (hne : argNodes a ++ argNodes b ≠ [])
    (hlen : ∀ x y, a = .node x → b = .node y → ∀ i ∈ l, (B x i).length = (B y i).length) :
    applyFn f (argWhole B l a) (argWhole B l b) = (l.map fun i => applyFn f (argAt B a i) (argAt B b i)).flatten := by
  cases a with
  | node x =>
    cases b with
    | node y =>
      rcases hf with hf | ⟨rfl, _⟩
      · simp only [argWhole, argAt, applyFn, hf, ↓reduceIte, applyEw]
        exact flatten_binop _ rfl (fun _ _ _ _ h => List.zipWith_append h) _ _ l (hlen x y rfl rfl)
      · exact flatten_binop applySel rfl applySel_append _ _ l (hlen x y rfl rfl)
    | const c =>
      have hew : f.elementwise = true := hf.elim id fun ⟨_, _, _, _, h⟩ => nomatch h
      simp only [argWhole, argAt, applyFn, hew, ↓reduceIte, applyEw, List.map_flatten, List.map_map,
        Function.comp_def]
  | const c =>
    cases b with
    | node y =>
      have hew : f.elementwise = true := hf.elim id fun ⟨_, _, _, h, _⟩ => nomatch h
      simp only [argWhole, argAt, applyFn, hew, ↓reduceIte, applyEw, List.map_flatten, List.map_map,
        Function.comp_def]
    | const c' => exact absurd rfl hne

/-- the value of node `n` on buffer `i` (empty where it has none) -/
def buf (g : List NodeDef) (n i : Nat) : List Int := (valAt g i (n + 1) n).getD []

/-- every node of `P` has a value on each of the `K` buffers, and their concatenation is its in-memory value. Induction
over the construction order; the step is `applyFn_chunks`, `ShapeOK` gives its equal lengths. -/
theorem node_chunks (g : List NodeDef) (hg : WFG g) (hna : HasNodeArg g) (K : Nat)
    (hch : ∀ (n : Nat) (cs : List (List Int)), g[n]? = some (NodeDef.stream cs) → cs.length = K)
    (P : Nat → Prop) (hP : ∀ n d, P n → g[n]? = some d → ∀ m ∈ nodeArgs d, P m) (hes : EwSelOn g P) (hsh : ShapeOK g K P) :
    ∀ n, P n → n < g.length → (∀ i, i < K → valAt g i (n + 1) n = some (buf g n i)) ∧
      evalMem g (n + 1) n = some ((List.range K).map (buf g n)).flatten := by
  intro n
  induction n using Nat.strongRecOn with
  | _ n ih =>
    intro hnb hn
    have hd : g[n]? = some g[n] := List.getElem?_eq_getElem hn
    -- it is enough to find the value on every buffer
    suffices h : ∃ V : Nat → List Int, (∀ i, i < K → valAt g i (n + 1) n = some (V i)) ∧
        evalMem g (n + 1) n = some ((List.range K).map V).flatten by
      obtain ⟨V, h1, h2⟩ := h
      have hV : ∀ i, i < K → buf g n i = V i := fun i hi => by rw [buf, h1 i hi]; rfl
      exact ⟨fun i hi => by rw [hV i hi, h1 i hi], by
        rw [h2, List.map_congr_left fun i hi => hV i (List.mem_range.mp hi)]⟩
    cases hdn : g[n] with
    | stream cs =>
      rw [hdn] at hd
      have hK := hch n cs hd
      refine ⟨fun i => cs[i]?.getD [], fun i hi => ?_, ?_⟩
      · simp only [valAt_stream hd, List.getElem?_eq_getElem (hK ▸ hi), Option.getD_some]
      · rw [evalMem_stream hd, ← hK]
        exact congrArg (some ∘ List.flatten) (List.ext_getElem (by simp) fun i h1 h2 => by simp [h1])
    | comp f a b =>
      rw [hdn] at hd
      have hlt : ∀ m ∈ nodeArgs (.comp f a b), m < n := hg n _ hd
      have hnode := fun m hm => ih m (hlt m hm) (hP n _ hnb hd m hm) (Nat.lt_trans (hlt m hm) hn)
      have harg : ∀ x, (∀ m ∈ argNodes x, m ∈ nodeArgs (.comp f a b)) →
          (∀ i, i < K → argValWith (valAt g i n) n x = some (argAt (buf g) x i)) ∧
          argValWith (evalMem g n) n x = some (argWhole (buf g) (List.range K) x) := by
        intro x hx
        cases x with
        | const c => exact ⟨fun _ _ => rfl, rfl⟩
        | node m =>
          have hm := hx m List.mem_cons_self
          exact ⟨fun i hi => by rw [argValWith_valAt_node g i (hlt m hm), (hnode m hm).1 i hi]; rfl,
            by rw [argValWith_evalMem_node g (hlt m hm), (hnode m hm).2]; rfl⟩
      obtain ⟨a1, a2⟩ := harg a fun m h => List.mem_append_left _ h
      obtain ⟨b1, b2⟩ := harg b fun m h => List.mem_append_right _ h
      refine ⟨fun i => applyFn f (argAt (buf g) a i) (argAt (buf g) b i), fun i hi => ?_, ?_⟩
      · rw [valAt_comp hd, a1 i hi, b1 i hi]; rfl
      · rw [evalMem_comp hd, a2, b2]
        refine congrArg some (applyFn_chunks (buf g) f a b _ (hes n f a b hnb hd) (hna n f a b hd) ?_)
        rintro x y rfl rfl i hi
        exact hsh n f x y hnb hd i (List.mem_range.mp hi) _ _
          ((hnode x (List.mem_append_left _ List.mem_cons_self)).1 i (List.mem_range.mp hi))
          ((hnode y (List.mem_append_right _ List.mem_cons_self)).1 i (List.mem_range.mp hi))

/-- **any composition of element-wise functions and mask selections, streamed = in memory** (`a[m] + 1`, `a[m1][m2]`,
`(a + b)[a > c] * 2`, ...): with the same number of buffers in all streams and a shape-correct streamed run, `compute()`
of the root is the in-memory value of the expression on the concatenated streams. `graph_value` and
`graph_filter_value` are the cases without / with one selection at the root. -/
theorem graph_value_sel (g : List NodeDef) (hg : WFG g) (hna : HasNodeArg g) (K : Nat)
    (hch : ∀ (n : Nat) (cs : List (List Int)), g[n]? = some (NodeDef.stream cs) → cs.length = K)
    (hpos : 0 < K) (root fuel : Nat) (hes : EwSelOn g (Reach g root)) (hsh : ShapeOK g K (Reach g root))
    (hroot : root < g.length) (hf : K < fuel) :
    ∃ v st, computeGraph g root fuel = .ok (v, st) ∧ evalMem g (root + 1) root = some v := by
  obtain ⟨vs, st, hc, hvs⟩ := graph_compute g hg hna root K fuel hroot hpos hf hch
  obtain ⟨h1, h2⟩ := node_chunks g hg hna K hch (Reach g root) (reach_closed g root) hes hsh root .root hroot
  have : vs = (List.range K).map (buf g root) := (List.map_inj_right fun _ _ => Option.some.inj).mp (hvs.trans (by
    rw [List.map_map]; exact List.map_congr_left fun i hi => h1 i (List.mem_range.mp hi)))
  exact ⟨_, st, hc, this ▸ h2⟩

/-! #### streams cut alike, no mask selections -/

theorem aligned_length {g : List NodeDef} {lens : List Nat} (ha : Aligned g lens) :
    ∀ (n : Nat) (cs : List (List Int)), g[n]? = some (NodeDef.stream cs) → cs.length = lens.length :=
  fun n cs h => by simpa using congrArg List.length (ha n cs h)

/-- below element-wise functions every buffer is as long as the streams' -/
theorem valAt_length (g : List NodeDef) (hna : HasNodeArg g) (lens : List Nat) (ha : Aligned g lens)
    (P : Nat → Prop) (hP : ∀ n d, P n → g[n]? = some d → ∀ m ∈ nodeArgs d, P m) (hew : EwOn g P) :
    ∀ n, P n → ∀ i u, valAt g i (n + 1) n = some u → lens[i]? = some u.length := by
  intro n
  induction n using Nat.strongRecOn with
  | _ n ih =>
    intro hn i u hu
    cases hd : g[n]? with
    | none => simp only [valAt, hd, reduceCtorEq] at hu
    | some d =>
      cases d with
      | stream cs => rw [← ha n cs hd, List.getElem?_map, ← valAt_stream hd i, hu]; rfl
      | comp f a b =>
        have hf := hew n f a b hn hd
        have hnode : ∀ m va, m ∈ nodeArgs (.comp f a b) → argValWith (valAt g i n) n (.node m) = some va →
            ∃ w, va = .inl w ∧ lens[i]? = some w.length := fun m va hm hva => by
          obtain ⟨hmn, w, hw, rfl⟩ := argValWith_node_some hva
          rw [valAt_fuel g i n (m + 1) m hmn (Nat.lt_succ_self m)] at hw
          exact ⟨w, rfl, ih m hmn (hP n _ hn hd m hm) i w hw⟩
        simp only [valAt_comp hd, Option.bind_eq_some_iff, Option.map_eq_some_iff] at hu
        obtain ⟨va, hva, vb, hvb, rfl⟩ := hu
        cases a with
        | node x =>
          obtain ⟨wx, rfl, hx⟩ := hnode x va (List.mem_append_left _ List.mem_cons_self) hva
          cases b with
          | node y =>
            obtain ⟨wy, rfl, hy⟩ := hnode y vb (List.mem_append_right _ List.mem_cons_self) hvb
            rw [hx, Option.some.injEq] at hy
            simp only [applyFn, hf, ↓reduceIte, applyEw, List.length_zipWith, ← hy, Nat.min_self, hx]
          | const c => cases hvb; simpa only [applyFn, hf, ↓reduceIte, applyEw, List.length_map] using hx
        | const c =>
          cases hva
          cases b with
          | node y =>
            obtain ⟨wy, rfl, hy⟩ := hnode y vb (List.mem_append_right _ List.mem_cons_self) hvb
            simpa only [applyFn, hf, ↓reduceIte, applyEw, List.length_map] using hy
          | const c' => exact absurd rfl (hna n f _ _ hd)

/-- element-wise functions over streams cut alike meet both hypotheses of `node_chunks`: no selection to allow, and every
operand buffer has the streams' length (`valAt_length`) -/
theorem ewOn_selOK (g : List NodeDef) (hna : HasNodeArg g) (lens : List Nat) (ha : Aligned g lens)
    (P : Nat → Prop) (hP : ∀ n d, P n → g[n]? = some d → ∀ m ∈ nodeArgs d, P m) (hew : EwOn g P) :
    EwSelOn g P ∧ ShapeOK g lens.length P := by
  refine ⟨fun n f a b hn hd => .inl (hew n f a b hn hd), fun n f x y hn hd i _ u v hu hv => ?_⟩
  have hx := valAt_length g hna lens ha P hP hew x (hP n _ hn hd x (List.mem_append_left _ List.mem_cons_self)) i u hu
  have hy := valAt_length g hna lens ha P hP hew y (hP n _ hn hd y (List.mem_append_right _ List.mem_cons_self)) i v hv
  exact Option.some.inj (hx.symm.trans hy)

theorem shapeOK_of_aligned (g : List NodeDef) (hg : WFG g) (hna : HasNodeArg g) (lens : List Nat) (ha : Aligned g lens)
    (P : Nat → Prop) (hP : ∀ n d, P n → g[n]? = some d → ∀ m ∈ nodeArgs d, P m) (hew : EwOn g P)
    (hlen : ∀ n, P n → n < g.length) : ShapeOK g lens.length P :=
  (ewOn_selOK g hna lens ha P hP hew).2

/-- **streamed = in-memory for computation graphs**: element-wise functions over streams cut at the same positions (any
positions, at least one buffer) -/
theorem graph_value (g : List NodeDef) (hg : WFG g) (hna : HasNodeArg g) (lens : List Nat) (ha : Aligned g lens)
    (hpos : 0 < lens.length) (root fuel : Nat) (hew : EwOn g (Reach g root)) (hroot : root < g.length)
    (hf : lens.length < fuel) :
    ∃ v st, computeGraph g root fuel = .ok (v, st) ∧ evalMem g (root + 1) root = some v :=
  have ⟨hes, hsh⟩ := ewOn_selOK g hna lens ha _ (reach_closed g root) hew
  graph_value_sel g hg hna lens.length (aligned_length ha) hpos root fuel hes hsh hroot hf

/-- **several roots**: every column of `compute([a, b, …])` is that root's in-memory value -/
theorem graph_value_many (g : List NodeDef) (hg : WFG g) (hna : HasNodeArg g) (lens : List Nat) (ha : Aligned g lens)
    (hpos : 0 < lens.length) (roots : List Nat) (hne : roots ≠ []) (fuel : Nat)
    (hew : EwOn g (ReachAny g roots)) (hroots : ∀ r ∈ roots, r < g.length) (hf : lens.length < fuel) :
    ∃ cols st, computeMany g roots fuel = .ok (cols, st) ∧
      cols.map some = roots.map (fun r => evalMem g (r + 1) r) := by
  have hch := aligned_length ha
  obtain ⟨st, hc, _⟩ := graph_compute_many g hg hna roots hne lens.length fuel hroots hpos hf hch
  refine ⟨_, st, hc, List.ext_getElem (by simp only [List.getD_eq_getElem?_getD, List.map_map, List.length_map,
    List.length_range]) fun j h1 h2 => ?_⟩
  have hj : j < roots.length := by simpa using h2
  have ⟨hes, hsh⟩ := ewOn_selOK g hna lens ha _ (reachAny_closed g roots) hew
  obtain ⟨_, a2⟩ := node_chunks g hg hna _ hch (ReachAny g roots) (reachAny_closed g roots) hes hsh
    roots[j] ⟨_, List.getElem_mem hj, .root⟩ (hroots _ (List.getElem_mem hj))
  simp only [List.getElem_map, List.getElem_range, a2, rowsAt, List.map_map]
  refine congrArg (some ∘ List.flatten) (List.map_congr_left fun i _ => ?_)
  simp only [List.getD_eq_getElem?_getD, valsAt, Function.comp_apply, List.length_map, hj, getElem?_pos,
    List.getElem_map, Option.getD_some, buf]

/-! #### one selection at the root -/

/-- a root that indexes one element-wise sub-expression by another (a boolean mask) -/
def SelRoot (g : List NodeDef) (r : Nat) : Prop :=
  ∃ (a mk : Nat), g[r]? = some (NodeDef.comp Fn.sel (Arg.node a) (Arg.node mk)) ∧
    EwOn g (Reach g a) ∧ EwOn g (Reach g mk)

theorem reach_cases {g : List NodeDef} {r : Nat} {d : NodeDef} (hd : g[r]? = some d) :
    ∀ n, Reach g r n → n = r ∨ ∃ m ∈ nodeArgs d, Reach g m n := by
  intro n hn
  induction hn with
  | root => exact .inl rfl
  | step _ hd' hm ih =>
    rcases ih with rfl | ⟨m', hm', hr'⟩
    · cases hd.symm.trans hd'; exact .inr ⟨_, hm, .root⟩
    · exact .inr ⟨m', hm', .step hr' hd' hm⟩

/-- **`compute(node[mask_node])`, streamed = in memory**: selecting buffer by buffer and concatenating (the result's
buffers have data-dependent lengths) -/
theorem graph_filter_value (g : List NodeDef) (hg : WFG g) (hna : HasNodeArg g) (lens : List Nat) (ha : Aligned g lens)
    (hpos : 0 < lens.length) (root fuel : Nat) (hsel : SelRoot g root) (hroot : root < g.length)
    (hf : lens.length < fuel) :
    ∃ v st, computeGraph g root fuel = .ok (v, st) ∧ evalMem g (root + 1) root = some v := by
  obtain ⟨a, mk, hd, hewa, hewm⟩ := hsel
  -- below the root every node is below `a` or below `mk`, in an element-wise sub-expression `Reach g m`
  have hbelow : ∀ n, Reach g root n → n = root ∨ ∃ m, Reach g m n ∧ EwOn g (Reach g m) := fun n hn =>
    (reach_cases hd n hn).imp_right fun ⟨m, hm, hr⟩ => by
      rcases List.mem_append.mp hm with h | h <;> cases List.mem_singleton.mp h
      · exact ⟨_, hr, hewa⟩
      · exact ⟨_, hr, hewm⟩
  have hlenOf : ∀ m, EwOn g (Reach g m) → ∀ n, Reach g m n → ∀ i u, valAt g i (n + 1) n = some u → lens[i]? = some u.length :=
    fun m hm => valAt_length g hna lens ha _ (reach_closed g m) hm
  refine graph_value_sel g hg hna lens.length (aligned_length ha) hpos root fuel ?_ ?_ hroot hf
  · intro n f x y hn hd'
    rcases hbelow n hn with rfl | ⟨m, hr, hm⟩
    · cases hd.symm.trans hd'; exact .inr ⟨rfl, a, mk, rfl, rfl⟩
    · exact .inl (hm n f x y hr hd')
  · intro n f x y hn hd' i _ u v hu hv
    have : lens[i]? = some u.length ∧ lens[i]? = some v.length := by
      rcases hbelow n hn with rfl | ⟨m, hr, hm⟩
      · cases hd.symm.trans hd'; exact ⟨hlenOf _ hewa _ .root i u hu, hlenOf _ hewm _ .root i v hv⟩
      · exact ⟨hlenOf m hm x (.step hr hd' (List.mem_append_left _ List.mem_cons_self)) i u hu,
          hlenOf m hm y (.step hr hd' (List.mem_append_right _ List.mem_cons_self)) i v hv⟩
    exact Option.some.inj (this.1.symm.trans this.2)

/-! ### reductions over the buffers (`np.sum(node)`, `np.mean(node)`, `np.histogram(node, edges)`) -/

theorem applyFn_red (f : Fn) (hf : f.elementwise = false) (hsel : f ≠ Fn.sel) (x : List Int) (b : List Int ⊕ Int) :
    applyFn f (.inl x) b = applyRed f x := by
  simp [applyFn, hf, hsel]

theorem applyRed_add (f : Fn) (hf : f.elementwise = false) (hsel : f ≠ Fn.sel) (x y : List Int) :
    List.zipWith (· + ·) (applyRed f x) (applyRed f y) = applyRed f (x ++ y) := by
  cases f with
  | sel => exact absurd rfl hsel
  | sum => simp [applyRed, List.sum_append]
  | sumN => simp [applyRed, List.sum_append]
  | hist e => simp [applyRed, ← histogram_add, List.map_zipWith, List.zipWith_map]
  | _ => nomatch hf

/-- adding up rows of per-root results is adding up each root's column -/
theorem foldl_addTuples {ρ} (roots : List ρ) (B : ρ → Nat → List Int) (l : List Nat) (acc : ρ → List Int) :
    (l.map fun i => roots.map (B · i)).foldl addTuples (roots.map acc) =
      roots.map fun r => (l.map (B r)).foldl (List.zipWith (· + ·)) (acc r) := by
  induction l generalizing acc with
  | nil => rfl
  | cons i l ih => rw [List.map_cons, List.foldl_cons, addTuples, zipWith_map_map, ih]; rfl

/-- the inner node of a reduction over any composition of element-wise functions and mask selections
(`np.sum(a[mask])`, `np.histogram((a * b)[a > c], edges)`, `mean(a[m1][m2] + 1)`, ...) -/
def RedSelRoot (g : List NodeDef) (K : Nat) (r : Nat) : Prop :=
  ∃ (f : Fn) (a : Nat) (c : Int), g[r]? = some (NodeDef.comp f (Arg.node a) (Arg.const c)) ∧
    f.elementwise = false ∧ f ≠ Fn.sel ∧ EwSelOn g (Reach g a) ∧ ShapeOK g K (Reach g a)

/-- **reductions over compositions with mask selections, streamed = in memory** (`np.sum(a[mask])` and the like, one or
several computed together), for every common number of buffers and every shape-correct cutting -/
theorem graph_reduced_filter_value (g : List NodeDef) (hg : WFG g) (hna : HasNodeArg g) (K : Nat)
    (hch : ∀ (n : Nat) (cs : List (List Int)), g[n]? = some (NodeDef.stream cs) → cs.length = K)
    (hpos : 0 < K) (roots : List Nat) (hne : roots ≠ []) (fuel : Nat)
    (hred : ∀ r ∈ roots, RedSelRoot g K r) (hroots : ∀ r ∈ roots, r < g.length) (hf : K < fuel) :
    ∃ res st, computeReduced g roots fuel = .ok (some res, st) ∧
      res.map some = roots.map (fun r => evalMem g (r + 1) r) := by
  obtain ⟨st, _, hc⟩ := graph_compute_many g hg hna roots hne K fuel hroots hpos hf hch
  obtain ⟨K', rfl⟩ := Nat.exists_eq_succ_of_ne_zero (Nat.ne_of_gt hpos)
  -- buffer 0 starts the fold, buffers `1 … K'` are added; by columns this is one fold per root
  have hrows : rowsAt g roots (K' + 1) = (roots.map (buf g · 0)) ::
      ((List.range K').map (· + 1)).map fun i => roots.map (buf g · i) := by
    rw [rowsAt, List.range_succ_eq_map]; rfl
  refine ⟨roots.map fun r => (((List.range K').map (· + 1)).map (buf g r)).foldl (List.zipWith (· + ·)) (buf g r 0), st,
    by rw [hc, hrows, reduce1, foldl_addTuples], ?_⟩
  rw [List.map_map]
  refine List.map_congr_left fun r hr => ?_
  obtain ⟨f, a, c, hd, hf', hsel, hes, hsh⟩ := hred r hr
  have har : a < r := hg r _ hd a List.mem_cons_self
  obtain ⟨h1, h2⟩ := node_chunks g hg hna _ hch (Reach g a) (reach_closed g a) hes hsh a .root
    (Nat.lt_trans har (hroots r hr))
  have hb : ∀ i, i < K' + 1 → buf g r i = applyRed f (buf g a i) := fun i hi => by
    rw [buf, valAt_comp hd, argValWith_valAt_node g i har, h1 i hi]; exact applyFn_red f hf' hsel _ _
  rw [Function.comp_apply, evalMem_comp hd, argValWith_evalMem_node g har, h2, hb 0 (Nat.succ_pos _),
    List.map_congr_left (g := applyRed f ∘ buf g a) fun i hi => hb i (by
      obtain ⟨j, hj, rfl⟩ := List.mem_map.mp hi; exact Nat.succ_lt_succ (List.mem_range.mp hj)),
    ← List.map_map, foldl_chunks (applyRed f) (applyRed f) _ (applyRed_add f hf' hsel), List.range_succ_eq_map]
  exact congrArg some (applyFn_red f hf' hsel _ _).symm

/-- a root that is the inner node of a reduction: a non-element-wise function of one element-wise
sub-expression (the second operand slot holds a constant) -/
def RedRoot (g : List NodeDef) (r : Nat) : Prop :=
  ∃ (f : Fn) (a : Nat) (c : Int), g[r]? = some (NodeDef.comp f (Arg.node a) (Arg.const c)) ∧
    f.elementwise = false ∧ f ≠ Fn.sel ∧ EwOn g (Reach g a)

/-- **reductions, streamed = in memory**: `np.sum` / `sum_and_n` / `np.histogram(·, edges)` nodes, one or several computed
together, for every common cutting of the streams -/
theorem graph_reduced_value (g : List NodeDef) (hg : WFG g) (hna : HasNodeArg g) (lens : List Nat) (ha : Aligned g lens)
    (hpos : 0 < lens.length) (roots : List Nat) (hne : roots ≠ []) (fuel : Nat)
    (hred : ∀ r ∈ roots, RedRoot g r) (hroots : ∀ r ∈ roots, r < g.length) (hf : lens.length < fuel) :
    ∃ res st, computeReduced g roots fuel = .ok (some res, st) ∧
      res.map some = roots.map (fun r => evalMem g (r + 1) r) := by
  refine graph_reduced_filter_value g hg hna lens.length (aligned_length ha) hpos roots hne fuel (fun r hr => ?_) hroots hf
  obtain ⟨f, a, c, hd, hf', hsel, hewa⟩ := hred r hr
  exact ⟨f, a, c, hd, hf', hsel, ewOn_selOK g hna lens ha _ (reach_closed g a) hewa⟩

/-- `np.sum(a[a > 1])` on streams cut as [2, 1]: both sides give 5 -/
def exSel : List NodeDef :=
  [.stream [[1, 2], [3]], .comp .gt (.node 0) (.const 1), .comp .sel (.node 0) (.node 1), .comp .sum (.node 2) (.const 0)]

example : (computeReduced exSel [3] 5).toOption.map (·.1) = some (some [[5]]) ∧ evalMem exSel 4 3 = some [5] := by decide +kernel

example : EwSelOn exSel (fun n => n ≤ 2) := by
  intro n f a b hn hd
  rcases n with _ | _ | _ | _ | n <;> cases hd
  · exact Or.inl rfl
  · exact Or.inr ⟨rfl, 0, 1, rfl, rfl⟩
  · omega

example : ShapeOK exSel 2 (fun _ => True) := by
  intro n f x y _ hd i hi u v hu hv
  rcases n with _ | _ | _ | _ | n <;> cases hd
  rcases i with _ | _ | i
  · cases hu; cases hv; rfl
  · cases hu; cases hv; rfl
  · omega

/-- a graph with a stream shared by two parents, cut as [2, 1] -/
def exG : List NodeDef :=
  [.stream [[1, 2], [3]], .stream [[10, 20], [30]], .comp .add (.node 0) (.node 1), .comp .mul (.node 2) (.node 0)]

example : WFG exG := by
  intro n d h m hm
  rcases n with _ | _ | _ | _ | n <;> cases h <;> simp [nodeArgs, argNodes] at hm <;> omega

example : HasNodeArg exG := by
  intro n f a b h
  rcases n with _ | _ | _ | _ | n <;> cases h <;> exact List.cons_ne_nil _ _

example : Aligned exG [2, 1] := by
  intro n cs h
  rcases n with _ | _ | _ | _ | n <;> cases h <;> rfl

example : (computeGraph exG 3 5).toOption.map (·.1) = some [11, 44, 99] ∧ evalMem exG 4 3 = some [11, 44, 99] := by decide +kernel

end C11
