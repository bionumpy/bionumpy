import BnpVerif.Model.C04
import BnpVerif.Base.PyLaws
import BnpVerif.Base.Lists

/-! C04 — the extractor refines "a list of records" (selection is list indexing, concatenation is
append, compaction changes nothing), hence every program writes the selected records' bytes, and every field text is a
function of the record alone. -/
namespace C04
open PyIdx

theorem slice_length {α} (d : List α) (s l : Nat) (h : s + l ≤ d.length) : (slice d s l).length = l := by
  rw [slice, List.length_take, List.length_drop]; exact Nat.min_eq_left (Nat.le_sub_of_add_le' h)

theorem slice_zero_all {α} (d : List α) : slice d 0 d.length = d := List.take_length

theorem slice_append_right {α} (A Y : List α) (x len : Nat) : slice (A ++ Y) (A.length + x) len = slice Y x len := by
  rw [slice, List.drop_length_add_append, slice]

theorem slice_append_left {α} (D B : List α) (s l : Nat) (h : s + l ≤ D.length) : slice (D ++ B) s l = slice D s l :=
  Base.take_drop_append D B s l h

theorem slice_append_mid {α} (A D B : List α) (s l : Nat) (h : s + l ≤ D.length) :
    slice (A ++ D ++ B) (A.length + s) l = slice D s l := by
  rw [List.append_assoc, slice_append_right, slice_append_left D B s l h]

theorem slice_mid {α} (A D B : List α) (n : Nat) (h : D.length = n) : slice (A ++ D ++ B) A.length n = D := by
  subst h
  have := slice_append_mid A D B 0 D.length (Nat.le_of_eq (Nat.zero_add _))
  rwa [Nat.add_zero, slice_zero_all] at this

/-- `h2` asks for the window to fit only when it is not empty: `rest_text` and `sam_extra_text` pass truncated differences as
lengths and can bound the window only when the difference is positive -/
theorem slice_slice {α} (d : List α) (es ee fs fl : Nat) (h1 : es ≤ fs) (h2 : 0 < fl → fs + fl ≤ ee) :
    slice (slice d es (ee - es)) (fs - es) fl = slice d fs fl := by
  cases fl with
  | zero => rfl
  | succ fl =>
    simp only [slice, List.drop_take, List.take_take, List.drop_drop]
    rw [Nat.add_sub_cancel' h1, Nat.sub_sub_sub_cancel_right h1,
      Nat.min_eq_left (Nat.le_sub_of_add_le' (h2 (Nat.succ_pos _)))]

theorem getD_eq_getElem {α} (l : List α) (j : Nat) (d : α) (h : j < l.length) : l.getD j d = l[j] :=
  (List.getElem_eq_getD d).symm

theorem getLastD_eq_getD {α} (l : List α) (d : α) : l.getLastD d = l.getD (l.length - 1) d := by
  rw [List.getLastD_eq_getLast?, List.getLast?_eq_getElem?, List.getD_eq_getElem?_getD]

theorem mem_take_drop {α} (l : List α) (a n : Nat) (x : α) (h : x ∈ (l.drop a).take n) : x ∈ l :=
  List.mem_of_mem_drop (List.mem_of_mem_take h)

def RowWF (dlen : Nat) (r : Row) : Prop :=
  r.eS ≤ r.eE ∧ r.eE ≤ dlen ∧ r.fS.length = r.fL.length ∧ (∀ s ∈ r.fS, r.eS ≤ s) ∧
  (∀ p ∈ List.zip r.fS r.fL, p.1 + p.2 ≤ r.eE)

def LenWF (e : Ext) : Prop :=
  e.fLen.length = e.fStart.length ∧ e.eStart.length = e.fStart.length ∧ e.eEnd.length = e.fStart.length

def WF (e : Ext) : Prop := LenWF e ∧ ∀ r ∈ e.rows, RowWF e.data.length r

/-- the representation invariant of the pass-through path: when the extractor claims to be
contiguous its data is exactly its records, in order -/
def Inv (e : Ext) : Prop := WF e ∧ (e.contiguous = true → e.data = specBytes e.abs)

theorem field_bounds (r : Row) (dlen : Nat) (h : RowWF dlen r) (j : Nat) (hj : j < r.fS.length) :
    r.eS ≤ r.fS.getD j 0 ∧ r.fS.getD j 0 + r.fL.getD j 0 ≤ r.eE := by
  obtain ⟨_, _, h3, h4, h5⟩ := h
  have hz : j < (List.zip r.fS r.fL).length := by rw [List.length_zip, ← h3, Nat.min_self]; exact hj
  rw [getD_eq_getElem _ _ 0 hj, getD_eq_getElem _ _ 0 (h3 ▸ hj)]
  have := h5 _ (List.getElem_mem hz)
  rw [List.getElem_zip] at this
  exact ⟨h4 _ (List.getElem_mem hj), this⟩

/-- the converse of `field_bounds` -/
theorem rowWF_of_fields (dlen : Nat) (r : Row) (h1 : r.eS ≤ r.eE) (h2 : r.eE ≤ dlen) (h3 : r.fS.length = r.fL.length)
    (h : ∀ j, j < r.fS.length → r.eS ≤ r.fS.getD j 0 ∧ r.fS.getD j 0 + r.fL.getD j 0 ≤ r.eE) : RowWF dlen r := by
  have hg : ∀ j (hj : j < r.fS.length), r.eS ≤ r.fS[j] ∧ r.fS[j] + r.fL[j]'(h3 ▸ hj) ≤ r.eE := fun j hj =>
    getD_eq_getElem r.fS _ 0 hj ▸ getD_eq_getElem r.fL _ 0 (h3 ▸ hj) ▸ h j hj
  refine ⟨h1, h2, h3, fun s hs => ?_, fun p hp => ?_⟩
  · obtain ⟨j, hj, rfl⟩ := List.getElem_of_mem hs
    exact (hg j hj).1
  · obtain ⟨j, hj, rfl⟩ := List.getElem_of_mem hp
    rw [List.getElem_zip]
    exact (hg j (by rw [List.length_zip, ← h3, Nat.min_self] at hj; exact hj)).2

theorem rows_ofRows (d : Bytes) (rs : List Row) (c : Bool) : (Ext.ofRows d rs c).rows = rs := by
  induction rs with
  | nil => rfl
  | cons r rs ih => exact congrArg (r :: ·) ih

theorem lenWF_ofRows (d : Bytes) (rs : List Row) (c : Bool) : LenWF (Ext.ofRows d rs c) := by
  simp only [LenWF, Ext.ofRows, List.length_map, and_self]

theorem rows_length (e : Ext) (h : LenWF e) : e.rows.length = e.fStart.length := by
  simp only [Ext.rows, List.length_zipWith, List.length_zip, h.1, h.2.1, h.2.2, Nat.min_self]

theorem abs_length (e : Ext) (h : LenWF e) : e.abs.length = e.len := by
  rw [Ext.abs, List.length_map, rows_length e h, Ext.len]

theorem rows_select (e : Ext) (h : LenWF e) (ixs : List Nat) : (e.select ixs).rows = gather e.rows ixs := by
  obtain ⟨h1, h2, h3⟩ := h
  simp only [Ext.rows, Ext.select, List.zip]
  rw [gather_zipWith _ _ _ (by simp only [List.length_zipWith, h1, h2, h3, Nat.min_self]),
    gather_zipWith _ _ _ h1.symm, gather_zipWith _ _ _ (h2.trans h3.symm)]

theorem lenWF_select (e : Ext) (h : LenWF e) (ixs : List Nat) (hv : ∀ k ∈ ixs, k < e.len) : LenWF (e.select ixs) := by
  obtain ⟨h1, h2, h3⟩ := h
  simp only [LenWF, Ext.select]
  rw [gather_length _ _ hv, gather_length _ _ (h1 ▸ hv), gather_length _ _ (h2 ▸ hv), gather_length _ _ (h3 ▸ hv)]
  exact ⟨rfl, rfl, rfl⟩

/-- a selection is never contiguous, so `WF` of the source is all its invariant needs -/
theorem inv_select (e : Ext) (h : WF e) (ixs : List Nat) (hv : ∀ k ∈ ixs, k < e.len) : Inv (e.select ixs) :=
  ⟨⟨lenWF_select e h.1 ixs hv, fun r hr => h.2 r (mem_gather _ _ _ (rows_select e h.1 ixs ▸ hr))⟩, fun hc => nomatch hc⟩

theorem abs_select (e : Ext) (h : LenWF e) (ixs : List Nat) : (e.select ixs).abs = gather e.abs ixs := by
  rw [Ext.abs, rows_select e h, ← gather_map]; rfl

/-- **C04.select_refines** — for every index form selecting on the extractor is NumPy-indexing the list of records it
denotes; an invalid index fails in both -/
theorem select_refines (e : Ext) (h : LenWF e) (ix : Idx) :
    (e.index ix).map Ext.abs = pyIndex e.abs ix := by
  rw [Ext.index, pyIndex, abs_length e h, Option.map_map]
  exact congrArg (Option.map · _) (funext (abs_select e h))

theorem index_inv (e : Ext) (h : WF e) (ix : Idx) (e' : Ext) (he : e.index ix = some e') : Inv e' := by
  obtain ⟨ixs, hix, rfl⟩ := Option.map_eq_some_iff.mp he
  exact inv_select e h ixs (toList_lt _ _ _ hix)

/-- the row of a record copied to `[a, b)` of another buffer, field starts mapped by `f` (serves concatenation and compaction) -/
theorem absRow_moved (D D' : Bytes) (r : Row) (f : Nat → Nat) (a b : Nat)
    (hraw : slice D' a (b - a) = slice D r.eS (r.eE - r.eS)) (hf : ∀ s ∈ r.fS, f s - a = s - r.eS) :
    absRow D' ⟨r.fS.map f, r.fL, a, b⟩ = absRow D r := by
  have hrel : ∀ g : Nat → Nat, List.zipWith (fun s l => (g s, l)) r.fS r.fL = List.zipWith Prod.mk (r.fS.map g) r.fL :=
    fun g => List.zipWith_map_left.symm
  simp only [absRow, hraw, List.zipWith_map_left]
  -- both field tables as `zipWith Prod.mk (fS.map g) fL`, so that `hf` compares the two maps
  rw [hrel, hrel, List.map_congr_left hf]

theorem rowWF_moved (dlen dlen' : Nat) (r : Row) (h : RowWF dlen r) (f : Nat → Nat) (a b : Nat) (hab : a ≤ b) (hb : b ≤ dlen')
    (hf : ∀ s l, r.eS ≤ s → s + l ≤ r.eE → a ≤ f s ∧ f s + l ≤ b) :
    RowWF dlen' ⟨r.fS.map f, r.fL, a, b⟩ := by
  refine rowWF_of_fields _ _ hab hb (by rw [List.length_map, h.2.2.1]) fun j hj => ?_
  rw [List.length_map] at hj
  rw [Base.getD_map_of_lt f r.fS j hj 0 0]
  exact hf _ _ (field_bounds r dlen h j hj).1 (field_bounds r dlen h j hj).2

def shiftRow (off : Nat) (r : Row) : Row := ⟨r.fS.map (· + off), r.fL, r.eS + off, r.eE + off⟩

theorem rows_concatFrom (off : Nat) (e : Ext) (es : List Ext) (h : LenWF e) :
    (concatFrom off (e :: es)).rows = e.rows.map (shiftRow off) ++ (concatFrom (off + e.data.length) es).rows := by
  obtain ⟨h1, h2, h3⟩ := h
  simp only [concatFrom, Ext.rows]
  rw [List.zip_append (by rw [List.length_map, h1]), List.zip_append (by rw [List.length_map, List.length_map, h2, h3]),
    List.zipWith_append (by simp only [List.length_zip, List.length_map, h1, h2, h3]),
    List.zip_map, List.zip_map_left, List.zipWith_map, List.map_zipWith]
  rfl

theorem absRow_shift (Pfx D B : Bytes) (r : Row) (h : RowWF D.length r) :
    absRow (Pfx ++ D ++ B) (shiftRow Pfx.length r) = absRow D r := by
  obtain ⟨h1, h2, _⟩ := h
  refine absRow_moved D _ r _ _ _ ?_ fun s _ => Nat.add_sub_add_right ..
  rw [Nat.add_sub_add_right, Nat.add_comm, slice_append_mid _ _ _ _ _ (by rw [Nat.add_sub_cancel' h1]; exact h2)]

theorem rowWF_shift (off dlen extra : Nat) (r : Row) (h : RowWF dlen r) :
    RowWF (off + dlen + extra) (shiftRow off r) := by
  have h1 := h.1
  have h2 := h.2.1
  exact rowWF_moved dlen _ r h _ _ _ (Nat.add_le_add_right h1 off) (by omega) fun s l hs hl =>
    ⟨Nat.add_le_add_right hs off, Nat.add_right_comm .. ▸ Nat.add_le_add_right hl off⟩

theorem concatFrom_data (off : Nat) (es : List Ext) : (concatFrom off es).data = (es.map (·.data)).flatten := by
  induction es generalizing off with
  | nil => rfl
  | cons e es ih => rw [List.map_cons, List.flatten_cons, ← ih]; rfl

theorem concatFrom_contiguous (off : Nat) (es : List Ext) : (concatFrom off es).contiguous = es.all (·.contiguous) := by
  induction es generalizing off with
  | nil => rfl
  | cons e es ih => rw [List.all_cons, ← ih]; rfl

theorem lenWF_concatFrom (off : Nat) (es : List Ext) (hes : ∀ e ∈ es, LenWF e) : LenWF (concatFrom off es) := by
  induction es generalizing off with
  | nil => exact ⟨rfl, rfl, rfl⟩
  | cons e es ih =>
    obtain ⟨a1, a2, a3⟩ := hes e List.mem_cons_self
    obtain ⟨b1, b2, b3⟩ := ih (off + e.data.length) fun x hx => hes x (List.mem_cons_of_mem _ hx)
    simp only [LenWF, concatFrom, List.length_append, List.length_map, a1, a2, a3, b1, b2, b3, and_self]

/-- `Pfx`: what lies in front of the concatenated data (the induction moves one part into it) -/
theorem concatFrom_spec (es : List Ext) (hes : ∀ e ∈ es, WF e) (Pfx : Bytes) :
    (concatFrom Pfx.length es).rows.map (absRow (Pfx ++ (concatFrom Pfx.length es).data)) = (es.map Ext.abs).flatten ∧
    ∀ r ∈ (concatFrom Pfx.length es).rows, RowWF (Pfx.length + (concatFrom Pfx.length es).data.length) r := by
  induction es generalizing Pfx with
  | nil => exact ⟨rfl, nofun⟩
  | cons e es ih =>
    have he := hes e List.mem_cons_self
    obtain ⟨i1, i2⟩ := ih (fun x hx => hes x (List.mem_cons_of_mem _ hx)) (Pfx ++ e.data)
    rw [List.length_append] at i1 i2
    rw [rows_concatFrom _ _ _ he.1]
    have hd : (concatFrom Pfx.length (e :: es)).data = e.data ++ (concatFrom (Pfx.length + e.data.length) es).data := rfl
    rw [hd, ← List.append_assoc, List.length_append, ← Nat.add_assoc]
    constructor
    · rw [List.map_append, i1, List.map_map, List.map_cons, List.flatten_cons]
      exact congrArg (· ++ _) (List.map_congr_left fun r hr => absRow_shift Pfx e.data _ r (he.2 r hr))
    · intro r hr
      rcases List.mem_append.mp hr with hr | hr
      · obtain ⟨r0, hr0, rfl⟩ := List.mem_map.mp hr
        exact rowWF_shift _ _ _ r0 (he.2 r0 hr0)
      · exact i2 r hr

/-- **C04.concat_refines** — concatenating extractors concatenates the record lists they denote -/
theorem concat_refines (es : List Ext) (hes : ∀ e ∈ es, WF e) :
    (Ext.concat es).abs = (es.map Ext.abs).flatten := (concatFrom_spec es hes []).1

theorem wf_concat (es : List Ext) (hes : ∀ e ∈ es, WF e) : WF (Ext.concat es) :=
  ⟨lenWF_concatFrom 0 es fun e he => (hes e he).1, fun r hr => by
    have := (concatFrom_spec es hes []).2 r hr
    rwa [List.length_nil, Nat.zero_add] at this⟩

theorem specBytes_flatten (l : List (List Rec)) : specBytes l.flatten = (l.map specBytes).flatten := by
  simp only [specBytes, List.map_flatten, List.flatten_flatten, List.map_map, Function.comp_def]
  rfl

theorem inv_concat (es : List Ext) (hes : ∀ e ∈ es, Inv e) : Inv (Ext.concat es) := by
  refine ⟨wf_concat es fun e he => (hes e he).1, fun hc => ?_⟩
  rw [Ext.concat, concatFrom_contiguous, List.all_eq_true] at hc
  rw [concat_refines es fun e he => (hes e he).1, Ext.concat, concatFrom_data, specBytes_flatten, List.map_map]
  exact congrArg List.flatten (List.map_congr_left fun e he => (hes e he).2 (hc e he))

theorem compactRows_data (data : Bytes) (acc : Nat) (rs : List Row) :
    (compactRows data acc rs).2 = specBytes (rs.map (absRow data)) := by
  induction rs generalizing acc with
  | nil => rfl
  | cons r rs ih => exact congrArg (slice data r.eS (r.eE - r.eS) ++ ·) (ih _)

/-- `Pfx`: the records already laid out -/
theorem compactRows_spec (data : Bytes) (rs : List Row) (hrs : ∀ r ∈ rs, RowWF data.length r) (Pfx : Bytes) :
    (compactRows data Pfx.length rs).1.map (absRow (Pfx ++ (compactRows data Pfx.length rs).2)) = rs.map (absRow data) ∧
    ∀ r ∈ (compactRows data Pfx.length rs).1, RowWF (Pfx ++ (compactRows data Pfx.length rs).2).length r := by
  induction rs generalizing Pfx with
  | nil => exact ⟨rfl, nofun⟩
  | cons r rs ih =>
    have hr := hrs r List.mem_cons_self
    have h1 := hr.1
    have hn : (slice data r.eS (r.eE - r.eS)).length = r.eE - r.eS :=
      slice_length _ _ _ (by rw [Nat.add_sub_cancel' h1]; exact hr.2.1)
    obtain ⟨i1, i2⟩ := ih (fun x hx => hrs x (List.mem_cons_of_mem _ hx)) (Pfx ++ slice data r.eS (r.eE - r.eS))
    rw [List.length_append, hn] at i1 i2
    simp only [compactRows, ← List.append_assoc, List.map_cons, List.forall_mem_cons]
    refine ⟨?_, rowWF_moved _ _ r hr _ _ _ (Nat.le_add_right ..) ?_ fun s l hs hl => by omega, i2⟩
    · rw [i1, absRow_moved data _ r _ _ _ (by rw [Nat.add_sub_cancel_left]; exact slice_mid _ _ _ _ hn)
        fun s _ => by rw [Nat.sub_right_comm, Nat.add_sub_cancel]]
    · simp only [List.length_append, hn]; omega

/-- **C04.compact_preserves** — `_make_contigous` changes the representation only: same records, and the new data is
exactly those records in order -/
theorem compact_preserves (e : Ext) (h : WF e) :
    e.compact.abs = e.abs ∧ e.compact.data = specBytes e.abs ∧ e.compact.contiguous = true :=
  ⟨by rw [Ext.compact, Ext.abs, rows_ofRows]; exact (compactRows_spec e.data e.rows h.2 []).1,
    compactRows_data e.data 0 e.rows, rfl⟩

theorem inv_compact (e : Ext) (h : WF e) : Inv e.compact :=
  ⟨⟨lenWF_ofRows _ _ _, by rw [Ext.compact, rows_ofRows]; exact (compactRows_spec e.data e.rows h.2 []).2⟩,
    fun _ => by rw [(compact_preserves e h).2.1, (compact_preserves e h).1]⟩

theorem touch_abs (e : Ext) (h : WF e) : e.touch.abs = e.abs := by
  unfold Ext.touch
  split
  · rfl
  · exact (compact_preserves e h).1

theorem inv_touch (e : Ext) (h : Inv e) : Inv e.touch := by
  unfold Ext.touch
  split
  · exact h
  · exact inv_compact e h.1

/-- **C04.bytes_spec** — what `buffer.data` hands to the writer is exactly the denoted records' bytes -/
theorem bytes_spec (e : Ext) (h : Inv e) : e.bytes = specBytes e.abs := by
  unfold Ext.bytes Ext.touch
  split
  · exact h.2 ‹_›
  · exact (compact_preserves e h.1).2.1

theorem evalSpec_map {α β} (f : α → β) (tabs : List (List α)) (p : Prog) :
    p.evalSpec (tabs.map (·.map f)) = (p.evalSpec tabs).map (·.map f) := by
  induction p with
  | leaf k => simp only [Prog.evalSpec, List.getElem?_map]
  | sel p ix ih =>
    simp only [Prog.evalSpec, ih]
    cases p.evalSpec tabs with
    | none => rfl
    | some l => exact pyIndex_map f l ix
  | cat p q ihp ihq =>
    simp only [Prog.evalSpec, ihp, ihq]
    cases p.evalSpec tabs <;> cases q.evalSpec tabs <;> simp only [Option.map_some, Option.map_none, List.map_append]
  | catRange a n =>
    simp only [Prog.evalSpec, List.length_map]
    split
    · rw [Option.map_some, List.map_flatten, List.map_take, List.map_drop]
    · rfl
  | touch p ih => exact ih
  | seq p q ihp ihq =>
    simp only [Prog.evalSpec, ihp, ihq]
    cases p.evalSpec tabs <;> rfl

theorem evalSpec_mem {α} (tabs : List (List α)) (p : Prog) :
    ∀ l, p.evalSpec tabs = some l → ∀ x ∈ l, ∃ t ∈ tabs, x ∈ t := by
  induction p with
  | leaf k => exact fun l h x hx => ⟨l, List.mem_of_getElem? h, hx⟩
  | sel p ix ih =>
    intro l h x hx
    obtain ⟨l0, hp, h⟩ := Option.bind_eq_some_iff.mp h
    exact ih l0 hp x (mem_pyIndex l0 l ix h x hx)
  | cat p q ihp ihq =>
    intro l h x hx
    simp only [Prog.evalSpec] at h
    split at h
    · cases h
      exact (List.mem_append.mp hx).elim (ihp _ ‹_› x) (ihq _ ‹_› x)
    · nomatch h
  | catRange a n =>
    intro l h x hx
    simp only [Prog.evalSpec] at h
    split at h
    · cases h
      obtain ⟨t, ht, hxt⟩ := List.mem_flatten.mp hx
      exact ⟨t, mem_take_drop tabs a n t ht, hxt⟩
    · nomatch h
  | touch p ih => exact ih
  | seq p q ihp ihq =>
    intro l h x hx
    obtain ⟨_, -, h⟩ := Option.bind_eq_some_iff.mp h
    exact ihq l h x hx

/-- **C04.program_abs** — every program of selections (`__getitem__`), concatenations and in-between `data` accesses on
extractors that satisfy the invariant yields an extractor that satisfies it again and denotes the records the same program
selects from the lists of records; it fails exactly when the program fails on lists -/
theorem program_abs (tabs : List Ext) (ht : ∀ t ∈ tabs, Inv t) (p : Prog) :
    (∀ e, p.evalExt tabs = some e → Inv e) ∧
    (p.evalExt tabs).map Ext.abs = p.evalSpec (tabs.map Ext.abs) := by
  induction p with
  | leaf k =>
    exact ⟨fun e he => ht e (List.mem_of_getElem? he), List.getElem?_map.symm⟩
  | sel p ix ih =>
    simp only [Prog.evalExt, Prog.evalSpec, ← ih.2]
    cases hp : p.evalExt tabs with
    | none => exact ⟨nofun, rfl⟩
    | some e => exact ⟨index_inv e (ih.1 e hp).1 ix, select_refines e (ih.1 e hp).1.1 ix⟩
  | cat p q ihp ihq =>
    simp only [Prog.evalExt, Prog.evalSpec, ← ihp.2, ← ihq.2]
    cases hp : p.evalExt tabs with
    | none => exact ⟨nofun, rfl⟩
    | some a =>
      cases hq : q.evalExt tabs with
      | none => exact ⟨nofun, rfl⟩
      | some b =>
        have hall : ∀ e ∈ [a, b], Inv e :=
          List.forall_mem_cons.mpr ⟨ihp.1 _ hp, List.forall_mem_cons.mpr ⟨ihq.1 _ hq, nofun⟩⟩
        exact ⟨fun e he => by cases he; exact inv_concat _ hall, congrArg some
          ((concat_refines _ fun e he => (hall e he).1).trans (congrArg (a.abs ++ ·) (List.append_nil _)))⟩
  | catRange a n =>
    simp only [Prog.evalExt, Prog.evalSpec, List.length_map]
    split
    · have hall : ∀ e ∈ (tabs.drop a).take n, Inv e := fun e he => ht e (mem_take_drop _ _ _ _ he)
      exact ⟨fun e he => by cases he; exact inv_concat _ hall,
        by rw [Option.map_some, concat_refines _ fun e he => (hall e he).1, List.map_take, List.map_drop]⟩
    · exact ⟨nofun, rfl⟩
  | touch p ih =>
    simp only [Prog.evalExt, Prog.evalSpec, ← ih.2]
    cases hp : p.evalExt tabs with
    | none => exact ⟨nofun, rfl⟩
    | some e =>
      exact ⟨fun e' he' => by cases he'; exact inv_touch e (ih.1 e hp), congrArg some (touch_abs e (ih.1 e hp).1)⟩
  | seq p q ihp ihq =>
    simp only [Prog.evalExt, Prog.evalSpec, ← ihp.2]
    cases p.evalExt tabs with
    | none => exact ⟨nofun, rfl⟩
    | some a => exact ihq

/-- whatever is read off the result of a program is a function of the records it denotes, if it is one on every extractor
that satisfies the invariant (`program_replace` needs the third premise of `hfg`) -/
theorem program_map {β} (tabs : List Ext) (ht : ∀ t ∈ tabs, Inv t) (p : Prog) (f : Ext → β) (g : List Rec → β)
    (hfg : ∀ e, Inv e → p.evalSpec (tabs.map Ext.abs) = some e.abs → f e = g e.abs) :
    (p.evalExt tabs).map f = (p.evalSpec (tabs.map Ext.abs)).map g := by
  obtain ⟨h1, h2⟩ := program_abs tabs ht p
  cases hp : p.evalExt tabs with
  | none => rw [← h2, hp]; rfl
  | some e =>
    rw [hp] at h2
    rw [← h2]
    exact congrArg some (hfg e (h1 e hp) h2.symm)

/-- **C04.program_bytes** — for every program of selections, concatenations and in-between writes on tables that satisfy the
invariant, the bytes handed to the writer are the selected records' original bytes in the selected order; the program
fails (IndexError) exactly when it fails on lists -/
theorem program_bytes (tabs : List Ext) (ht : ∀ t ∈ tabs, Inv t) (p : Prog) :
    (p.evalExt tabs).map Ext.bytes = (p.evalSpec (tabs.map Ext.abs)).map specBytes :=
  program_map tabs ht p _ _ fun e h _ => bytes_spec e h

theorem rel_length (data : Bytes) (r : Row) (h : r.fS.length = r.fL.length) : (absRow data r).rel.length = r.fS.length := by
  rw [absRow, List.length_zipWith, ← h, Nat.min_self]

theorem rel_getElem? (data : Bytes) (r : Row) (h : r.fS.length = r.fL.length) (j : Nat) (hj : j < r.fS.length) :
    (absRow data r).rel[j]? = some (r.fS.getD j 0 - r.eS, r.fL.getD j 0) := by
  simp only [absRow, List.getElem?_zipWith, List.getD_eq_getElem?_getD, List.getElem?_eq_getElem hj,
    List.getElem?_eq_getElem (h ▸ hj), Option.getD_some]

theorem rel_getLast? (data : Bytes) (r : Row) (h : r.fS.length = r.fL.length) (hne : 0 < r.fS.length) :
    (absRow data r).rel.getLast? = some (r.fS.getLastD 0 - r.eS, r.fL.getLastD 0) := by
  rw [List.getLast?_eq_getElem?, rel_length data r h, getLastD_eq_getD, getLastD_eq_getD, ← h]
  exact rel_getElem? data r h _ (Nat.sub_lt hne Nat.one_pos)

theorem last_bounds (r : Row) (dlen : Nat) (h : RowWF dlen r) (hne : 0 < r.fS.length) :
    r.eS ≤ r.fS.getLastD 0 ∧ r.fS.getLastD 0 + r.fL.getLastD 0 ≤ r.eE := by
  rw [getLastD_eq_getD, getLastD_eq_getD, ← h.2.2.1]
  exact field_bounds r dlen h _ (Nat.sub_lt hne Nat.one_pos)

theorem field_absRow (data : Bytes) (r : Row) (h : RowWF data.length r) (j : Nat) :
    (absRow data r).field j = slice data (r.fS.getD j 0) (r.fL.getD j 0) := by
  unfold Rec.field
  by_cases hj : j < r.fS.length
  · rw [rel_getElem? data r h.2.2.1 j hj]
    exact slice_slice data _ _ _ _ (field_bounds r _ h j hj).1 fun _ => (field_bounds r _ h j hj).2
  · have hj := Nat.le_of_not_lt hj
    rw [List.getElem?_eq_none (by rw [rel_length _ _ h.2.2.1]; exact hj), List.getD_eq_getElem?_getD,
      List.getD_eq_getElem?_getD, List.getElem?_eq_none hj, List.getElem?_eq_none (h.2.2.1 ▸ hj)]
    rfl

/-- **C04.field_text** — `get_field_by_number(j)` returns the j-th field of the denoted record: nothing outside the record
is read -/
theorem field_text (e : Ext) (h : WF e) (j : Nat) : e.fieldText j = e.abs.map (·.field j) := by
  rw [Ext.fieldText, Ext.abs, List.map_map]
  exact List.map_congr_left fun r hr => (field_absRow e.data r (h.2 r hr) j).symm

/-- **C04.program_fields** — after any program every field is the original text of that field in the selected source record -/
theorem program_fields (tabs : List Ext) (ht : ∀ t ∈ tabs, Inv t) (p : Prog) (j : Nat) :
    (p.evalExt tabs).map (fun e => e.fieldText j) = (p.evalSpec (tabs.map Ext.abs)).map (·.map (·.field j)) :=
  program_map tabs ht p _ _ fun e h _ => field_text e h.1 j

theorem getD_map_field (l : List Rec) (j i : Nat) :
    (l.map (·.field j)).getD i [] = ((l[i]?).map (·.field j)).getD [] := by
  simp only [List.getD_eq_getElem?_getD, List.getElem?_map]

/-- **C04.rest_text** — `get_fields_by_range(from_nr=j)` (repaired rule) returns, for every entry,
the record's text from field j to the end of its last field -/
theorem rest_text (e : Ext) (h : WF e) (j : Nat) (hj : ∀ r ∈ e.rows, j < r.fS.length) :
    e.rest j = e.abs.map (·.rest j) := by
  rw [Ext.rest, Ext.abs, List.map_map]
  refine List.map_congr_left fun r hr => ?_
  have hw := h.2 r hr
  have hne := Nat.zero_lt_of_lt (hj r hr)
  obtain ⟨a1, -⟩ := field_bounds r _ hw j (hj r hr)
  obtain ⟨b1, b2⟩ := last_bounds r _ hw hne
  simp only [Function.comp, Rec.rest, rel_getElem? e.data r hw.2.2.1 j (hj r hr), rel_getLast? e.data r hw.2.2.1 hne]
  -- the record-relative length `(ls - eS) + ll - (s - eS)` back to the absolute `ls + ll - s`
  rw [← Nat.sub_add_comm b1, Nat.sub_sub_sub_cancel_right a1]
  exact (slice_slice e.data _ _ _ _ a1 fun hl => by rwa [Nat.add_sub_cancel' (Nat.le_of_lt (Nat.lt_of_sub_pos hl))]).symm

theorem byteAt_slice (d : Bytes) (s l i : Nat) (hi : i < l) : byteAt (slice d s l) i = byteAt d (s + i) := by
  simp only [byteAt, slice, List.getD_eq_getElem?_getD, List.getElem?_take, hi, if_true, List.getElem?_drop]

/-- **C04.sam_extra_text** — `_get_extra_field` (repaired rule) returns the record's text after its
11th field and the following separator, up to the line terminator (LF or CRLF); empty when there are no tags -/
theorem sam_extra_text (e : Ext) (h : WF e) (hne : ∀ r ∈ e.rows, 0 < r.fS.length) :
    e.samExtra = e.abs.map (·.extra) := by
  rw [Ext.samExtra, Ext.abs, List.map_map]
  refine List.map_congr_left fun r hr => ?_
  have hw := h.2 r hr
  have h1 := hw.1
  obtain ⟨b1, b2⟩ := last_bounds r _ hw (hne r hr)
  have hst : r.eS ≤ r.fS.getLastD 0 + r.fL.getLastD 0 + 1 := Nat.le_trans b1 (by rw [Nat.add_assoc]; exact Nat.le_add_right ..)
  simp only [Function.comp, Rec.extra, rel_getLast? e.data r hw.2.2.1 (hne r hr)]
  -- the record-relative start `(ls - eS) + ll + 1` and length `(eE - eS) - 1 - δ - start` back to the absolute ones
  rw [show (absRow e.data r).raw.length = r.eE - r.eS from slice_length _ _ _ (by rw [Nat.add_sub_cancel' h1]; exact hw.2.1),
    ← Nat.sub_add_comm b1, ← Nat.sub_add_comm (Nat.le_trans b1 (Nat.le_add_right ..)),
    Nat.sub_right_comm r.eE r.eS, Nat.sub_right_comm (r.eE - 1) r.eS, Nat.sub_sub_sub_cancel_right hst]
  rcases Nat.lt_or_ge r.eE (r.eS + 2) with hl | hl
  · -- a record shorter than two bytes has no room for tags: both sides are empty, whatever byte the CR test looks at
    have hz := Nat.le_trans (Nat.sub_le_of_le_add (Nat.le_of_lt_succ hl)) hst
    rw [Nat.sub_eq_zero_of_le (Nat.le_trans (Nat.sub_le ..) hz), Nat.sub_eq_zero_of_le (Nat.le_trans (Nat.sub_le ..) hz)]
    rfl
  · rw [show byteAt (absRow e.data r).raw (r.eE - r.eS - 2) = byteAt e.data (r.eE - 2) by
      have h2 : 2 ≤ r.eE - r.eS := Nat.le_sub_of_add_le' hl
      rw [← Nat.add_sub_cancel' h1, Nat.add_sub_assoc h2, Nat.add_sub_cancel_left]
      exact byteAt_slice _ _ _ _ (Nat.sub_lt (Nat.lt_of_lt_of_le Nat.two_pos h2) Nat.two_pos)]
    exact (slice_slice e.data _ _ _ _ hst fun hl => by
      rw [Nat.add_sub_cancel' (Nat.le_of_lt (Nat.lt_of_sub_pos hl))]
      exact Nat.le_trans (Nat.sub_le ..) (Nat.sub_le ..)).symm

theorem rowWFb_sound (dlen : Nat) (r : Row) (h : rowWFb dlen r = true) : RowWF dlen r := by
  simp only [rowWFb, Bool.and_eq_true, decide_eq_true_eq, beq_iff_eq, List.all_eq_true] at h
  obtain ⟨⟨⟨⟨a, b⟩, c⟩, d⟩, f⟩ := h
  exact ⟨a, b, c, d, f⟩

/-- **C04.invB_sound** — `Ext.invB e = true` establishes the hypothesis `Inv e` of the program theorems -/
theorem invB_sound (e : Ext) (h : e.invB = true) : Inv e := by
  simp only [Ext.invB, Bool.and_eq_true, beq_iff_eq, List.all_eq_true, Bool.or_eq_true, Bool.not_eq_eq_eq_not, Bool.not_true] at h
  obtain ⟨⟨⟨⟨a, b⟩, c⟩, d⟩, f⟩ := h
  exact ⟨⟨⟨a, b, c⟩, fun r hr => rowWFb_sound _ r (d r hr)⟩, fun hc => f.resolve_left (hc ▸ Bool.noConfusion)⟩

/-- **C04.bam_records** — `BamBufferExtractor.__getitem__/_make_contigous/data` is the same machine with empty field tables:
record bounds inside the data suffice -/
theorem bam_records (e : Ext) (hl : LenWF e)
    (hr : ∀ r ∈ e.rows, r.fS = [] ∧ r.fL = [] ∧ r.eS ≤ r.eE ∧ r.eE ≤ e.data.length) (ix : Idx) :
    WF e ∧ (e.index ix).map Ext.abs = pyIndex e.abs ix ∧
    (∀ e', e.index ix = some e' → e'.bytes = specBytes e'.abs) := by
  have hwf : WF e := ⟨hl, fun r h => by
    obtain ⟨a, b, c, d⟩ := hr r h
    exact ⟨c, d, by rw [a, b], by rw [a]; nofun, by rw [a]; nofun⟩⟩
  exact ⟨hwf, select_refines e hl ix, fun e' he' => bytes_spec e' (index_inv e hwf ix e' he')⟩

/-! In the evaluations below the string literals are first rewritten with `String.toList_ofList`: left to itself the kernel
encodes each literal to UTF-8 and decodes it again, far slower than the evaluation proper. -/

def crlfWitness : Bytes := "a\t1\r\nbb\t22\r\n".toList.map Char.toNat

/-- **C04.buildOld_unsound** — with the shipped rule (`entry_ends` taken after the CR was stripped from the last field) a CRLF
file's extractor violates the invariant, and selecting `[1, 0]` writes records without their newline -/
theorem buildOld_unsound :
    (buildDelimited false 9 crlfWitness).map Ext.invB = some false ∧
    (buildDelimited false 9 crlfWitness).map (fun e => (e.select [1, 0]).bytes)
      = some ("bb\t22\ra\t1\r".toList.map Char.toNat) := by
  unfold crlfWitness
  rw [String.toList_ofList, String.toList_ofList]
  decide +kernel

/-- **C04.buildFixed_witness** — the repaired rule on the same file -/
theorem buildFixed_witness :
    (buildDelimited true 9 crlfWitness).map Ext.invB = some true ∧
    (buildDelimited true 9 crlfWitness).map (fun e => (e.select [1, 0]).bytes)
      = some ("bb\t22\r\na\t1\r\n".toList.map Char.toNat) ∧
    (buildDelimited true 9 crlfWitness).map (fun e => e.fieldText 1)
      = some ["1".toList.map Char.toNat, "22".toList.map Char.toNat] := by
  unfold crlfWitness
  repeat rw [String.toList_ofList]
  decide +kernel

/-- **C04.restOld_unsound** — with the repaired record ends, the shipped rest-of-line rule (measured from `entry_ends`) would
return the VCF genotype columns of a CRLF file WITH the carriage return -/
theorem restOld_unsound :
    (buildDelimited true 9 ("a\tb\tGT\t0|1\r\n".toList.map Char.toNat)).map (fun e => (e.restOld 2, e.rest 2))
      = some (["GT\t0|1\r".toList.map Char.toNat], ["GT\t0|1".toList.map Char.toNat]) := by
  repeat rw [String.toList_ofList]
  decide +kernel

def demo : Ext := (buildDelimited true 9 ("chr1\t007\t+12\nc\t3\t4\nchrX\t10\t20\n".toList.map Char.toNat)).getD ⟨[], [], [], [], [], true⟩

theorem demo_invB : demo.invB = true := by
  rw [demo, String.toList_ofList]
  decide +kernel

example : demo.invB = true := demo_invB
example : Inv demo := invB_sound demo demo_invB
example : (Prog.evalExt [demo, demo] (.sel (.cat (.sel (.leaf 0) (.slice none none (-1))) (.touch (.leaf 1))) (.ints [-1, 0, 0, 4]))).map Ext.bytes
    = some ("chrX\t10\t20\nchrX\t10\t20\nchrX\t10\t20\nc\t3\t4\n".toList.map Char.toNat) := by
  rw [demo, String.toList_ofList, String.toList_ofList]
  decide +kernel
example : (buildKLine 4 [1, 0, 0, 0] ("@r1 d\nACGT\n+r1 d\nIIII\n@r2\nAC\n+\n#I\n".toList.map Char.toNat)).map Ext.invB = some true := by
  rw [String.toList_ofList]
  decide +kernel
example : (buildSam ("r1\t0\tc\t007\t60\t4M\t*\t0\t0\tACGT\tIIII\tNM:i:0\tXS:A:+\nr2\t16\tc\t9\t0\t2M\t=\t1\t0\tAC\tII\n".toList.map Char.toNat)).map
    (fun e => (e.invB, e.samExtra)) = some (true, ["NM:i:0\tXS:A:+".toList.map Char.toNat, []]) := by
  rw [String.toList_ofList, String.toList_ofList]
  decide +kernel
example : (buildSam ("r1\t0\tc\t007\t60\t4M\t*\t0\t0\tACGT\tIIII\tNM:i:0\r\nr2\t16\tc\t9\t0\t2M\t=\t1\t0\tAC\tII\r\n".toList.map Char.toNat)).map
    (fun e => (e.invB, e.samExtra, e.fieldText 10)) = some (true, ["NM:i:0".toList.map Char.toNat, []],
      ["IIII".toList.map Char.toNat, "II".toList.map Char.toNat]) := by
  repeat rw [String.toList_ofList]
  decide +kernel

end C04
