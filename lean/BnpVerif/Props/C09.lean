import BnpVerif.Model.C09
import BnpVerif.Model.C08
import BnpVerif.Lemmas.RleArray
import BnpVerif.Base.Order
import BnpVerif.Base.Lists
import BnpVerif.Base.Offsets
/-! C09 — genomic arrays are exact, lossless views of dense per-base arrays.

A run-length array is read as stored (`runs`), as `(end, value)` pairs from a position (`expandP`, `ofPairs`: constructors,
ufunc engine) and as records (`expandR`, `Contig`, `ofRecs`: slicing, `get_data`); single positions go through `recAt`. -/
namespace C09
open Base.Rle

/-! ## the stored form: `runs` -/

theorem runs_map {V W : Type} (f : V → W) : ∀ (ev : List Nat) (vs : List V), runs ev (vs.map f) = (runs ev vs).map f
  | e0 :: e1 :: es, v :: vs => by
    simp only [List.map_cons, runs, runs_map f (e1 :: es) vs, List.map_append, List.map_replicate]
  | [], _ | [_], _ | _ :: _ :: _, [] => by simp only [runs, List.map_nil]

theorem mapRle_WF {V W : Type} (f : V → W) (r : Rle V) (h : r.WF) : (mapRle f r).WF :=
  ⟨by simpa [mapRle] using h.1, h.2⟩

/-- unary ufuncs and ufuncs with a scalar commute with the dense expansion -/
theorem mapRle_dense {V W : Type} (f : V → W) (r : Rle V) : (mapRle f r).toDense = r.toDense.map f :=
  runs_map f r.events r.values

theorem runs_length {V : Type} : ∀ (c : Nat) (es : List Nat) (vs : List V), (c :: es).Pairwise (· < ·) →
    es.length = vs.length → (runs (c :: es) vs).length + c = ((c :: es).getLast?).getD 0
  | c, [], [], _, _ => Nat.zero_add c
  | c, e :: es, v :: vs, hp, hl => by
    rw [runs, List.length_append, List.length_replicate, List.getLast?_cons_cons,
      ← runs_length e es vs (List.pairwise_cons.1 hp).2 (Nat.succ.inj hl), Nat.add_right_comm,
      Nat.sub_add_cancel (Nat.le_of_lt ((List.pairwise_cons.1 hp).1 e (List.mem_cons_self ..))), Nat.add_comm]
  | _, [], _ :: _, _, hl | _, _ :: _, [], _, hl => nomatch hl

/-- `len(rle)`: the contig / genome size -/
theorem toDense_length {V : Type} (r : Rle V) (h : r.WF) : r.toDense.length = r.len := by
  obtain ⟨_ | ⟨e0, es⟩, vs⟩ := r
  · cases h.2.1
  · have := runs_length e0 es vs h.2.2 (by simpa using h.1)
    cases h.2.1
    cases es <;> simpa [Rle.toDense, Rle.len] using this

/-! ## run-length arrays as `(end, value)` pairs -/

/-- dense meaning of `(end, value)` pairs laid out from position `c` -/
def expandP {V : Type} (c : Nat) : List (Nat × V) → List V
  | [] => []
  | (e, v) :: ps => List.replicate (e - c) v ++ expandP e ps

/-- run ends are non-decreasing from `c` -/
def Mono {V : Type} : Nat → List (Nat × V) → Prop
  | _, [] => True
  | c, (e, _) :: ps => c ≤ e ∧ Mono e ps

/-- strictly increasing: `c :: ends` are events as `Rle.WF` wants them -/
def SMono {V : Type} : Nat → List (Nat × V) → Prop
  | _, [] => True
  | c, (e, _) :: ps => c < e ∧ SMono e ps

theorem sMono_iff {V : Type} {ps : List (Nat × V)} {c : Nat} : SMono c ps ↔ (c :: ps.map (·.1)).Pairwise (· < ·) := by
  fun_induction SMono c ps with
  | case1 => exact iff_of_true trivial (List.pairwise_singleton ..)
  | case2 c e v ps ih => exact (and_congr_right fun _ => ih).trans (Base.pairwise_cons_cons (R := (· < ·)) fun _ _ _ => Nat.lt_trans).symm

theorem SMono.mono {V : Type} {ps : List (Nat × V)} {c : Nat} : SMono c ps → Mono c ps := by
  fun_induction SMono c ps with
  | case1 => exact id
  | case2 c e v ps ih => exact fun h => ⟨Nat.le_of_lt h.1, ih h.2⟩

theorem SMono.sublist {V : Type} {c : Nat} {ps qs : List (Nat × V)} (hs : qs.Sublist ps) (h : SMono c ps) : SMono c qs :=
  sMono_iff.2 (List.Pairwise.sublist ((hs.map _).cons_cons c) (sMono_iff.1 h))

theorem ofPairs_dense {V : Type} (ps : List (Nat × V)) : (ofPairs ps).toDense = expandP 0 ps := by
  simp only [ofPairs, Rle.toDense]
  generalize (0 : Nat) = c
  induction ps generalizing c with
  | nil => rfl
  | cons p ps ih => simp only [List.map_cons, runs, expandP, ih]

theorem ofPairs_WF {V : Type} {ps : List (Nat × V)} (h : SMono 0 ps) : (ofPairs ps).WF :=
  ⟨by simp [ofPairs], rfl, sMono_iff.1 h⟩

theorem ofPairs_pairsOf {V : Type} (r : Rle V) (h : r.WF) : ofPairs (pairsOf r) = r := by
  obtain ⟨_ | ⟨e0, es⟩, vs⟩ := r
  · cases h.2.1
  · have hl : es.length = vs.length := by simpa using h.1
    cases h.2.1
    simp only [ofPairs, pairsOf, List.tail_cons]
    rw [List.map_fst_zip (Nat.le_of_eq hl), List.map_snd_zip (Nat.le_of_eq hl.symm)]

theorem pairsOf_ofPairs {V : Type} (ps : List (Nat × V)) : pairsOf (ofPairs ps) = ps :=
  (List.zip_of_prod rfl rfl).symm

theorem pairsOf_of_WF {V : Type} (r : Rle V) (h : r.WF) : SMono 0 (pairsOf r) ∧ expandP 0 (pairsOf r) = r.toDense := by
  have hr := ofPairs_pairsOf r h
  exact ⟨sMono_iff.2 (by have := h.2.2; rwa [← hr] at this), by rw [← ofPairs_dense, hr]⟩

/-! ## run-length arrays as records -/

/-- sorted, non-overlapping, non-empty records -/
def OkBg {V : Type} (bg : List (Rec V)) : Prop :=
  bg.Pairwise (fun a b => a.2.1 ≤ b.1) ∧ ∀ r ∈ bg, r.1 < r.2.1

theorem OkBg.tail {V : Type} {r : Rec V} {bg : List (Rec V)} (h : OkBg (r :: bg)) : OkBg bg :=
  ⟨(List.pairwise_cons.1 h.1).2, fun x hx => h.2 x (List.mem_cons_of_mem _ hx)⟩

/-- expansion of records by their own lengths -/
def expandR {V : Type} (recs : List (Rec V)) : List V := recs.flatMap (fun r => List.replicate (r.2.1 - r.1) r.2.2)

/-- records tile `[c, …)` without gaps or overlaps, each non-empty -/
def Contig {V : Type} : Nat → List (Rec V) → Prop
  | _, [] => True
  | c, (s, e, _) :: rest => s = c ∧ c < e ∧ Contig e rest

theorem expandR_cons {V : Type} (r : Rec V) (recs : List (Rec V)) :
    expandR (r :: recs) = List.replicate (r.2.1 - r.1) r.2.2 ++ expandR recs := rfl

theorem expandR_runRecs {V : Type} : ∀ (ev : List Nat) (vs : List V), expandR (runRecs ev vs) = runs ev vs
  | e0 :: e1 :: es, v :: vs => by simp only [runRecs, runs, expandR_cons, expandR_runRecs (e1 :: es) vs]
  | [], _ | [_], _ | _ :: _ :: _, [] => by simp only [runRecs, runs]; rfl

theorem contig_runRecs {V : Type} : ∀ (e0 : Nat) (es : List Nat) (vs : List V), (e0 :: es).Pairwise (· < ·) →
    Contig e0 (runRecs (e0 :: es) vs)
  | e0, e1 :: es, v :: vs, h =>
    ⟨rfl, (List.pairwise_cons.1 h).1 e1 (List.mem_cons_self ..), contig_runRecs e1 es vs (List.pairwise_cons.1 h).2⟩
  | _, [], _, _ | _, _ :: _, [], _ => by simp only [runRecs, Contig]

theorem contig_of_WF {V : Type} (r : Rle V) (h : r.WF) : Contig 0 (runRecs r.events r.values) := by
  obtain ⟨_ | ⟨e0, es⟩, vs⟩ := r
  · cases h.2.1
  · cases h.2.1
    exact contig_runRecs 0 es vs h.2.2

theorem Contig.start_le {V : Type} {recs : List (Rec V)} {c : Nat} : Contig c recs → ∀ r ∈ recs, c ≤ r.1 := by
  fun_induction Contig c recs with
  | case1 => exact fun _ => nofun
  | case2 c s e v rest ih =>
    exact fun ⟨hs, hlt, hrest⟩ => List.forall_mem_cons.2
      ⟨Nat.le_of_eq hs.symm, fun r hr => Nat.le_trans (Nat.le_of_lt hlt) (ih hrest r hr)⟩

theorem Contig.okBg {V : Type} {recs : List (Rec V)} {c : Nat} : Contig c recs → OkBg recs := by
  fun_induction Contig c recs with
  | case1 => exact fun _ => ⟨.nil, nofun⟩
  | case2 c s e v rest ih =>
    exact fun ⟨hs, hlt, hrest⟩ => ⟨List.pairwise_cons.2 ⟨hrest.start_le, (ih hrest).1⟩,
      List.forall_mem_cons.2 ⟨hs ▸ hlt, (ih hrest).2⟩⟩

theorem Contig.runRecs_eq {V : Type} {recs : List (Rec V)} {c : Nat} : Contig c recs →
    (c :: recs.map (·.2.1)).Pairwise (· < ·) ∧ runRecs (c :: recs.map (·.2.1)) (recs.map (·.2.2)) = recs := by
  fun_induction Contig c recs with
  | case1 => exact fun _ => ⟨List.pairwise_singleton .., rfl⟩
  | case2 c s e v rest ih =>
    exact fun ⟨hs, hlt, hrest⟩ => ⟨(Base.pairwise_cons_cons (R := (· < ·)) fun _ _ _ => Nat.lt_trans).2 ⟨hlt, (ih hrest).1⟩,
      by simp only [List.map_cons, runRecs, (ih hrest).2, hs]⟩

/-! ### the value at a position -/

/-- the value of the first record covering `p`: `valueAt`, `valueAtPos` without their wrapping -/
def recAt {V : Type} (recs : List (Rec V)) (p : Nat) : Option V :=
  (recs.find? (fun r => decide (r.1 ≤ p) && decide (p < r.2.1))).map (·.2.2)

theorem recAt_cons {V : Type} (r : Rec V) (recs : List (Rec V)) (p : Nat) :
    recAt (r :: recs) p = if r.1 ≤ p ∧ p < r.2.1 then some r.2.2 else recAt recs p := by
  simp only [recAt, List.find?_cons]
  by_cases h : r.1 ≤ p ∧ p < r.2.1
  · simp [h]
  · rw [if_neg h, show (decide (r.1 ≤ p) && decide (p < r.2.1)) = false by simpa using h]

theorem recAt_before {V : Type} (recs : List (Rec V)) (p : Nat) (h : ∀ r ∈ recs, p < r.1) : recAt recs p = none := by
  induction recs with
  | nil => rfl
  | cons r recs ih =>
    rw [recAt_cons, if_neg (fun hc => Nat.not_le.2 (h r (List.mem_cons_self ..)) hc.1)]
    exact ih (fun x hx => h x (List.mem_cons_of_mem _ hx))

theorem valueAt_eq {V : Type} (zero : V) (bg : List (Rec V)) (p : Nat) : valueAt zero bg p = (recAt bg p).getD zero := by
  unfold valueAt recAt
  cases bg.find? _ <;> rfl

theorem valueAtPos_eq {V : Type} (r : Rle V) (p : Nat) : valueAtPos r p = recAt (runRecs r.events r.values) p := rfl

theorem valueAt_cons {V : Type} (zero : V) (r : Rec V) (bg : List (Rec V)) (p : Nat) :
    valueAt zero (r :: bg) p = if r.1 ≤ p ∧ p < r.2.1 then r.2.2 else valueAt zero bg p := by
  simp only [valueAt_eq, recAt_cons]
  split <;> rfl

theorem valueAt_before {V : Type} (zero : V) (bg : List (Rec V)) (p : Nat) (h : ∀ r ∈ bg, p < r.1) :
    valueAt zero bg p = zero := by
  rw [valueAt_eq, recAt_before bg p h]; rfl

theorem expandR_getElem?_add {V : Type} (recs : List (Rec V)) (c : Nat) : Contig c recs → ∀ i,
    (expandR recs)[i]? = recAt recs (c + i) := by
  fun_induction Contig c recs with
  | case1 => exact fun _ _ => rfl
  | case2 c s e v rest ih =>
    intro ⟨hs, hlt, hrest⟩ i
    subst hs
    simp only [expandR_cons, List.getElem?_append, List.getElem?_replicate, List.length_replicate, recAt_cons]
    by_cases h : i < e - s
    · rw [if_pos h, if_pos h, if_pos ⟨Nat.le_add_right .., Nat.lt_sub_iff_add_lt'.1 h⟩]
    · rw [if_neg h, if_neg (fun hc => h (Nat.lt_sub_iff_add_lt'.2 hc.2)), ih hrest]
      congr 1; omega

theorem Contig.expandR_getElem? {V : Type} {recs : List (Rec V)} (hC : Contig 0 recs) (i : Nat) :
    (expandR recs)[i]? = recAt recs i := by
  rw [expandR_getElem?_add recs 0 hC, Nat.zero_add]

/-- the dense value at base `p` is the value of the run that contains `p` (`t[locations]`) -/
theorem toDense_getElem {V : Type} (r : Rle V) (h : r.WF) (p : Nat) : r.toDense[p]? = valueAtPos r p := by
  rw [valueAtPos_eq, Rle.toDense, ← expandR_runRecs]
  exact (contig_of_WF r h).expandR_getElem? p

/-! ## `to_array` -/

theorem toArray_dense_bool (r : Rle Bool) (h : r.WF) : toArrayBool r = r.toDense :=
  C08.toArray_dense xor false (by simp) (by intro a b; cases a <;> cases b <;> rfl) r h

/-- `to_array` on the unsigned 64-bit view (floats, non-negative ints): exact for every bit pattern -/
theorem toArray_dense_bits (r : Rle Nat) (h : r.WF) : r.toArray Nat.xor 0 = r.toDense :=
  C08.toArray_dense Nat.xor 0 Nat.xor_zero
    (fun a b => by show a ^^^ (a ^^^ b) = b; rw [← Nat.xor_assoc, Nat.xor_self, Nat.zero_xor]) r h

theorem dec64_enc64 (v : Int) (h1 : -(2 ^ 63 : Int) ≤ v) (h2 : v < (2 ^ 63 : Int)) : dec64 (enc64 v) = v := by
  unfold dec64 enc64
  split <;> omega

/-- `to_array` on int64 values (two's complement words) -/
theorem toArray_dense_int (r : Rle Int) (h : r.WF) (hr : ∀ v ∈ r.values, -(2 ^ 63 : Int) ≤ v ∧ v < (2 ^ 63 : Int)) :
    toArrayInt r = r.toDense := by
  have : (r.values.map enc64).map dec64 = r.values := by
    rw [List.map_map]
    exact (List.map_congr_left (fun v hv => dec64_enc64 v (hr v hv).1 (hr v hv).2)).trans (List.map_id _)
  rw [toArrayInt, toArray_dense_bits _ (mapRle_WF enc64 r h), ← mapRle_dense]
  simp only [mapRle, this]

example : toArrayInt ⟨[0, 1, 3, 4], [-5, 2, -5]⟩ = [-5, 2, 2, -5] := by decide +kernel

/-! ## from_bedgraph, and from_intervals with an array of values -/

/-- the runs both constructors lay out from `c` on: a `zero` run before every record that does not start at the
current position, and a last one if the records stop short of `size` -/
def fill {V : Type} (zero : V) (size : Nat) : Nat → List (Rec V) → List (Nat × V)
  | c, [] => if c = size then [] else [(size, zero)]
  | c, (s, e, v) :: rest => (if s = c then [] else [(s, zero)]) ++ (e, v) :: fill zero size e rest

theorem fill_spec {V : Type} (zero : V) (size : Nat) (bg : List (Rec V)) : ∀ c, c ≤ size →
    (∀ r ∈ bg, c ≤ r.1 ∧ r.2.1 ≤ size) → OkBg bg →
    SMono c (fill zero size c bg) ∧
      expandP c (fill zero size c bg) = (List.range' c (size - c)).map (valueAt zero bg) := by
  induction bg with
  | nil =>
    intro c hc _ _
    simp only [fill]
    split
    · subst c; exact ⟨trivial, by simp [expandP]⟩
    · exact ⟨⟨Nat.lt_of_le_of_ne hc ‹_›, trivial⟩,
        by rw [Base.map_range'_const (valueAt zero []) zero c (size - c) (fun _ _ _ => rfl)]; simp [expandP]⟩
  | cons x bg ih =>
    obtain ⟨s, e, v⟩ := x
    intro c hc hin hok
    have hx : c ≤ s ∧ e ≤ size := hin _ (List.mem_cons_self ..)
    have hse : s < e := hok.2 _ (List.mem_cons_self ..)
    have hgt : ∀ r ∈ bg, e ≤ r.1 := (List.pairwise_cons.1 hok.1).1
    obtain ⟨ih1, ih2⟩ := ih e hx.2 (fun r hr => ⟨hgt r hr, (hin r (List.mem_cons_of_mem _ hr)).2⟩) hok.tail
    have hd : expandP c (fill zero size c ((s, e, v) :: bg)) =
        List.replicate (s - c) zero ++ (List.replicate (e - s) v ++ expandP e (fill zero size e bg)) := by
      simp only [fill]; split
      · subst c; simp [expandP]
      · simp [expandP]
    refine ⟨?_, ?_⟩
    · simp only [fill]; split
      · subst c; exact ⟨hse, ih1⟩
      · exact ⟨Nat.lt_of_le_of_ne hx.1 (Ne.symm ‹_›), hse, ih1⟩
    · rw [hd, ih2, Base.map_range'_prefix _ zero hx.1 (Nat.le_trans (Nat.le_of_lt hse) hx.2),
        Base.map_range'_prefix _ v (Nat.le_of_lt hse) hx.2]
      -- the main goal, then the side goals of the two splits, `[s, e)` first
      · congr 2
        apply List.map_congr_left
        intro p hp
        rw [valueAt_cons, if_neg (fun h => Nat.not_lt.2 (List.mem_range'_1.1 hp).1 h.2)]
      · intro p h1 h2; rw [valueAt_cons, if_pos ⟨h1, h2⟩]
      · intro p h1 h2
        rw [valueAt_cons, if_neg (fun h => Nat.not_lt.2 h.1 h2)]
        exact valueAt_before zero bg p (fun r hr => Nat.lt_of_lt_of_le h2 (Nat.le_trans (Nat.le_of_lt hse) (hgt r hr)))

theorem ofPairs_fill {V : Type} (zero : V) (bg : List (Rec V)) (size : Nat) (hok : OkBg bg)
    (hle : ∀ r ∈ bg, r.2.1 ≤ size) :
    (ofPairs (fill zero size 0 bg)).WF ∧ (ofPairs (fill zero size 0 bg)).toDense = specDense zero bg size := by
  obtain ⟨h1, h2⟩ := fill_spec zero size bg 0 (Nat.zero_le _) (fun r hr => ⟨Nat.zero_le _, hle r hr⟩) hok
  exact ⟨ofPairs_WF h1, by rw [ofPairs_dense, h2, specDense, List.range_eq_range']; rfl⟩

theorem lastStop_cons_cons {V : Type} (r r' : Rec V) (rest : List (Rec V)) :
    lastStop (r :: r' :: rest) = lastStop (r' :: rest) := by
  simp [lastStop]

/-- what `from_bedgraph` puts together is the filling-in behind the first record -/
theorem gapPairs_fill {V : Type} (zero : V) (size : Nat) (rest : List (Rec V)) : ∀ r : Rec V,
    (gapPairs zero (r :: rest)).map (·.1) ++ lastStop (r :: rest) :: (fill zero size (lastStop (r :: rest)) []).map (·.1) =
      r.1 :: r.2.1 :: (fill zero size r.2.1 rest).map (·.1) ∧
    (gapPairs zero (r :: rest)).map (·.2) ++ (fill zero size (lastStop (r :: rest)) []).map (·.2) =
      r.2.2 :: (fill zero size r.2.1 rest).map (·.2) := by
  induction rest with
  | nil => intro r; simp [gapPairs, lastStop]
  | cons r' rest ih =>
    obtain ⟨s', e', v'⟩ := r'
    intro r
    obtain ⟨ih1, ih2⟩ := ih (s', e', v')
    rw [lastStop_cons_cons]
    -- hide the trailing run, or `simp` opens its `if`
    generalize fill zero size (lastStop ((s', e', v') :: rest)) [] = tl at ih1 ih2 ⊢
    by_cases h : s' = r.2.1
    · subst h; simpa [gapPairs, fill] using ⟨ih1, ih2⟩
    · simp [gapPairs, fill, h, ih1, ih2]

theorem gapPairs_lengths {V : Type} (zero : V) (bg : List (Rec V)) :
    ((gapPairs zero bg).map (·.1)).length = ((gapPairs zero bg).map (·.2)).length := by simp

theorem fromBedgraph_eq {V : Type} (zero : V) (bg : List (Rec V)) (size : Nat) (hsz : bg = [] → 0 < size) :
    fromBedgraph zero bg (some size) = ofPairs (fill zero size 0 bg) := by
  cases bg with
  | nil => simp [fromBedgraph, fill, ofPairs, Nat.ne_of_lt (hsz rfl)]
  | cons r rest =>
    obtain ⟨h1, h2⟩ := gapPairs_fill zero size rest r
    -- the `if` of `fromBedgraph`'s body word for word, its trailing run as `fill … L []`
    have hev : ∀ (S : List Nat) (W : List V) (L : Nat),
        (if some size = none ∨ some size = some L then (S ++ [L], W) else (S ++ [L, (some size).getD 0], W ++ [zero])) =
          (S ++ L :: (fill zero size L []).map (·.1), W ++ (fill zero size L []).map (·.2)) := by
      intro S W L
      by_cases h : L = size
      · simp [fill, h]
      · simp [fill, h, Ne.symm h]
    simp only [fromBedgraph, hev, h1, h2]
    by_cases h0 : r.1 = 0 <;> simp [fill, ofPairs, h0]

/-- the constructor theorem with the bound on every stop; `bedgraph_dense` below asks it of the last stop only -/
theorem bedgraph_dense_of_stops {V : Type} (zero : V) (bg : List (Rec V)) (size : Nat) (hsz : bg = [] → 0 < size)
    (hok : OkBg bg) (hle : ∀ r ∈ bg, r.2.1 ≤ size) :
    (fromBedgraph zero bg (some size)).WF ∧ (fromBedgraph zero bg (some size)).toDense = specDense zero bg size := by
  rw [fromBedgraph_eq zero bg size hsz]
  exact ofPairs_fill zero bg size hok hle

theorem stops_le_last {V : Type} (bg : List (Rec V)) : OkBg bg → ∀ r ∈ bg, r.2.1 ≤ lastStop bg := by
  induction bg with
  | nil => intro _ r h; cases h
  | cons x bg ih =>
    intro hok r hr
    cases bg with
    | nil => cases List.mem_singleton.1 hr; simp [lastStop]
    | cons y bg =>
      rw [lastStop_cons_cons]
      rcases List.mem_cons.1 hr with rfl | hr
      · have h1 : r.2.1 ≤ y.1 := (List.pairwise_cons.1 hok.1).1 y (List.mem_cons_self ..)
        have h2 : y.1 < y.2.1 := hok.2 y (List.mem_cons_of_mem _ (List.mem_cons_self ..))
        have h3 := ih hok.tail y (List.mem_cons_self ..)
        omega
      · exact ih hok.tail r hr

/-- **from_bedgraph**: for every sorted non-overlapping bedGraph (gaps or none, start at 0 or later, end at or before
`size`, empty) the array is well formed and its dense meaning is the value under each record, `zero` elsewhere -/
theorem bedgraph_dense {V : Type} (zero : V) (bg : List (Rec V)) (size : Nat) (hsz : bg = [] → 0 < size) (hok : OkBg bg)
    (hlast : lastStop bg ≤ size) :
    (fromBedgraph zero bg (some size)).WF ∧ (fromBedgraph zero bg (some size)).toDense = specDense zero bg size :=
  bedgraph_dense_of_stops zero bg size hsz hok (fun r hr => Nat.le_trans (stops_le_last bg hok r hr) hlast)

/-- without a size the array ends at the last stop -/
theorem bedgraph_dense_nosize {V : Type} (zero : V) (r : Rec V) (bg : List (Rec V)) (hok : OkBg (r :: bg)) :
    (fromBedgraph zero (r :: bg) none).WF ∧
    (fromBedgraph zero (r :: bg) none).toDense = specDense zero (r :: bg) (lastStop (r :: bg)) := by
  rw [show fromBedgraph zero (r :: bg) none = fromBedgraph zero (r :: bg) (some (lastStop (r :: bg))) by
    simp [fromBedgraph]]
  exact bedgraph_dense zero (r :: bg) _ (fun h => by cases h) hok (Nat.le_refl _)

example : OkBg [((1 : Nat), (3 : Nat), (2 : Int)), (3, 4, 5), (6, 8, -1)] ∧ lastStop [((1 : Nat), (3 : Nat), (2 : Int)), (3, 4, 5), (6, 8, -1)] ≤ 9 := by
  unfold OkBg; decide +kernel

example : (fromBedgraph (0 : Int) [(1, 3, 2), (3, 4, 5), (6, 8, -1)] (some 9)).events = [0, 1, 3, 4, 6, 8, 9] ∧
    (fromBedgraph (0 : Int) [(1, 3, 2), (3, 4, 5), (6, 8, -1)] (some 9)).values = [0, 2, 5, 0, -1, 0] := by decide +kernel

example : (⟨[0, 1, 3, 4, 6, 8, 9], [0, 2, 5, 0, -1, 0]⟩ : Rle Int).WF := by decide +kernel

/-- `Geometry.get_track` before the repair built the genome-wide array without the genome size: it ends at the last
record (npstructures then padded the chromosome's slice with the last value) -/
theorem getTrackOld_unsound :
    (fromBedgraph (0 : Int) [(0, 1, 2)] none).toDense = [2] ∧ specDense (0 : Int) [(0, 1, 2)] 3 = [2, 0, 0] := by decide +kernel

/-- strictly separated, non-empty records -/
def SepR {V : Type} (recs : List (Rec V)) : Prop :=
  recs.Pairwise (fun a b => a.2.1 < b.1) ∧ ∀ r ∈ recs, r.1 < r.2.1

theorem SepR.ok {V : Type} {recs : List (Rec V)} (h : SepR recs) : OkBg recs :=
  ⟨h.1.imp Nat.le_of_lt, h.2⟩

/-- between separated intervals `from_intervals` always puts a default run -/
theorem interleave_fill {V : Type} (d : V) (size : Nat) (rest : List (Rec V)) : ∀ r : Rec V,
    ((r :: rest).Pairwise (fun a b => a.2.1 < b.1)) →
    let tl := if ((r :: rest).map (·.2.1)).getLast? = some size then [] else [(size, d)]
    interleave ((r :: rest).map (·.1)) ((r :: rest).map (·.2.1)) ++ tl.map (·.1) =
      r.1 :: r.2.1 :: (fill d size r.2.1 rest).map (·.1) ∧
    interleave (((r :: rest).map (·.2.2)).map (fun _ => d)) ((r :: rest).map (·.2.2)) ++ tl.map (·.2) =
      d :: r.2.2 :: (fill d size r.2.1 rest).map (·.2) := by
  induction rest with
  | nil =>
    intro r _
    by_cases h : r.2.1 = size <;>
      simp only [List.map_cons, List.map_nil, interleave, List.getLast?_singleton, Option.some.injEq, h, ↓reduceIte,
        List.append_nil, List.cons_append, List.nil_append, fill, and_self]
  | cons r' rest ih =>
    obtain ⟨s', e', v'⟩ := r'
    intro r hp
    have hne : ¬ s' = r.2.1 := Nat.ne_of_gt ((List.pairwise_cons.1 hp).1 _ (List.mem_cons_self ..))
    have := ih (s', e', v') (List.pairwise_cons.1 hp).2
    simp only [List.map_cons, List.getLast?_cons_cons] at this ⊢
    generalize (if (e' :: rest.map (·.2.1)).getLast? = some size then [] else [(size, d)]) = tl at this ⊢
    simpa only [interleave, List.cons_append, fill, hne, ↓reduceIte, List.nil_append, List.map_cons,
      List.cons.injEq, true_and, List.map_map] using this

/-- on separated intervals `from_intervals(values=array)` builds what `from_bedgraph` builds -/
theorem fromIntervalsArr_eq {V : Type} (d : V) (recs : List (Rec V)) (size : Nat) (hsz : recs = [] → 0 < size)
    (h : recs.Pairwise (fun a b => a.2.1 < b.1)) :
    fromIntervalsArr (recs.map (·.1)) (recs.map (·.2.1)) size (recs.map (·.2.2)) d = ofPairs (fill d size 0 recs) := by
  cases recs with
  | nil => simp [fromIntervalsArr, interleave, fill, ofPairs, Nat.ne_of_lt (hsz rfl)]
  | cons r rest =>
    obtain ⟨s, e, v⟩ := r
    obtain ⟨h1, h2⟩ := interleave_fill d size rest (s, e, v) h
    -- the two `if`s of `fromIntervalsArr`'s body (trailing default, closing event) as the one optional run of `interleave_fill`
    have ht : ∀ (c : Prop) [Decidable c] (v0 : List V), (if c then v0 else v0 ++ [d]) =
        v0 ++ (if c then [] else [(size, d)]).map (·.2) := by intro c _ v0; split <;> simp
    have hp : ∀ (c : Prop) [Decidable c], (if c then [] else [size]) = (if c then [] else [(size, d)]).map (·.1) := by
      intro c _; split <;> rfl
    simp only [fromIntervalsArr, ht, hp, List.append_assoc, h1, h2]
    by_cases h0 : s = 0 <;> simp [fill, ofPairs, h0, List.take_of_length_le]

/-- **from_intervals(values=array)**: separated intervals with per-interval values expand to the value under
each interval and the default elsewhere -/
theorem intervals_values_dense {V : Type} (d : V) (recs : List (Rec V)) (size : Nat) (hsz : 0 < size) (hsep : SepR recs)
    (hle : ∀ r ∈ recs, r.2.1 ≤ size) :
    let r := fromIntervalsArr (recs.map (·.1)) (recs.map (·.2.1)) size (recs.map (·.2.2)) d
    r.WF ∧ r.toDense = specDense d recs size := by
  rw [fromIntervalsArr_eq d recs size (fun _ => hsz) hsep.1]
  exact ofPairs_fill d recs size hsep.ok hle

example : SepR [((0 : Nat), (2 : Nat), (7 : Int)), (3, 5, 1)] := by unfold SepR; decide +kernel

/-- the rule shipped between fix 6347e85 and fix bfb8d84 cast the default to the dtype of `values`: with integer values
and default 0.5 (values in halves, `cast` = truncation) the leading background became 0, the trailing one stayed 0.5 -/
theorem fromIntervalsArrOld_unsound :
    (fromIntervalsArrOld (fun x : Int => x / 2 * 2) [1] [3] 5 [4] 1).toDense = [0, 4, 4, 1, 1] ∧
    specDense (1 : Int) [(1, 3, 4)] 5 = [1, 4, 4, 1, 1] ∧
    (fromIntervalsArr [1] [3] 5 [(4 : Int)] 1).toDense = [1, 4, 4, 1, 1] := by decide +kernel

/-! ### `from_intervals` with a scalar value (`Base.Rle.fromIntervals`, used by C08's mask) -/

/-- the first `m` of `a, b, a, b, …`: the scalar and the array branch both take their values from it, or from its tail -/
def alt {V : Type} (a b : V) : Nat → List V
  | 0 => []
  | m + 1 => a :: alt b a m

theorem tile2_eq_alt {V : Type} (a b : V) : ∀ n, tile2 a b n = alt a b (2 * n)
  | 0 => rfl
  | n + 1 => congrArg (a :: b :: ·) (tile2_eq_alt a b n)

theorem interleave_replicate {V : Type} (a b : V) : ∀ n, interleave (List.replicate n a) (List.replicate n b) = alt a b (2 * n)
  | 0 => rfl
  | n + 1 => congrArg (a :: b :: ·) (interleave_replicate a b n)

theorem alt_even_concat {V : Type} : ∀ (n : Nat) (a b : V), alt a b (2 * n) ++ [a] = alt a b (2 * n + 1)
  | 0, _, _ => rfl
  | n + 1, a, b => congrArg (a :: b :: ·) (alt_even_concat n a b)

theorem take_alt {V : Type} : ∀ (m j : Nat) (a b : V), j ≤ m → (alt a b m).take j = alt a b j
  | _, 0, _, _, _ => rfl
  | m + 1, j + 1, a, b, h => congrArg (a :: ·) (take_alt m j b a (Nat.le_of_succ_le_succ h))

theorem take_tail_alt {V : Type} (a b : V) : ∀ (m j : Nat), j < m → (alt a b m).tail.take j = alt b a j
  | m + 1, j, h => take_alt m j b a (Nat.le_of_lt_succ h)

theorem interleave_length {α : Type} : ∀ (S E : List α), S.length = E.length → (interleave S E).length = 2 * S.length
  | [], [], _ => rfl
  | _ :: S, _ :: E, h => congrArg (· + 2) (interleave_length S E (Nat.succ.inj h))

/-- the scalar branch of `from_intervals` is the array branch on the broadcast value -/
theorem fromIntervals_eq_arr {V : Type} (S E : List Nat) (hl : S.length = E.length) (size : Nat) (v d : V) :
    fromIntervals S E size v d = fromIntervalsArr S E size (List.replicate S.length v) d := by
  have hM : ∀ L, L < 2 * (L / 2 + 1) := fun L => Nat.lt_mul_div_succ L Nat.two_pos
  unfold fromIntervals fromIntervalsArr
  refine congrArg (Rle.mk _) ?_
  rw [tile2_eq_alt, List.map_const', List.length_replicate, interleave_replicate,
    show (if E.getLast? = some size then alt d v (2 * S.length) else alt d v (2 * S.length) ++ [d]) =
      alt d v (2 * S.length + (if E.getLast? = some size then [] else [size]).length) by
        split
        · rfl
        · exact alt_even_concat _ d v,
    List.length_append, List.length_append, interleave_length S E hl]
  generalize (if E.getLast? = some size then [] else [size] : List Nat).length = q
  -- both sides are the first `events.length - 1` elements of `d, v, d, v, …`, or of its tail when the first start is 0
  split
  next h0 =>
    have hS : 0 < 2 * S.length + q := by
      cases S with
      | nil => cases h0
      | cons _ _ => exact Nat.lt_of_lt_of_le (Nat.mul_pos Nat.two_pos (Nat.succ_pos _)) (Nat.le_add_right _ _)
    rw [List.length_nil, Nat.add_assoc, Nat.zero_add, take_tail_alt d v _ _ (Nat.lt_of_le_of_lt (Nat.sub_le _ 1) (hM _)),
      take_tail_alt d v _ _ (Nat.sub_lt hS Nat.one_pos)]
  · rw [List.length_singleton, Nat.add_assoc, Nat.add_sub_cancel_left, take_alt _ _ d v (Nat.le_refl _),
      take_alt _ _ d v (Nat.le_of_lt (Nat.lt_of_le_of_lt (Nat.le_add_left _ 1) (hM _)))]

/-! ## slicing a chromosome out of the genome-wide array, and back to records -/

/-- the hypothesis: `clipRecs`' test fails at the window's end -/
theorem clipRecs_nil {V : Type} (a b : Nat) (recs : List (Rec V)) (h : ∀ r ∈ recs, b ≤ max r.1 a) :
    clipRecs a b recs = [] := by
  induction recs with
  | nil => rfl
  | cons x recs ih =>
    obtain ⟨s, e, v⟩ := x
    have : b ≤ max s a := h _ (List.mem_cons_self ..)
    rw [clipRecs, if_neg (fun hk => Nat.not_lt.2 this (Nat.lt_of_lt_of_le hk (Nat.min_le_right e b)))]
    exact ih (fun r hr => h r (List.mem_cons_of_mem _ hr))

theorem contig_clip {V : Type} (a b : Nat) (recs : List (Rec V)) (c : Nat) : Contig c recs →
    Contig (c - a) (clipRecs a b recs) := by
  fun_induction Contig c recs with
  | case1 => exact id
  | case2 c s e v recs ih =>
    intro ⟨hs, hlt, hrest⟩
    subst hs
    have ih' := ih hrest
    have h1 : s - a = max s a - a := Nat.sub_eq_max_sub s a
    rw [clipRecs]
    by_cases hb : e < b
    · rw [Nat.min_eq_left (Nat.le_of_lt hb)]
      split
      · exact ⟨h1.symm, h1 ▸ Nat.sub_lt_sub_right (Nat.le_max_right s a) ‹_›, ih'⟩
      · -- a run that ends at or before `a`: the next one is clipped to start at 0 as well
        have hea : e ≤ a := Nat.le_of_not_lt fun h => ‹¬ max s a < e› (Nat.max_lt.2 ⟨hlt, h⟩)
        rwa [Nat.sub_eq_zero_of_le (Nat.le_trans (Nat.le_of_lt hlt) hea), ← Nat.sub_eq_zero_of_le hea]
    · -- the later runs start at `e` or beyond: nothing of them is left
      rw [clipRecs_nil a b recs (fun r hr =>
        Nat.le_trans (Nat.le_of_not_lt hb) (Nat.le_trans (hrest.start_le r hr) (Nat.le_max_left ..)))]
      split
      · exact ⟨h1.symm, h1 ▸ Nat.sub_lt_sub_right (Nat.le_max_right s a) ‹_›, trivial⟩
      · trivial

theorem recAt_clip {V : Type} (a b i : Nat) (recs : List (Rec V)) :
    recAt (clipRecs a b recs) i = if a + i < b then recAt recs (a + i) else none := by
  induction recs with
  | nil => simp [clipRecs, recAt]
  | cons x recs ih =>
    obtain ⟨s, e, v⟩ := x
    simp only [clipRecs]
    split
    · simp only [recAt_cons, ih, ← Nat.sub_eq_max_sub, Nat.sub_le_iff_le_add', Nat.lt_sub_iff_add_lt', Nat.lt_min]
      by_cases hb : a + i < b <;> simp [hb]
    · simp only [recAt_cons, ih]
      by_cases hb : a + i < b
      · rw [if_pos hb, if_pos hb, if_neg (fun hc => ‹¬ max s a < min e b›
          (Nat.lt_of_le_of_lt (Nat.max_le.2 ⟨hc.1, Nat.le_add_right a i⟩) (Nat.lt_min.2 ⟨hc.2, hb⟩)))]
      · rw [if_neg hb, if_neg hb]

theorem slice_recs {V : Type} (r : Rle V) (h : r.WF) (a b : Nat) :
    sliceRle r a b = ofRecs (clipRecs a b (runRecs r.events r.values)) ∧
    Contig 0 (clipRecs a b (runRecs r.events r.values)) := by
  constructor
  · simp only [sliceRle]
    split
    · rw [clipRecs_nil a b _ (fun x _ => Nat.le_trans ‹a ≥ b› (Nat.le_max_right ..))]; rfl
    · rfl
  · simpa using contig_clip a b _ 0 (contig_of_WF r h)

/-- the slice `[a, b)` (one chromosome of the genome-wide array) is well formed, its dense meaning is the slice of the
dense array, and its runs (what `get_data` reads) are the array's runs clipped to the window -/
theorem slice_dense {V : Type} (r : Rle V) (h : r.WF) (a b : Nat) :
    (sliceRle r a b).WF ∧ (sliceRle r a b).toDense = (r.toDense.drop a).take (b - a) ∧
    dataRecs (sliceRle r a b) = clipRecs a b (runRecs r.events r.values) := by
  obtain ⟨hs, hC⟩ := slice_recs r h a b
  obtain ⟨hpw, hr⟩ := hC.runRecs_eq
  rw [hs]
  refine ⟨⟨by simp [ofRecs], rfl, hpw⟩, ?_, hr⟩
  apply List.ext_getElem?
  intro i
  show (runs (0 :: _) (List.map _ _))[i]? = _
  rw [← expandR_runRecs, hr, hC.expandR_getElem?, recAt_clip, List.getElem?_take, List.getElem?_drop, toDense_getElem r h]
  simp only [Nat.lt_sub_iff_add_lt']
  rfl

/-- **back-conversion** (`get_data` / `_get_intervals_from_data` on a chromosome slice): the records are non-empty,
sorted, tile the chromosome from 0, and expand to exactly the dense slice -/
theorem back_conversion {V : Type} (r : Rle V) (h : r.WF) (a b : Nat) :
    Contig 0 (dataRecs (sliceRle r a b)) ∧
    (dataRecs (sliceRle r a b)).Pairwise (fun x y => x.2.1 ≤ y.1) ∧
    (∀ x ∈ dataRecs (sliceRle r a b), x.1 < x.2.1) ∧
    expandR (dataRecs (sliceRle r a b)) = (r.toDense.drop a).take (b - a) := by
  obtain ⟨_, h2, h3⟩ := slice_dense r h a b
  have hC : Contig 0 (dataRecs (sliceRle r a b)) := h3 ▸ (slice_recs r h a b).2
  exact ⟨hC, hC.okBg.1, hC.okBg.2, by rw [← h2, dataRecs, expandR_runRecs]; rfl⟩

theorem covered_trueRuns (recs : List (Rec Bool)) (c : Nat) : Contig c recs → ∀ p,
    C08.covered ((recs.filter (·.2.2)).map (fun x => (x.1, x.2.1))) p = (recAt recs p).getD false := by
  fun_induction Contig c recs with
  | case1 => exact fun _ _ => rfl
  | case2 c s e v recs ih =>
    intro ⟨_, _, hrest⟩ p
    have ih' := ih hrest p
    rw [recAt_cons]
    by_cases hp : s ≤ p ∧ p < e
    · rw [recAt_before recs p (fun r hr => Nat.lt_of_lt_of_le hp.2 (hrest.start_le r hr))] at ih'
      rw [if_pos hp, Option.getD_some]
      cases v
      · exact ih'
      · -- `show` computes `filter`, `map`, `C08.covered` on the head record
        show (decide (s ≤ p) && decide (p < e) || _) = true
        rw [decide_eq_true hp.1, decide_eq_true hp.2]; rfl
    · rw [if_neg hp, ← ih']
      cases v
      · rfl
      · show (decide (s ≤ p) && decide (p < e) || _) = _
        rw [show (decide (s ≤ p) && decide (p < e)) = false by simpa using hp]; rfl

/-- boolean data: the reported intervals are exactly where the dense slice is `True` -/
theorem back_conversion_bool (r : Rle Bool) (h : r.WF) (a b : Nat) (p : Nat) :
    C08.covered (dataIntervals (sliceRle r a b)) p = (((r.toDense.drop a).take (b - a))[p]?).getD false := by
  obtain ⟨hC, _, _, hE⟩ := back_conversion r h a b
  rw [← hE, hC.expandR_getElem?]
  exact covered_trueRuns _ 0 hC p

/-- inside the array (`b ≤ len`: beyond it npstructures pads with the last value, through which defect 84d3e59
showed) a slice has `b − a` entries -/
theorem slice_length {V : Type} (r : Rle V) (h : r.WF) (a b : Nat) (hab : a ≤ b) (hb : b ≤ r.len) :
    (sliceRle r a b).toDense.length = b - a := by
  rw [(slice_dense r h a b).2.1, List.length_take, List.length_drop, toDense_length r h]; omega

theorem sliceRle_full {V : Type} (r : Rle V) (h : r.WF) : (sliceRle r 0 r.len).toDense = r.toDense := by
  rw [(slice_dense r h 0 r.len).2.1, List.drop_zero, Nat.sub_zero, ← toDense_length r h, List.take_length]

/-- `t[intervals]`: every row is the dense slice under the interval, reversed on the `-` strand when stranded -/
theorem extractRows_spec {V : Type} (r : Rle V) (h : r.WF) (rows : List (Nat × Nat × Bool)) (stranded : Bool) :
    extractRows r rows stranded = rows.map (fun x =>
      let d := (r.toDense.drop x.1).take (x.2.1 - x.1)
      if stranded && !x.2.2 then d.reverse else d) := by
  simp only [extractRows]
  apply List.map_congr_left
  intro x _
  rw [(slice_dense r h x.1 x.2.1).2.1]

/-- contiguous records that stop at `size` need no filling in -/
theorem fill_contig {V : Type} (zero : V) (size : Nat) {recs : List (Rec V)} {c : Nat} : Contig c recs →
    c + (expandR recs).length = size → expandP c (fill zero size c recs) = expandR recs := by
  fun_induction Contig c recs with
  | case1 c => intro _ h; rw [fill, if_pos (show c = size from h)]; rfl
  | case2 c s e v rest ih =>
    intro ⟨hs, hlt, hrest⟩ h
    simp only [expandR_cons, List.length_append, List.length_replicate] at h
    rw [fill, if_pos hs, List.nil_append, expandP, ih hrest (by omega), hs]
    rfl

/-- **lossless round trip**: a chromosome slice turned into bedGraph records (`get_data`) and back into a run-length
array (`from_bedgraph`) has the same dense array -/
theorem roundtrip_records {V : Type} (zero : V) (r : Rle V) (h : r.WF) (a b : Nat) (hab : a < b) (hb : b ≤ r.len) :
    (fromBedgraph zero (dataRecs (sliceRle r a b)) (some (b - a))).toDense = (sliceRle r a b).toDense := by
  obtain ⟨hC, _, _, hE⟩ := back_conversion r h a b
  have hD := (slice_dense r h a b).2.1
  have hlen : (expandR (dataRecs (sliceRle r a b))).length = b - a := by
    rw [hE, ← hD]; exact slice_length r h a b (Nat.le_of_lt hab) hb
  rw [fromBedgraph_eq zero _ _ (fun _ => by omega), ofPairs_dense, fill_contig zero _ hC (by omega), hE, hD]

example : (⟨[0, 2, 5, 9], [(1 : Int), 4, 1]⟩ : Rle Int).WF ∧ (1 : Nat) < 7 ∧ 7 ≤ (⟨[0, 2, 5, 9], [(1 : Int), 4, 1]⟩ : Rle Int).len := by decide +kernel

example : dataRecs (sliceRle (⟨[0, 2, 5, 9], [(1 : Int), 4, 1]⟩ : Rle Int) 1 7) = [(0, 1, 1), (1, 4, 4), (4, 6, 1)] := by decide +kernel

/-- **boolean round trip, list level**: the intervals `get_data()` reports for a mask slice are non-empty, sorted,
non-overlapping, and their mask is the dense slice -/
theorem back_conversion_bool_list (r : Rle Bool) (h : r.WF) (a b : Nat) (hab : a ≤ b) (hb : b ≤ r.len) :
    let ivs := dataIntervals (sliceRle r a b)
    ivs.Pairwise (fun x y => x.2 ≤ y.1) ∧ (∀ x ∈ ivs, x.1 < x.2) ∧
    (List.range (b - a)).map (fun p => C08.covered ivs p) = (r.toDense.drop a).take (b - a) := by
  intro ivs
  obtain ⟨_, hP, hN, _⟩ := back_conversion r h a b
  have hlen : ((r.toDense.drop a).take (b - a)).length = b - a := by
    rw [← (slice_dense r h a b).2.1]; exact slice_length r h a b hab hb
  refine ⟨List.pairwise_map.2 (hP.filter _), ?_, List.ext_getElem (by simp [hlen]) (fun p _ hp => ?_)⟩
  · intro x hx
    obtain ⟨y, hy, rfl⟩ := List.mem_map.1 hx
    exact hN y (List.mem_filter.1 hy).1
  · rw [List.getElem_map, List.getElem_range, back_conversion_bool r h a b p, List.getElem?_eq_getElem hp]; rfl

example : (⟨[0, 2, 5, 9], [true, false, true]⟩ : Rle Bool).WF ∧
    dataIntervals (sliceRle (⟨[0, 2, 5, 9], [true, false, true]⟩ : Rle Bool) 1 7) = [(0, 1), (4, 6)] := by decide +kernel

/-! ## the specified ufunc engine -/

theorem zipWith_replicate_append {α β γ : Type} (f : α → β → γ) (n : Nat) (x : α) (y : β) (A : List α) (B : List β) :
    List.zipWith f (List.replicate n x ++ A) (List.replicate n y ++ B) = List.replicate n (f x y) ++ List.zipWith f A B := by
  rw [List.zipWith_append (by simp), List.zipWith_replicate, Nat.min_self]

theorem replicate_split {V : Type} (v : V) (c e e' : Nat) (h1 : c ≤ e) (h2 : e ≤ e') :
    List.replicate (e' - c) v = List.replicate (e - c) v ++ List.replicate (e' - e) v := by
  rw [List.replicate_append_replicate, Nat.add_comm, Nat.sub_add_sub_cancel h2 h1]

/-- `f` run by run on the union of the ends is `f` base by base -/
theorem zipRuns_dense {α β γ : Type} (f : α → β → γ) (as : List (Nat × α)) (bs : List (Nat × β)) :
    ∀ c, Mono c as → Mono c bs → expandP c (zipRuns f as bs) = List.zipWith f (expandP c as) (expandP c bs) := by
  fun_induction zipRuns f as bs with
  | case1 ea x as eb y bs hlt ih =>
    intro c ⟨ha1, ha2⟩ ⟨hb1, hb2⟩
    simp only [expandP, ih ea ha2 ⟨Nat.le_of_lt hlt, hb2⟩]
    rw [replicate_split y c ea eb ha1 (Nat.le_of_lt hlt), List.append_assoc, zipWith_replicate_append]
  | case2 ea x as eb y bs hnlt hlt ih =>
    intro c ⟨ha1, ha2⟩ ⟨hb1, hb2⟩
    simp only [expandP, ih eb ⟨Nat.le_of_lt hlt, ha2⟩ hb2]
    rw [replicate_split x c eb ea hb1 (Nat.le_of_lt hlt), List.append_assoc, zipWith_replicate_append]
  | case3 ea x as eb y bs hnlt hnlt2 ih =>
    intro c ⟨ha1, ha2⟩ ⟨hb1, hb2⟩
    cases Nat.le_antisymm (Nat.le_of_not_lt hnlt2) (Nat.le_of_not_lt hnlt)
    simp only [expandP, ih ea ha2 hb2, zipWith_replicate_append]
  | case4 as bs hne =>
    intro c _ _
    match as, bs, hne with
    | [], _, _ => rfl
    | _ :: _, [], _ => simp [expandP]
    | a :: _, b :: _, hne => exact (hne _ _ _ _ _ _ rfl rfl).elim

theorem zipRuns_sMono {α β γ : Type} (f : α → β → γ) (as : List (Nat × α)) (bs : List (Nat × β)) :
    ∀ c, SMono c as → SMono c bs → SMono c (zipRuns f as bs) := by
  fun_induction zipRuns f as bs with
  | case1 ea x as eb y bs hlt ih => exact fun c ⟨ha1, ha2⟩ ⟨_, hb2⟩ => ⟨ha1, ih ea ha2 ⟨hlt, hb2⟩⟩
  | case2 ea x as eb y bs _ hlt ih => exact fun c ⟨_, ha2⟩ ⟨hb1, hb2⟩ => ⟨hb1, ih eb ⟨hlt, ha2⟩ hb2⟩
  | case3 ea x as eb y bs h1 h2 ih =>
    cases Nat.le_antisymm (Nat.le_of_not_lt h2) (Nat.le_of_not_lt h1)
    exact fun c ⟨ha1, ha2⟩ ⟨_, hb2⟩ => ⟨ha1, ih ea ha2 hb2⟩
  | case4 => exact fun _ _ _ => trivial

/-- two lists agree position by position up to `R` -/
def RelL {V : Type} (R : V → V → Prop) (l₁ l₂ : List V) : Prop :=
  l₁.length = l₂.length ∧ ∀ p ∈ l₁.zip l₂, R p.1 p.2

theorem relL_iff {V : Type} {R : V → V → Prop} {l₁ l₂ : List V} :
    RelL R l₁ l₂ ↔ l₁.length = l₂.length ∧ ∀ i (h₁ : i < l₁.length) (h₂ : i < l₂.length), R l₁[i] l₂[i] := by
  refine and_congr_right fun hl => ⟨fun h i h₁ h₂ => ?_, fun h p hp => ?_⟩
  · exact h (l₁[i], l₂[i]) (by rw [← List.getElem_zip (h := by simp; omega)]; exact List.getElem_mem _)
  · obtain ⟨i, hi, rfl⟩ := List.getElem_of_mem hp
    rw [List.getElem_zip]
    exact h i _ _

theorem RelL.refl {V : Type} {R : V → V → Prop} (hr : ∀ a, R a a) (l : List V) : RelL R l l :=
  relL_iff.2 ⟨rfl, fun _ _ _ => hr _⟩

theorem RelL.append {V : Type} {R : V → V → Prop} {a b c d : List V} (h1 : RelL R a b) (h2 : RelL R c d) :
    RelL R (a ++ c) (b ++ d) := by
  refine ⟨by simp [h1.1, h2.1], fun p hp => ?_⟩
  rw [List.zip_append h1.1] at hp
  exact (List.mem_append.1 hp).elim (h1.2 p) (h2.2 p)

theorem RelL.trans {V : Type} {R : V → V → Prop} (ht : ∀ a b c, R a b → R b c → R a c) {a b c : List V}
    (h1 : RelL R a b) (h2 : RelL R b c) : RelL R a c := by
  obtain ⟨l1, g1⟩ := relL_iff.1 h1
  obtain ⟨l2, g2⟩ := relL_iff.1 h2
  exact relL_iff.2 ⟨l1.trans l2, fun i ha hc => ht _ _ _ (g1 i ha (l1 ▸ ha)) (g2 i _ hc)⟩

theorem RelL.replicate {V : Type} {R : V → V → Prop} (n : Nat) {a b : V} (h : R a b) :
    RelL R (List.replicate n a) (List.replicate n b) :=
  relL_iff.2 ⟨by simp, fun i _ _ => by simpa using h⟩

theorem RelL.map {V W : Type} {R : V → V → Prop} {S : W → W → Prop} (g : V → W) (hg : ∀ a b, R a b → S (g a) (g b))
    {l₁ l₂ : List V} (h : RelL R l₁ l₂) : RelL S (l₁.map g) (l₂.map g) :=
  relL_iff.2 ⟨by simp [h.1], fun i h₁ h₂ => by
    simp only [List.getElem_map]; exact hg _ _ ((relL_iff.1 h).2 i _ _)⟩

theorem RelL.zipWith {V : Type} {R : V → V → Prop} (f : V → V → V) (hf : ∀ a a' b b', R a a' → R b b' → R (f a b) (f a' b')) :
    ∀ {x x' y y' : List V}, RelL R x x' → RelL R y y' → RelL R (List.zipWith f x y) (List.zipWith f x' y') := by
  intro x x' y y' hx hy
  exact relL_iff.2 ⟨by simp [hx.1, hy.1], fun i h₁ h₂ => by
    simp only [List.getElem_zipWith]; exact hf _ _ _ _ ((relL_iff.1 hx).2 i _ _) ((relL_iff.1 hy).2 i _ _)⟩

theorem RelL.eq {V : Type} {R : V → V → Prop} (hR : ∀ a b, R a b → a = b) {l₁ l₂ : List V} (h : RelL R l₁ l₂) :
    l₁ = l₂ :=
  List.ext_getElem h.1 (fun i h₁ h₂ => hR _ _ ((relL_iff.1 h).2 i h₁ h₂))

/-- what `join_runs` under a test does to a value: it stays, or becomes one the test identifies with it -/
def EqOr {V : Type} (eq : V → V → Bool) (a b : V) : Prop := a = b ∨ eq a b = true

theorem EqOr.refl {V : Type} (eq : V → V → Bool) (a : V) : EqOr eq a a := Or.inl rfl

theorem EqOr.trans {V : Type} {eq : V → V → Bool} (ht : ∀ a b c, eq a b = true → eq b c = true → eq a c = true) :
    ∀ a b c, EqOr eq a b → EqOr eq b c → EqOr eq a c
  | _, _, _, .inl rfl, h2 => h2
  | _, _, _, .inr h1, .inl rfl => .inr h1
  | a, b, c, .inr h1, .inr h2 => .inr (ht a b c h1 h2)

theorem RelL.eq_beq {V : Type} [BEq V] [LawfulBEq V] {l₁ l₂ : List V} (h : RelL (EqOr (· == ·)) l₁ l₂) : l₁ = l₂ :=
  h.eq fun _ _ h => h.elim id eq_of_beq

/-- joining runs whose values are equal *under the test* (an equivalence) changes the dense meaning only up to it -/
theorem joinPairsBy_rel {V : Type} (eq : V → V → Bool) (hs : ∀ a b, eq a b = true → eq b a = true)
    (ht : ∀ a b c, eq a b = true → eq b c = true → eq a c = true) (ps : List (Nat × V)) : ∀ c, Mono c ps →
    RelL (EqOr eq) (expandP c (joinPairsBy eq ps)) (expandP c ps) := by
  fun_induction joinPairsBy eq ps with
  | case1 | case2 => exact fun _ _ => RelL.refl (EqOr.refl eq) _
  | case3 e v e' v' rest heq ih =>
    intro c ⟨h1, h2, h3⟩
    -- the joined run `[c, e')` carries `v'`; on `[c, e)` the original carried `v`, which the test identifies with `v'`
    refine RelL.trans (EqOr.trans ht) (ih c ⟨Nat.le_trans h1 h2, h3⟩) ?_
    simp only [expandP]
    rw [replicate_split v' c e e' h1 h2, List.append_assoc]
    exact RelL.append (RelL.replicate _ (Or.inr (hs _ _ heq))) (RelL.refl (EqOr.refl eq) _)
  | case4 e v e' v' rest _ ih => exact fun c ⟨_, h2, h3⟩ => RelL.append (RelL.refl (EqOr.refl eq) _) (ih e ⟨h2, h3⟩)

theorem joinPairsBy_sublist {V : Type} (eq : V → V → Bool) (ps : List (Nat × V)) : (joinPairsBy eq ps).Sublist ps := by
  fun_induction joinPairsBy eq ps with
  | case1 | case2 => exact List.Sublist.refl _
  | case3 _ _ _ _ _ _ ih => exact ih.cons _
  | case4 _ _ _ _ _ _ ih => exact ih.cons_cons _

/-- **ufunc homomorphism for any equality test** (the float engine joins runs with IEEE `==`): the result is well
formed and is the element-wise ufunc of the dense operands *up to the test* — for finite doubles: up to the sign of zero -/
theorem ufunc_homomorphism_rel {α β γ : Type} (eq : γ → γ → Bool) (hs : ∀ a b, eq a b = true → eq b a = true)
    (ht : ∀ a b c, eq a b = true → eq b c = true → eq a c = true) (f : α → β → γ) (a : Rle α) (b : Rle β)
    (ha : a.WF) (hb : b.WF) :
    (zipRleBy eq f a b).WF ∧ RelL (EqOr eq) (zipRleBy eq f a b).toDense (List.zipWith f a.toDense b.toDense) := by
  obtain ⟨ha1, ha2⟩ := pairsOf_of_WF a ha
  obtain ⟨hb1, hb2⟩ := pairsOf_of_WF b hb
  have hz := zipRuns_sMono f _ _ 0 ha1 hb1
  refine ⟨ofPairs_WF (hz.sublist (joinPairsBy_sublist eq _)), ?_⟩
  rw [zipRleBy, ofPairs_dense, ← ha2, ← hb2, ← zipRuns_dense f _ _ 0 ha1.mono hb1.mono]
  exact joinPairsBy_rel eq hs ht _ 0 hz.mono

/-! ### the test is the type's own `==`; where it is lawful it implies equality -/

theorem joinPairsBy_beq {V : Type} [BEq V] (ps : List (Nat × V)) : joinPairsBy (· == ·) ps = joinPairs ps := by
  fun_induction joinPairs ps with
  | case1 | case2 => rfl
  | case3 e v e' v' rest h ih => rw [joinPairsBy, if_pos h, ih]
  | case4 e v e' v' rest h ih => rw [joinPairsBy, if_neg h, ih]

/-- the int / bool engine is the generic one at the type's own `==` -/
theorem zipRleBy_beq {α β γ : Type} [BEq γ] (f : α → β → γ) (a : Rle α) (b : Rle β) :
    zipRleBy (· == ·) f a b = zipRle f a b := by
  simp only [zipRleBy, zipRle, joinPairsBy_beq]

theorem joinPairs_dense {V : Type} [BEq V] [LawfulBEq V] (ps : List (Nat × V)) (c : Nat) (h : Mono c ps) :
    expandP c (joinPairs ps) = expandP c ps := by
  rw [← joinPairsBy_beq]
  exact (joinPairsBy_rel (· == ·) (fun _ _ => BEq.symm) (fun _ _ _ => BEq.trans) ps c h).eq_beq

/-- **ufunc homomorphism**: a binary ufunc on two run-length arrays is well formed and expands to the element-wise
ufunc on the dense arrays -/
theorem ufunc_homomorphism {α β γ : Type} [BEq γ] [LawfulBEq γ] (f : α → β → γ) (a : Rle α) (b : Rle β)
    (ha : a.WF) (hb : b.WF) :
    (zipRle f a b).WF ∧ (zipRle f a b).toDense = List.zipWith f a.toDense b.toDense := by
  rw [← zipRleBy_beq]
  obtain ⟨h1, h2⟩ := ufunc_homomorphism_rel (· == ·) (fun _ _ => BEq.symm) (fun _ _ _ => BEq.trans) f a b ha hb
  exact ⟨h1, h2.eq_beq⟩

example : (zipRle (fun (x y : Int) => x + y) ⟨[0, 2, 5], [1, 2]⟩ ⟨[0, 3, 5], [10, 20]⟩).toDense = [11, 11, 12, 22, 22] := by
  rw [(ufunc_homomorphism _ _ _ (by decide +kernel) (by decide +kernel)).2]; decide +kernel

/-- no two neighbouring runs carry the same value -/
def NoAdjEq {V : Type} [BEq V] : List (Nat × V) → Prop
  | (_, v) :: (e', v') :: rest => (v == v') = false ∧ NoAdjEq ((e', v') :: rest)
  | _ => True

theorem joinPairs_head {V : Type} [BEq V] [LawfulBEq V] (e : Nat) (v : V) (ps : List (Nat × V)) :
    ∃ e' tl, joinPairs ((e, v) :: ps) = (e', v) :: tl := by
  induction ps generalizing e with
  | nil => exact ⟨e, [], rfl⟩
  | cons q ps ih =>
    obtain ⟨e2, v2⟩ := q
    simp only [joinPairs]
    split
    · rename_i h
      cases eq_of_beq h
      exact ih e2
    · exact ⟨e, _, rfl⟩

theorem joinPairs_maximal {V : Type} [BEq V] [LawfulBEq V] (ps : List (Nat × V)) : NoAdjEq (joinPairs ps) := by
  induction ps with
  | nil => trivial
  | cons p ps ih =>
    obtain ⟨e, v⟩ := p
    cases ps with
    | nil => trivial
    | cons q ps =>
      obtain ⟨e2, v2⟩ := q
      simp only [joinPairs]
      split
      · exact ih
      · rename_i hne
        obtain ⟨e', tl, htl⟩ := joinPairs_head e2 v2 ps
        rw [htl] at ih ⊢
        exact ⟨by simpa using hne, ih⟩

/-- **maximal runs**: the records `get_data` reports for the result of a binary ufunc are the maximal runs -/
theorem zipRle_maximal {α β γ : Type} [BEq γ] [LawfulBEq γ] (f : α → β → γ) (a : Rle α) (b : Rle β) :
    NoAdjEq (pairsOf (zipRle f a b)) := by
  rw [zipRle, pairsOf_ofPairs]; exact joinPairs_maximal _

/-- one run per base -/
theorem expandP_unit {V : Type} (d : List V) : ∀ c, expandP c ((d.zipIdx c).map (fun x => (x.2 + 1, x.1))) = d ∧
    Mono c ((d.zipIdx c).map (fun x => (x.2 + 1, x.1))) := by
  induction d with
  | nil => intro c; exact ⟨rfl, trivial⟩
  | cons v d ih =>
    intro c
    obtain ⟨h1, h2⟩ := ih (c + 1)
    simp only [List.zipIdx_cons, List.map_cons, expandP, Mono]
    refine ⟨?_, Nat.le_succ c, h2⟩
    rw [h1]; simp

/-- the canonical run-length form of a dense array expands back to it (pileup leaves of the expression trees) -/
theorem canonRle_dense {V : Type} [BEq V] [LawfulBEq V] (d : List V) : (canonRle d).toDense = d := by
  rw [canonRle, ofPairs_dense, joinPairs_dense _ 0 (expandP_unit d 0).2]
  exact (expandP_unit d 0).1

/-! ## reductions: sum and histogram -/

theorem sum_recs (recs : List (Rec Int)) (c : Nat) : Contig c recs →
    (recs.map (fun x => ((x.2.1 : Int) - (x.1 : Int)) * x.2.2)).sum = (expandR recs).sum := by
  fun_induction Contig c recs with
  | case1 => exact fun _ => rfl
  | case2 c s e v recs ih =>
    intro ⟨hs, hlt, hrest⟩
    simp only [List.map_cons, List.sum_cons, expandR_cons, List.sum_append, List.sum_replicate_int, ih hrest]
    congr 2
    omega

/-- `np.sum` of a genomic array (Σ run length × value) equals the sum of the dense array -/
theorem sum_dense (r : Rle Int) (h : r.WF) : sumRle r = r.toDense.sum := by
  rw [sumRle, sum_recs _ 0 (contig_of_WF r h), expandR_runRecs]
  rfl

theorem hist_recs (p : Int → Bool) (recs : List (Rec Int)) (c : Nat) : Contig c recs →
    ((recs.filter (fun x => p x.2.2)).map (fun x => (x.2.1 : Int) - (x.1 : Int))).sum =
      (((expandR recs).filter p).length : Int) := by
  fun_induction Contig c recs with
  | case1 => exact fun _ => rfl
  | case2 c s e v recs ih =>
    intro ⟨hs, hlt, hrest⟩
    simp only [List.filter_cons, expandR_cons, List.filter_append, List.filter_replicate, List.length_append]
    cases hp : p v <;> simp [ih hrest] <;> omega

/-- `np.histogram(array, bins)` (weights = run lengths) counts the bases of the dense array bin by bin -/
theorem hist_dense (r : Rle Int) (h : r.WF) (bins : List Int) : histRle r bins = specHist r.toDense bins := by
  simp only [histRle, specHist]
  apply List.map_congr_left
  intro j _
  rw [hist_recs (inBin bins j) _ 0 (contig_of_WF r h), expandR_runRecs]
  rfl

/-! ## the genome-wide array of a bedGraph, seen chromosome by chromosome -/

/-- global start of chromosome `i` -/
def off (sizes : List Nat) (i : Nat) : Nat := (sizes.take i).sum

theorem offsFrom_getD (sizes : List Nat) (acc i : Nat) (h : i ≤ sizes.length) :
    (offsFrom acc sizes).getD i 0 = acc + (sizes.take i).sum :=
  Base.Offsets.getD_of_scan offsFrom (fun _ => rfl) (fun _ _ _ => rfl) acc sizes i h

/-- the looked-up offsets are the prefix sums that `Base/Offsets` speaks of -/
theorem offsets_getD (sizes : List Nat) (i : Nat) (h : i ≤ sizes.length) : (offsets sizes).getD i 0 = off sizes i := by
  rw [offsets, offsFrom_getD sizes 0 i h, Nat.zero_add, off]

/-- `to_dict` / `get_data`: the model's `chromSlices` (offsets looked up in `np.insert(np.cumsum(sizes), 0, 0)`) are the
slices `track_dense` and `to_dict_dense` speak of -/
theorem chromSlices_eq {V : Type} (sizes : List Nat) (r : Rle V) :
    chromSlices sizes r = (List.range sizes.length).map (fun i => sliceRle r (off sizes i) (off sizes i + sizes.getD i 0)) := by
  simp only [chromSlices]
  apply List.map_congr_left
  intro i hi
  rw [offsets_getD sizes i (Nat.le_of_lt (List.mem_range.1 hi))]

/-- records carry a chromosome index; sorted by chromosome, inside their chromosome, and sorted and
non-overlapping within a chromosome -/
structure OkTrack {V : Type} (sizes : List Nat) (recs : List (Nat × Rec V)) : Prop where
  chromSorted : recs.Pairwise (fun a b => a.1 ≤ b.1)
  inRange : ∀ x ∈ recs, x.1 < sizes.length ∧ x.2.1 < x.2.2.1 ∧ x.2.2.1 ≤ sizes.getD x.1 0
  ordered : recs.Pairwise (fun a b => a.1 = b.1 → a.2.2.1 ≤ b.2.1)

def localRecs {V : Type} (recs : List (Nat × Rec V)) (i : Nat) : List (Rec V) :=
  (recs.filter (fun x => x.1 == i)).map (·.2)

/-- `toGlobal` with the offsets as prefix sums -/
def toGlobal' {V : Type} (sizes : List Nat) (recs : List (Nat × Rec V)) : List (Rec V) :=
  recs.map (fun x => (off sizes x.1 + x.2.1, off sizes x.1 + x.2.2.1, x.2.2.2))

theorem toGlobal_eq {V : Type} (sizes : List Nat) (recs : List (Nat × Rec V)) (h : ∀ x ∈ recs, x.1 < sizes.length) :
    toGlobal sizes recs = toGlobal' sizes recs :=
  List.map_congr_left (fun x hx => by rw [offsets_getD sizes x.1 (Nat.le_of_lt (h x hx))])

theorem global_ok {V : Type} (sizes : List Nat) (recs : List (Nat × Rec V)) (h : OkTrack sizes recs) :
    OkBg (toGlobal' sizes recs) ∧ ∀ r ∈ toGlobal' sizes recs, r.2.1 ≤ sizes.sum := by
  refine ⟨⟨List.pairwise_map.2 ((h.chromSorted.and h.ordered).imp_of_mem ?_), ?_⟩, ?_⟩
  · intro a b ha _ ⟨h1, h2⟩
    by_cases hc : a.1 = b.1
    · exact hc ▸ Nat.add_le_add_left (h2 hc) _
    · -- an earlier chromosome ends before the later one starts
      exact Nat.le_trans (Nat.add_le_add_left (h.inRange a ha).2.2 _) (Nat.le_trans
        (Base.Offsets.next_le sizes (Nat.lt_of_le_of_ne h1 hc)) (Nat.le_add_right ..))
  · intro r hr
    obtain ⟨x, hx, rfl⟩ := List.mem_map.1 hr
    exact Nat.add_lt_add_left (h.inRange x hx).2.1 _
  · intro r hr
    obtain ⟨x, hx, rfl⟩ := List.mem_map.1 hr
    exact Nat.le_trans (Nat.add_le_add_left (h.inRange x hx).2.2 _) (Base.Offsets.next_le_total sizes x.1)

/-- a base of chromosome `i` sees exactly the records of chromosome `i` -/
theorem valueAt_global {V : Type} (zero : V) (sizes : List Nat) (recs : List (Nat × Rec V))
    (hr : ∀ x ∈ recs, x.2.2.1 ≤ sizes.getD x.1 0) (i p : Nat) (hp : p < sizes.getD i 0) :
    valueAt zero (toGlobal' sizes recs) (off sizes i + p) = valueAt zero (localRecs recs i) p := by
  induction recs with
  | nil => rfl
  | cons x recs ih =>
    have ih' := ih (fun y hy => hr y (List.mem_cons_of_mem _ hy))
    simp only [toGlobal', localRecs, List.map_cons, List.filter_cons] at ih' ⊢
    rw [valueAt_cons, ih']
    simp only [off, Base.Offsets.covers_iff sizes (hr x (List.mem_cons_self ..)) hp]
    by_cases hc : x.1 = i
    · simp only [hc, beq_self_eq_true, if_true, true_and, List.map_cons, valueAt_cons]
    · rw [if_neg (fun h => hc h.1), if_neg (c := (x.1 == i) = true) (by simpa using hc)]

/-- **`Genome.get_track(bedgraph).to_dict()`**: the genome-wide array of the records shifted by their chromosome offsets
is well formed, and the slice of chromosome `i` expands to the dense array of that chromosome's own records -/
theorem track_dense {V : Type} (zero : V) (sizes : List Nat) (recs : List (Nat × Rec V)) (h : OkTrack sizes recs)
    (hsz : 0 < sizes.sum) (i : Nat) (hi : i < sizes.length) :
    (fromBedgraph zero (toGlobal sizes recs) (some sizes.sum)).WF ∧
    (sliceRle (fromBedgraph zero (toGlobal sizes recs) (some sizes.sum)) (off sizes i) (off sizes i + sizes.getD i 0)).toDense
      = specDense zero (localRecs recs i) (sizes.getD i 0) := by
  rw [toGlobal_eq sizes recs (fun x hx => (h.inRange x hx).1)]
  obtain ⟨hok, hle⟩ := global_ok sizes recs h
  obtain ⟨hwf, hd⟩ := bedgraph_dense_of_stops zero (toGlobal' sizes recs) sizes.sum (fun _ => hsz) hok hle
  have hfit : off sizes i + sizes.getD i 0 ≤ sizes.sum := Base.Offsets.next_le_total sizes i
  refine ⟨hwf, ?_⟩
  rw [(slice_dense _ hwf _ _).2.1, hd, specDense, Nat.add_sub_cancel_left,
    Base.Offsets.drop_take_map_range _ sizes.sum (off sizes i) (sizes.getD i 0) hfit]
  exact List.map_congr_left (fun p hp => valueAt_global zero sizes recs (fun x hx => (h.inRange x hx).2.2) i p (List.mem_range.1 hp))

example : OkTrack [4, 3, 5] [((0 : Nat), ((1 : Nat), (4 : Nat), (2 : Int))), (2, (0, 2, 5)), (2, (2, 5, -1))] := by
  constructor <;> decide +kernel

/-- **end to end `to_dict()`** for any word type with an xor (`Bool`/`xor`, 64-bit words/`Nat.xor`): shift, one
genome-wide array, slice, xor-diff / scatter / xor-accumulate give the dense array of chromosome `i`'s records -/
theorem to_dict_dense {V : Type} (op : V → V → V) (zero : V) (hz : ∀ a, op a zero = a) (hxx : ∀ a b, op a (op a b) = b)
    (sizes : List Nat) (recs : List (Nat × Rec V)) (h : OkTrack sizes recs) (hsz : 0 < sizes.sum) (i : Nat)
    (hi : i < sizes.length) :
    (sliceRle (fromBedgraph zero (toGlobal sizes recs) (some sizes.sum)) (off sizes i) (off sizes i + sizes.getD i 0)).toArray op zero
      = specDense zero (localRecs recs i) (sizes.getD i 0) := by
  obtain ⟨hwf, hd⟩ := track_dense zero sizes recs h hsz i hi
  rw [C08.toArray_dense op zero hz hxx _ (slice_dense _ hwf _ _).1, hd]

/-! ## expression trees -/

def GArr.dense (g : GArr) : List Int × Bool := (g.rle.toDense, g.isBool)

/-- re-wrapping the engine's result with the result type -/
theorem wrap_step (ot : Option Bool) {R : Rle Int} {D : List Int} (hD : R.toDense = D) (hW : R.WF) :
    ((ot.bind fun t => some (⟨R, t⟩ : GArr)).map GArr.dense = ot.bind fun t => some (D, t)) ∧
    ∀ y, (ot.bind fun t => some (⟨R, t⟩ : GArr)) = some y → y.rle.WF := by
  cases ot with
  | none => exact ⟨rfl, nofun⟩
  | some t => exact ⟨congrArg (fun d => some (d, t)) hD, fun y hy => by cases hy; exact hW⟩

/-- a node with one array operand, the `do` blocks as `bind`s -/
theorem map_step {ox : Option GArr} (hx : ∀ x, ox = some x → x.rle.WF) (ty : Bool → Option Bool) (g : Int → Int) :
    ((ox.bind fun x => (ty x.isBool).bind fun t => some (⟨mapRle g x.rle, t⟩ : GArr)).map GArr.dense =
      (ox.map GArr.dense).bind fun x => (ty x.2).bind fun t => some (x.1.map g, t)) ∧
    ∀ y, (ox.bind fun x => (ty x.isBool).bind fun t => some (⟨mapRle g x.rle, t⟩ : GArr)) = some y → y.rle.WF := by
  cases ox with
  | none => exact ⟨rfl, nofun⟩
  | some x => exact wrap_step (ty x.isBool) (mapRle_dense g x.rle) (mapRle_WF g _ (hx x rfl))

/-- **tree homomorphism** (int64 / bool genomic arrays): a tree over {+, −, *, <, >, ==, &, |, ~, unary −, scalars on
either side} evaluates on run-length arrays exactly when the dense evaluation is well typed; the result is well formed,
of the same boolean-ness, and expands to the dense evaluation -/
theorem eval_homomorphism (leaves : List GArr) (hl : ∀ g ∈ leaves, g.rle.WF) (e : Expr) :
    (e.eval leaves).map GArr.dense = e.denote (leaves.map GArr.dense) ∧
    ∀ g, e.eval leaves = some g → g.rle.WF := by
  induction e with
  | leaf i =>
    exact ⟨by simp only [Expr.eval, Expr.denote, List.getElem?_map], fun g hg => hl g (List.mem_of_getElem? hg)⟩
  | un f a ih => simp only [Expr.denote, ← ih.1]; exact map_step ih.2 f.typ f.fn
  | scr f a k ih => simp only [Expr.denote, ← ih.1]; exact map_step ih.2 (f.typ · false) (f.fn · k)
  | scl f k a ih => simp only [Expr.denote, ← ih.1]; exact map_step ih.2 (f.typ false) (f.fn k)
  | bin f a b iha ihb =>
    simp only [Expr.eval, Expr.denote, ← iha.1, ← ihb.1]
    cases ha : a.eval leaves with
    | none => exact ⟨rfl, nofun⟩
    | some x =>
      cases hb : b.eval leaves with
      | none => exact ⟨rfl, nofun⟩
      | some y =>
        have hh := ufunc_homomorphism f.fn x.rle y.rle (iha.2 x ha) (ihb.2 y hb)
        exact wrap_step (f.typ x.isBool y.isBool) hh.2 hh.1

/-- on boolean arrays (values 0 / 1) the model's `&`, `|`, `~` are NumPy's: logical and bitwise meaning coincide -/
theorem bool_ops_on_bits : ∀ x ∈ [(0 : Int), 1], ∀ y ∈ [(0 : Int), 1],
    BinOp.and.fn x y = (if x = 1 ∧ y = 1 then 1 else 0) ∧ BinOp.or.fn x y = (if x = 1 ∨ y = 1 then 1 else 0) ∧
    UnOp.not.fn x = 1 - x := by decide +kernel

example : (Expr.bin .and (.scr .gt (.leaf 0) 1) (.un .not (.leaf 1))).eval
    [⟨⟨[0, 2, 5], [1, 3]⟩, false⟩, ⟨⟨[0, 4, 5], [1, 0]⟩, true⟩] ≠ none := by decide +kernel

/-- **tree homomorphism for the float engine** (generic in the value type): if the equality test is an equivalence the
operations respect (IEEE `==`, `+ − *`, negation on finite doubles: equal up to the sign of zero), a tree evaluated on
run-length arrays is well formed and agrees with the dense evaluation *up to the test*. The hypotheses on IEEE arithmetic
cannot be proved in Lean (`Float` is opaque); the correspondence (bitwise against NumPy, −0.0 mapped to +0.0) exercises them -/
theorem fexpr_homomorphism {V : Type} (eq : V → V → Bool) (ng : V → V) (op : FOp → V → V → V)
    (hs : ∀ a b, eq a b = true → eq b a = true) (ht : ∀ a b c, eq a b = true → eq b c = true → eq a c = true)
    (hop : ∀ f a a' b b', EqOr eq a a' → EqOr eq b b' → EqOr eq (op f a b) (op f a' b'))
    (hng : ∀ a a', EqOr eq a a' → EqOr eq (ng a) (ng a'))
    (leaves : List (Rle V)) (hl : ∀ r ∈ leaves, r.WF) (e : FExpr V) :
    (e.evalG eq ng op leaves).WF ∧
    RelL (EqOr eq) (e.evalG eq ng op leaves).toDense (e.denoteG ng op (leaves.map Rle.toDense)) := by
  induction e with
  | leaf i =>
    simp only [FExpr.evalG, FExpr.denoteG, List.getD_eq_getElem?_getD, List.getElem?_map]
    cases hi : leaves[i]? with
    | none => exact ⟨⟨rfl, rfl, List.pairwise_singleton ..⟩, RelL.refl (EqOr.refl eq) _⟩
    | some r => exact ⟨hl r (List.mem_of_getElem? hi), RelL.refl (EqOr.refl eq) _⟩
  | neg a ih =>
    simp only [FExpr.evalG, FExpr.denoteG]
    exact ⟨mapRle_WF _ _ ih.1, by rw [mapRle_dense]; exact RelL.map ng hng ih.2⟩
  | bin f a b iha ihb =>
    simp only [FExpr.evalG, FExpr.denoteG]
    obtain ⟨h1, h2⟩ := ufunc_homomorphism_rel eq hs ht (op f) _ _ iha.1 ihb.1
    exact ⟨h1, RelL.trans (EqOr.trans ht) h2 (RelL.zipWith (op f) (hop f) iha.2 ihb.2)⟩
  | scr f a k ih =>
    simp only [FExpr.evalG, FExpr.denoteG]
    exact ⟨mapRle_WF _ _ ih.1, by
      rw [mapRle_dense]
      exact RelL.map _ (fun x y h => hop f x y k k h (EqOr.refl eq k)) ih.2⟩

/-- symmetry and transitivity hold of a test that is not equality: `x ≡ y (mod 4)` -/
example : (∀ a b : Int, (a % 4 == b % 4) = true → (b % 4 == a % 4) = true) ∧
    (∀ a b c : Int, (a % 4 == b % 4) = true → (b % 4 == c % 4) = true → (a % 4 == c % 4) = true) :=
  ⟨fun _ _ => BEq.symm, fun _ _ _ => BEq.trans⟩

end C09
