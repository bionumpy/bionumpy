import BnpVerif.Props.C04Cr
/-! C04 — the SAM construction (`SAMBuffer._get_buffer_extractor`) for ALL well-formed files: lines with a
variable number (≥ 11) of tab-separated columns, LF, CRLF or mixed. -/
namespace C04

/-- lines of at least `m` columns without tab or newline -/
def SamTable (m : Nat) (lines : List (List Bytes)) : Prop :=
  ∀ l ∈ lines, m ≤ l.length ∧ ∀ f ∈ l, cleanField 9 f

/-- `g`: the `m + 1` delimiter positions of one line (`m` separators, then the newline); `cur`: those collected so far -/
theorem splitGroups_line (sep : Nat) (hs : sep ≠ 10) : ∀ (m : Nat) (g cur cs ps : List Nat), g.length = m + 1 →
    splitGroups (List.replicate m sep ++ 10 :: cs) (g ++ ps) cur = (cur ++ g) :: splitGroups cs ps []
  | _, [], _, _, _, hg => by simp at hg
  | 0, [x], _, _, _, _ => rfl
  | 0, _ :: _ :: _, _, _, _, hg => by simp at hg
  | m + 1, x :: g', cur, cs, ps, hg => by
    rw [List.replicate_succ, List.cons_append, List.cons_append, splitGroups, if_neg (by simpa using hs),
      splitGroups_line sep hs m g' _ cs ps (Nat.succ.inj hg), List.append_assoc]
    rfl

theorem splitGroups_file (sep : Nat) (hs : sep ≠ 10) (lines : List (List Bytes))
    (h : ∀ l ∈ lines, l ≠ [] ∧ ∀ f ∈ l, cleanField sep f) (k : Nat) :
    splitGroups ((dumpFile sep lines).filter (fun b => b == 10 || b == sep))
      (posFrom (fun b => b == 10 || b == sep) k (dumpFile sep lines)) [] = lineGroups sep k lines := by
  induction lines generalizing k with
  | nil => rfl
  | cons l ls ih =>
    obtain ⟨hl, hc⟩ := h l (by simp)
    have hlen : (lineDelims k l).length = l.length - 1 + 1 := by
      rw [lineDelims_length k l hl, Nat.sub_add_cancel (List.length_pos_iff.mpr hl)]
    rw [show dumpFile sep (l :: ls) = dumpLine sep l ++ dumpFile sep ls from rfl, List.filter_append, posFrom_append,
      filter_dumpLine sep l hl hc, posFrom_dumpLine sep l k hl hc, List.append_assoc, List.singleton_append,
      splitGroups_line sep hs _ _ [] _ _ hlen, ih (fun x hx => h x (by simp [hx]))]
    rfl

def lineOffsets (sep : Nat) : Nat → List (List Bytes) → List Nat
  | _, [] => []
  | k, l :: ls => k :: lineOffsets sep (k + (dumpLine sep l).length) ls

theorem lineOffsets_walk (sep k : Nat) (ls : List (List Bytes)) :
    lineOffsets sep k ls = walk (dumpLine sep) (fun k _ => k) k ls := by
  induction ls generalizing k with
  | nil => rfl
  | cons l ls ih => simp only [lineOffsets, walk, ih]

/-- the extractor with a per-line end table `Gs` -/
def samExtE (lines : List (List Bytes)) (Gs : List (List Nat)) : Ext :=
  { data := dumpFile 9 lines,
    fStart := List.zipWith (fun ls g => (ls :: g.map (· + 1)).take 11) (lineOffsets 9 0 lines) (lineGroups 9 0 lines),
    fLen := List.zipWith (fun ss es => List.zipWith (fun s e => e - s) ss es)
      (List.zipWith (fun ls g => (ls :: g.map (· + 1)).take 11) (lineOffsets 9 0 lines) (lineGroups 9 0 lines)) (Gs.map (·.take 11)),
    eStart := lineOffsets 9 0 lines,
    eEnd := (lineGroups 9 0 lines).map (fun g => g.getLastD 0 + 1),
    contiguous := true }

/-- what `SAMBuffer.from_raw_buffer` constructs -/
def samExt (lines : List (List Bytes)) : Ext :=
  samExtE lines (if crFlag (dumpFile 9 lines) (lineGroups 9 0 lines) then (lineGroups 9 0 lines).map (stripCR (dumpFile 9 lines))
    else lineGroups 9 0 lines)

theorem SamTable.ne_nil {lines : List (List Bytes)} (h : SamTable 11 lines) : ∀ l ∈ lines, l ≠ [] := by
  intro l hl e
  have := (h l hl).1
  rw [e] at this
  exact absurd this (by simp)

/-- **C04.buildSam_eq** — `SAMBuffer._get_buffer_extractor` (+ `_modify_for_carriage_return`) on the dump of any table of lines
with at least 11 clean columns, in closed form -/
theorem buildSam_eq (lines : List (List Bytes)) (hne : lines ≠ []) (h : SamTable 11 lines) :
    buildSam (dumpFile 9 lines) = some (samExt lines) := by
  have hlne := h.ne_nil
  have hgroups := splitGroups_file 9 (by decide) lines (fun l hl => ⟨hlne l hl, (h l hl).2⟩) 0
  -- the line starts are `0 ::` the line ends without the last, and the last end is the length of the file (`ends_spec`), read
  -- back into the `lineOffsets` / `lineGroups` that `samExt` is written with
  obtain ⟨hs, he⟩ := ends_spec (dumpLine 9) lines hne 0
  rw [← lineEnds_walk 9 0 lines hlne, ← lineOffsets_walk] at hs
  rw [← lineEnds_walk 9 0 lines hlne, List.getLast?_map, Nat.zero_add, ← dumpFile] at he
  obtain ⟨lastG, hlastG⟩ : ∃ g, (lineGroups 9 0 lines).getLast? = some g := by
    cases hx : (lineGroups 9 0 lines).getLast? with
    | none => rw [hx] at he; exact absurd he (by simp)
    | some g => exact ⟨g, rfl⟩
  rw [hlastG, Option.map_some, Option.some.injEq] at he
  have hany : (lineGroups 9 0 lines).any (fun g => decide (g.length < 11)) = false := by
    rw [List.any_eq_false]
    intro g hg
    rw [lineGroups_walk] at hg
    obtain ⟨l, hl, k, rfl⟩ := mem_walk _ _ _ _ _ hg
    rw [lineDelims_length k l (hlne l hl), decide_eq_true_eq]
    exact Nat.not_lt.mpr (h l hl).1
  unfold buildSam
  simp only [hgroups, hlastG, he, List.take_length, List.map_dropLast, hs, hany, Bool.false_eq_true, if_false]
  unfold samExt samExtE crFlag
  cases (lineGroups 9 0 lines).head? <;> rfl

/-- the CR switch of `SAMBuffer._modify_for_carriage_return` on the dumped file -/
def samCR (lines : List (List Bytes)) : Bool := crFlag (dumpFile 9 lines) (lineGroups 9 0 lines)

theorem sam_starts (k : Nat) (l : List Bytes) (h11 : 11 ≤ l.length) :
    (k :: (lineDelims k l).map (· + 1)).take 11 = (offsFrom k l).take 11 := by
  have hne : l ≠ [] := List.ne_nil_of_length_pos (Nat.lt_of_lt_of_le (by decide) h11)
  have hD := lineDelims_ne_nil k l
  have : k :: (lineDelims k l).map (· + 1) = offsFrom k l ++ [(lineDelims k l).getLast hD + 1] := by
    conv => lhs; rw [← List.dropLast_concat_getLast hD]
    rw [List.map_append, ← List.cons_append, lineStarts_closed k l hne]
    rfl
  rw [this, List.take_append_of_le_length (by rw [offsFrom_length]; exact h11)]

/-- the row built for one SAM line: its first 11 columns; `c`: the CR switch -/
def samRow (c : Bool) (d : Bytes) (k : Nat) (l : List Bytes) : Row :=
  lineRow 9 ((offsFrom k l).take 11) ((if c then stripCR d (lineDelims k l) else lineDelims k l).take 11) k l

theorem samExt_rows (lines : List (List Bytes)) (h : ∀ l ∈ lines, 11 ≤ l.length) :
    LenWF (samExt lines) ∧ (samExt lines).rows = walk (dumpLine 9) (samRow (samCR lines) (dumpFile 9 lines)) 0 lines := by
  -- as `expExtG_rows`: the switch a variable, every array a walk, then row by row
  unfold samExt samExtE samCR
  generalize crFlag (dumpFile 9 lines) (lineGroups 9 0 lines) = c
  rw [ite_map]
  simp only [lineOffsets_walk, lineGroups_walk, walk_map, walk_zipWith]
  refine ⟨lenWF_walk .., (rows_walk ..).trans (walk_congr _ _ _ _ (fun l hl k => ?_) 0)⟩
  have hne : l ≠ [] := List.ne_nil_of_length_pos (Nat.lt_of_lt_of_le (by decide) (h l hl))
  simp only [samRow, lineRow, sam_starts k l (h l hl), ← dumpLine_length 9 l k hne]

theorem samExt_inv (lines : List (List Bytes)) (h : SamTable 11 lines) :
    Inv (samExt lines) ∧ (samExt lines).abs.map (·.raw) = lines.map (dumpLine 9) :=
  inv_of_walk (dumpLine 9) _ lines _ (samExt_rows lines (fun l hl => (h l hl).1)).1 rfl
    (samExt_rows lines (fun l hl => (h l hl).1)).2 fun l hl k => lineRow_fits 9 k l _ _
      (Nat.le_of_eq (by rw [List.length_take, List.length_take, ends_length _ l _ k (h.ne_nil l hl), offsFrom_length]))
      (fun s hs => offsFrom_le 9 k l s (List.mem_of_mem_take hs))
      (fun e he => ends_le _ 9 l _ k (h.ne_nil l hl) e (List.mem_of_mem_take he))

/-- **C04.build_sam_records** — for every SAM body (at least 11 clean columns, any number of tags; LF, CRLF or mixed) the
extractor `SAMBuffer.from_raw_buffer` constructs satisfies the invariant and its records are exactly the source lines -/
theorem build_sam_records (lines : List (List Bytes)) (hne : lines ≠ []) (h : SamTable 11 lines) :
    ∃ e, buildSam (dumpFile 9 lines) = some e ∧ Inv e ∧ e.abs.map (·.raw) = lines.map (dumpLine 9) :=
  ⟨samExt lines, buildSam_eq lines hne h, samExt_inv lines h⟩

/-- **C04.passthrough_sam** — end to end for SAM bodies (LF/CRLF, optional tags): bytes written = the selected source lines -/
theorem passthrough_sam (tables : List (List (List Bytes))) (hne : ∀ t ∈ tables, t ≠ []) (h : ∀ t ∈ tables, SamTable 11 t) (p : Prog) :
    (∀ t ∈ tables, buildSam (dumpFile 9 t) = some (samExt t)) ∧
    (p.evalExt (tables.map samExt)).map Ext.bytes = (p.evalSpec (tables.map (·.map (dumpLine 9)))).map List.flatten :=
  ⟨fun t ht => buildSam_eq t (hne t ht) (h t ht), passthrough_map samExt _ tables (fun t ht => samExt_inv t (h t ht)) p⟩

example : SamTable 11 [["r1", "0", "c", "007", "60", "4M", "*", "0", "0", "ACGT", "IIII", "NM:i:0\r"].map (·.toList.map Char.toNat)] := by
  simp only [SamTable, cleanField]; decide +kernel

end C04
