import BnpVerif.Model.C02
import BnpVerif.Base.Split
/-! C02 — the text side: what `splitOn`, `joinWith`, `pieces`, `linesOf`/`unlines`/`complete`, `slice`, `stripCR` and the two
reshapes (`chunkF`, `unflatten`) do, in list vocabulary. Nothing here speaks of delimiter positions; the one statement that
later ties a flat split to the lines or rows it came from is `pieces_stretches` (with its corollary `regroup_spec`). -/
namespace C02
open Base

/-! ## list lemmas that this module and the later C02 modules use -/

theorem dropWhile_all {α} (p : α → Bool) (xs : List α) (hx : ∀ x ∈ xs, p x = true) : xs.dropWhile p = [] := by
  simpa using List.dropWhile_append_of_pos (l₂ := []) hx

theorem takeWhile_all {α} (p : α → Bool) (xs : List α) (hx : ∀ x ∈ xs, p x = true) : xs.takeWhile p = xs := by
  simpa using List.takeWhile_append_of_pos (l₂ := []) hx

theorem dropWhile_append_stop {α} (p : α → Bool) (xs : List α) (y : α) (ys : List α)
    (hx : ∀ x ∈ xs, p x = true) (hy : p y = false) : (xs ++ y :: ys).dropWhile p = y :: ys := by
  rw [List.dropWhile_append_of_pos hx, List.dropWhile_cons_of_neg (by simp [hy])]

theorem takeWhile_append_stop {α} (p : α → Bool) (xs : List α) (y : α) (ys : List α)
    (hx : ∀ x ∈ xs, p x = true) (hy : p y = false) : (xs ++ y :: ys).takeWhile p = xs := by
  rw [List.takeWhile_append_of_pos hx, List.takeWhile_cons_of_neg (by simp [hy]), List.append_nil]

theorem map_range_ite {β} (w a : Nat) (ha : a ≤ w) (f g : Nat → β) :
    (List.range w).map (fun j => if j < a then f j else g j)
      = (List.range a).map f ++ (List.range (w - a)).map (fun j => g (a + j)) := by
  conv => lhs; rw [← Nat.add_sub_of_le ha, List.range_add, List.map_append, List.map_map]
  congr 1
  · exact List.map_congr_left (fun j hj => if_pos (List.mem_range.mp hj))
  · exact List.map_congr_left (fun j _ => if_neg (Nat.not_lt.mpr (Nat.le_add_right a j)))

/-! ## splitOn / joinWith -/

theorem splitOn_eq (d : Nat) (l : Bytes) : splitOn d l = segments (· = d) l := by
  induction l with
  | nil => rfl
  | cons b bs ih =>
    rw [splitOn, ih]
    by_cases h : b = d
    · rw [if_pos h, segments_cons_pos (P := (· = d)) h]
    · rw [if_neg h, segments_cons_neg (P := (· = d)) h]; rfl

theorem joinWith_eq (d : Nat) (ps : List Bytes) : joinWith d ps = List.intercalate [d] ps := by
  fun_induction joinWith d ps with
  | case1 => rfl
  | case2 p => exact List.intercalate_singleton.symm
  | case3 p q ps ih => rw [ih, List.intercalate_cons_cons, List.append_assoc]; rfl

theorem splitOn_ne_nil (d : Nat) (l : Bytes) : splitOn d l ≠ [] := splitOn_eq d l ▸ List.cons_ne_nil _ _

/-- A text with `c` separators has `c + 1` fields. -/
theorem splitOn_length (d : Nat) (l : Bytes) : (splitOn d l).length = l.count d + 1 := by
  rw [splitOn_eq, length_segments, List.count]
  exact congrArg (· + 1) (List.countP_congr fun x _ => by rw [decide_eq_true_eq, beq_iff_eq])

theorem joinWith_cons (d : Nat) (p : Bytes) {ps : List Bytes} (h : ps ≠ []) :
    joinWith d (p :: ps) = p ++ d :: joinWith d ps := by
  cases ps with
  | nil => exact absurd rfl h
  | cons q qs => rfl

theorem joinWith_append (d : Nat) {a b : List Bytes} (ha : a ≠ []) (hb : b ≠ []) :
    joinWith d (a ++ b) = joinWith d a ++ d :: joinWith d b := by
  induction a with
  | nil => exact absurd rfl ha
  | cons x xs ih =>
    cases xs with
    | nil => exact joinWith_cons d x hb
    | cons y ys =>
      rw [List.cons_append, joinWith_cons d x (by simp), ih (by simp), joinWith_cons d x (by simp), List.append_assoc]
      rfl

theorem joinWith_snoc (d : Nat) (ls : List Bytes) (t : Bytes) :
    joinWith d (ls ++ [t]) = (ls.map (· ++ [d])).flatten ++ t := by
  induction ls with
  | nil => rfl
  | cons l rest ih => rw [List.cons_append, joinWith_cons d l (by simp), ih]; simp

theorem joinWith_splitOn (d : Nat) (l : Bytes) : joinWith d (splitOn d l) = l := by
  rw [joinWith_eq, splitOn_eq]; exact intercalate_segments d l

theorem splitOn_joinWith (d : Nat) (fs : List Bytes) (hne : fs ≠ []) (hfree : ∀ f ∈ fs, d ∉ f) :
    splitOn d (joinWith d fs) = fs := by
  rw [joinWith_eq, splitOn_eq]
  exact segments_intercalate (P := (· = d)) rfl fs hne fun r hr _ hx e => hfree r hr (e ▸ hx)

theorem not_mem_joinWith {d x : Nat} {fs : List Bytes} (hd : x ≠ d) (h : ∀ f ∈ fs, x ∉ f) : x ∉ joinWith d fs := by
  fun_induction joinWith d fs with
  | case1 => simp
  | case2 p => exact h p (by simp)
  | case3 p q ps ih =>
    simp only [List.mem_append, List.mem_cons, not_or]
    exact ⟨h p (by simp), hd, ih fun f hf => h f (List.mem_cons_of_mem _ hf)⟩

theorem splitOn_free (d : Nat) (l : Bytes) : ∀ p ∈ splitOn d l, d ∉ p := by
  rw [splitOn_eq]; exact fun p hp hm => segments_free (P := (· = d)) l p hp d hm rfl

theorem splitOn_append_sep (d : Nat) {l : Bytes} (hl : d ∉ l) (r : Bytes) :
    splitOn d (l ++ d :: r) = l :: splitOn d r := by
  rw [splitOn_eq, splitOn_eq]; exact segments_append_sep (P := (· = d)) l r (fun _ hx e => hl (e ▸ hx)) rfl

theorem splitOn_of_not_mem (d : Nat) {f : Bytes} (h : d ∉ f) : splitOn d f = [f] :=
  (splitOn_eq d f).trans (segments_of_free (P := (· = d)) f fun _ hx e => h (e ▸ hx))

/-! ## pieces: the texts between consecutive delimiters -/

/-- the complete pieces are all the segments but the open one (`acc`: what the open piece holds already) -/
theorem piecesAcc_eq (isD : Nat → Bool) (acc bs : Bytes) :
    piecesAcc isD acc bs = ((acc ++ (cut (isD · = true) bs).1) :: (cut (isD · = true) bs).2).dropLast := by
  induction bs generalizing acc with
  | nil => rfl
  | cons b bs ih =>
    rw [piecesAcc, cut]
    split
    · rw [ih, List.append_nil, List.nil_append]; rfl
    · rw [ih, List.append_assoc]; rfl

theorem pieces_eq (isD : Nat → Bool) (bs : Bytes) : pieces isD bs = (segments (isD · = true) bs).dropLast :=
  piecesAcc_eq isD [] bs

/-- `isD` may accept more than `d` (`isDelim d`: `d` or LF); it only has to agree with `· == d` inside the stretch (a line
holds no LF), and `x` is any byte it accepts (the line's LF, a row's terminator) -/
theorem pieces_stretch (isD : Nat → Bool) (d : Nat) (l : Bytes) (x : Nat) (rest : Bytes)
    (hl : ∀ b ∈ l, isD b = (b == d)) (hx : isD x = true) :
    pieces isD (l ++ x :: rest) = splitOn d l ++ pieces isD rest := by
  rw [pieces_eq, segments_append (P := (isD · = true)) hx, pieces_eq, splitOn_eq,
    List.dropLast_append_of_ne_nil (l := segments _ rest) (List.cons_ne_nil _ _)]
  exact congrArg (· ++ _) (segments_congr l fun b hb => by rw [hl b hb, beq_iff_eq])

theorem pieces_stretches (isD : Nat → Bool) (d x : Nat) (ls : List Bytes)
    (hl : ∀ l ∈ ls, ∀ b ∈ l, isD b = (b == d)) (hx : isD x = true) :
    pieces isD (ls.map (· ++ [x])).flatten = (ls.map (splitOn d)).flatten := by
  induction ls with
  | nil => rfl
  | cons l rest ih =>
    rw [List.map_cons, List.flatten_cons, List.append_assoc, List.singleton_append,
      pieces_stretch isD d l x _ (hl l List.mem_cons_self) hx, ih (fun l' h => hl l' (List.mem_cons_of_mem _ h))]
    rfl

theorem isDelim_line {d : Nat} {l : Bytes} (hl : 10 ∉ l) : ∀ b ∈ l, isDelim d b = (b == d) := by
  intro b hb
  simp [isDelim, ne_of_mem_of_not_mem hb hl]

theorem pieces_line (d : Nat) {l : Bytes} (hl : 10 ∉ l) : pieces (isDelim d) (l ++ [10]) = splitOn d l :=
  (pieces_stretch _ d l 10 [] (isDelim_line hl) (by simp [isDelim])).trans (List.append_nil _)

theorem pieces_nl (bs : Bytes) : pieces (· == 10) bs = linesOf bs := by
  rw [pieces_eq, linesOf, splitOn_eq]
  exact congrArg List.dropLast (segments_congr bs fun b _ => beq_iff_eq)

/-! ## slices -/

theorem slice_eq (bs : Bytes) (s e : Nat) : slice bs s e = (bs.drop s).take (e - s) := rfl

theorem slice_of_le (bs : Bytes) {s e : Nat} (h : e ≤ s) : slice bs s e = [] := by
  rw [slice, Nat.sub_eq_zero_of_le h, List.take_zero]

theorem slice_self (bs : Bytes) (s : Nat) : slice bs s s = [] := slice_of_le bs (Nat.le_refl s)

theorem slice_length (data : Bytes) (s e : Nat) (he : e ≤ data.length) : (slice data s e).length = e - s := by
  rw [slice, List.length_take, List.length_drop, Nat.min_eq_left (Nat.sub_le_sub_right he s)]

theorem slice_getElem (data : Bytes) (s e i : Nat) (he : e ≤ data.length) (hi : i < e - s) :
    (slice data s e)[i]'(by rw [slice_length data s e he]; exact hi) = data.getD (s + i) 0 := by
  simp only [slice, List.getElem_take, List.getElem_drop]
  rw [List.getD_eq_getElem?_getD, List.getElem?_eq_getElem (Nat.lt_of_lt_of_le (Nat.add_lt_of_lt_sub' hi) he)]
  rfl

theorem slice_eq_map_range (data : Bytes) (s e : Nat) (he : e ≤ data.length) :
    slice data s e = (List.range (e - s)).map (fun j => data.getD (s + j) 0) := by
  apply List.ext_getElem
  · rw [slice_length data s e he, List.length_map, List.length_range]
  · intro i h1 _
    rw [slice_getElem data s e i he (slice_length data s e he ▸ h1), List.getElem_map, List.getElem_range]

theorem slice_succ (bs : Bytes) {s e : Nat} (hs : s ≤ e) (he : e < bs.length) :
    slice bs s (e + 1) = slice bs s e ++ [bs.getD e 0] := by
  rw [slice, slice, Nat.sub_add_comm hs, List.take_add_one, List.getElem?_drop, Nat.add_sub_of_le hs,
    List.getD_eq_getElem?_getD, List.getElem?_eq_getElem he]
  rfl

theorem slice_pred (data : Bytes) {s e : Nat} (hse : s < e) (he : e ≤ data.length) :
    slice data s e = slice data s (e - 1) ++ [data.getD (e - 1) 0] := by
  have := slice_succ data (Nat.le_sub_one_of_lt hse) (Nat.lt_of_lt_of_le (Nat.sub_one_lt_of_lt hse) he)
  rwa [Nat.sub_add_cancel (Nat.one_le_of_lt hse)] at this

theorem slice_dropLast (data : Bytes) (s e : Nat) (hse : s < e) (he : e ≤ data.length) :
    slice data s (e - 1) = (slice data s e).dropLast := by
  rw [slice_pred data hse he, List.dropLast_concat]

theorem slice_getLast (data : Bytes) (s e : Nat) (hse : s < e) (he : e ≤ data.length) :
    (slice data s e).getLast? = some (data.getD (e - 1) 0) := by
  rw [slice_pred data hse he, List.getLast?_concat]

theorem slice_head (data : Bytes) (s e : Nat) (h : s < e) (he : e ≤ data.length) :
    (slice data s e).head? = some (data.getD s 0) := by
  rw [slice_eq_map_range data s e he, ← Nat.succ_pred_eq_of_pos (Nat.sub_pos_of_lt h), List.range_succ_eq_map]
  rfl

theorem slice_add (bs : Bytes) (s o e : Nat) : slice bs (s + o) e = (slice bs s e).drop o := by
  rw [slice, slice, List.drop_take, List.drop_drop, Nat.sub_sub]

theorem slice_mid (A X Y : Bytes) : slice (A ++ X ++ Y) A.length (A.length + X.length) = X := by
  rw [slice, List.append_assoc, List.drop_left, Nat.add_sub_cancel_left, List.take_left]

theorem getD_append_mid (pre : Bytes) (b : Nat) (post : Bytes) : (pre ++ b :: post).getD pre.length 0 = b := by
  simp [List.getD_eq_getElem?_getD]

theorem getD_mid (pre l post : Bytes) (i : Nat) (hi : i < l.length) :
    (pre ++ l ++ post).getD (pre.length + i) 0 = l.getD i 0 := by
  rw [List.getD_eq_getElem?_getD, List.getD_eq_getElem?_getD, List.append_assoc,
    List.getElem?_append_right (Nat.le_add_right _ _), Nat.add_sub_cancel_left, List.getElem?_append_left hi]

/-! ## lines -/

theorem unlines_cons (l : Bytes) (rest : List Bytes) : unlines (l :: rest) = l ++ 10 :: unlines rest := by
  simp [unlines]

theorem unlines_snoc (ls : List Bytes) (l : Bytes) : unlines (ls ++ [l]) = unlines ls ++ l ++ [10] := by
  simp [unlines]

theorem unlines_getLast {ls : List Bytes} (h : ls ≠ []) : (unlines ls).getLast? = some 10 := by
  obtain ⟨init, l, rfl⟩ : ∃ init l, ls = init ++ [l] := ⟨_, _, (List.dropLast_concat_getLast h).symm⟩
  rw [unlines_snoc, List.getLast?_concat]

theorem unlines_nil_or_getLast (ls : List Bytes) : unlines ls = [] ∨ (unlines ls).getLast? = some 10 := by
  cases ls with
  | nil => exact Or.inl rfl
  | cons l rest => exact Or.inr (unlines_getLast (List.cons_ne_nil _ _))

theorem splitOn_eq_lines_tail (bs : Bytes) : splitOn 10 bs = linesOf bs ++ [tailOf bs] := by
  have h := splitOn_ne_nil 10 bs
  rw [linesOf, tailOf, List.getLast?_eq_some_getLast h, Option.getD_some, List.dropLast_concat_getLast h]

theorem unlines_linesOf (bs : Bytes) : bs = unlines (linesOf bs) ++ tailOf bs := by
  have h := joinWith_splitOn 10 bs
  rwa [splitOn_eq_lines_tail, joinWith_snoc, eq_comm] at h

theorem linesOf_free (bs : Bytes) : ∀ l ∈ linesOf bs, 10 ∉ l :=
  fun l hl => splitOn_free 10 bs l (by rw [splitOn_eq_lines_tail]; exact List.mem_append_left _ hl)

theorem tailOf_free (bs : Bytes) : 10 ∉ tailOf bs :=
  splitOn_free 10 bs _ (by rw [splitOn_eq_lines_tail]; simp)

theorem splitOn_unlines_append (ls : List Bytes) (t : Bytes) (hfree : ∀ l ∈ ls, 10 ∉ l) :
    splitOn 10 (unlines ls ++ t) = ls ++ splitOn 10 t := by
  rw [splitOn_eq, splitOn_eq]
  exact segments_terminated (P := (· = 10)) rfl ls t fun l hl _ hx e => hfree l hl (e ▸ hx)

theorem linesOf_unlines_tail (ls : List Bytes) (t : Bytes) (hfree : ∀ l ∈ ls, 10 ∉ l) (ht : 10 ∉ t) :
    linesOf (unlines ls ++ t) = ls ∧ tailOf (unlines ls ++ t) = t := by
  rw [linesOf, tailOf, splitOn_unlines_append ls t hfree, splitOn_of_not_mem 10 ht]
  simp

theorem linesOf_unlines (ls : List Bytes) (hfree : ∀ l ∈ ls, 10 ∉ l) : linesOf (unlines ls) = ls := by
  simpa using (linesOf_unlines_tail ls [] hfree (by simp)).1

theorem ne_nl_of_free {l : Bytes} (hl : 10 ∉ l) : ∀ x ∈ l, (x != 10) = true :=
  fun x hx => by simpa using ne_of_mem_of_not_mem hx hl

theorem complete_eq (bs : Bytes) : complete bs = unlines (linesOf bs) := by
  have hall : ∀ x ∈ (tailOf bs).reverse, (x != 10) = true :=
    fun x hx => ne_nl_of_free (tailOf_free bs) x (List.mem_reverse.mp hx)
  conv => lhs; rw [complete, unlines_linesOf bs, List.reverse_append]
  by_cases hls : linesOf bs = []
  · rw [hls, dropWhile_all _ _ (by simpa [unlines] using hall)]; rfl
  · obtain ⟨u, hu⟩ := List.getLast?_eq_some_iff.mp (unlines_getLast hls)
    rw [hu, List.reverse_append, List.reverse_singleton, List.singleton_append,
      dropWhile_append_stop _ _ 10 _ hall rfl, ← List.reverse_concat, List.reverse_reverse]

/-- The number of complete lines is the number of newline bytes. -/
theorem linesOf_length (bs : Bytes) : (linesOf bs).length = bs.count 10 := by
  have h := splitOn_length 10 bs
  rw [splitOn_eq_lines_tail, List.length_append, List.length_singleton] at h
  exact Nat.add_right_cancel h

/-! ## a CR before the line end: `stripCR` on a line and on its last field -/

theorem stripCR_id (l : Bytes) (h : l.getLast? ≠ some 13) : stripCR l = l := if_neg h

theorem map_stripCR_id {ls : List Bytes} (h : ∀ l ∈ ls, l.getLast? ≠ some 13) : ls.map stripCR = ls := by
  conv => rhs; rw [← List.map_id ls]
  exact List.map_congr_left fun l hl => stripCR_id l (h l hl)

theorem stripCR_concat (l : Bytes) : stripCR (l ++ [13]) = l := by
  rw [stripCR, if_pos List.getLast?_concat, List.dropLast_concat]

theorem lastField_getLast (d : Nat) (l f : Bytes) (hf : (splitOn d l).getLast? = some f) (hne : f ≠ []) :
    l.getLast? = f.getLast? := by
  obtain ⟨init, hs⟩ := List.getLast?_eq_some_iff.mp hf
  obtain ⟨u, x, rfl⟩ := (List.eq_nil_or_concat f).resolve_left hne
  have hj := joinWith_splitOn d l
  rw [hs, joinWith_snoc] at hj
  rw [← hj, List.concat_eq_append, ← List.append_assoc, List.getLast?_concat, List.getLast?_concat]

theorem splitOn_snoc (d b : Nat) (hb : b ≠ d) (l : Bytes) :
    ∃ init f, splitOn d l = init ++ [f] ∧ splitOn d (l ++ [b]) = init ++ [f ++ [b]] := by
  induction l with
  | nil => exact ⟨[], [], rfl, by simp [splitOn, hb, consHead]⟩
  | cons x xs ih =>
    obtain ⟨init, f, h1, h2⟩ := ih
    by_cases hx : x = d
    · exact ⟨[] :: init, f, by simp [splitOn, hx, h1], by simp [splitOn, hx, h2]⟩
    · cases init with
      | nil => exact ⟨[], x :: f, by simp [splitOn, hx, h1, consHead], by simp [splitOn, hx, h2, consHead]⟩
      | cons p ps => exact ⟨(x :: p) :: ps, f, by simp [splitOn, hx, h1, consHead], by simp [splitOn, hx, h2, consHead]⟩

/-- stripping the CR of a line strips it from the line's last field -/
theorem splitOn_stripCR (d : Nat) (hd13 : d ≠ 13) (l : Bytes) :
    ∃ init f, splitOn d l = init ++ [f] ∧ splitOn d (stripCR l) = init ++ [stripCR f] := by
  by_cases h : l.getLast? = some 13
  · obtain ⟨l', rfl⟩ := List.getLast?_eq_some_iff.mp h
    obtain ⟨init, f, h1, h2⟩ := splitOn_snoc d 13 (Ne.symm hd13) l'
    exact ⟨init, f ++ [13], h2, by rw [stripCR_concat, stripCR_concat, h1]⟩
  · obtain ⟨f, hf⟩ : ∃ f, (splitOn d l).getLast? = some f := ⟨_, List.getLast?_eq_some_getLast (splitOn_ne_nil d l)⟩
    obtain ⟨init, hs⟩ := List.getLast?_eq_some_iff.mp hf
    refine ⟨init, f, hs, ?_⟩
    rw [stripCR_id l h, hs]
    by_cases hf0 : f = []
    · rw [hf0]; rfl
    · rw [stripCR_id f (lastField_getLast d l f hf hf0 ▸ h)]

/-! ## reshape and regrouping -/

theorem chunkF_flatten {α} (n : Nat) (rows : List (List α)) (h : ∀ r ∈ rows, r.length = n) :
    chunkF n rows.length rows.flatten = rows := by
  induction rows with
  | nil => rfl
  | cons r rs ih =>
    have hr := h r List.mem_cons_self
    rw [List.length_cons, chunkF, List.flatten_cons, List.take_left' hr, List.drop_left' hr,
      ih (fun r' hr' => h r' (List.mem_cons_of_mem _ hr'))]

theorem chunkF_map {α β} (f : α → β) (n k : Nat) (xs : List α) :
    (chunkF n k xs).map (fun r => r.map f) = chunkF n k (xs.map f) := by
  induction k generalizing xs with
  | zero => rfl
  | succ k ih => simp [chunkF, ih, List.map_take, List.map_drop]

/-- `reshape(k, n)` only rearranges: flattening the rows gives the first `n·k` elements back. -/
theorem chunkF_flatten_take {α} (n k : Nat) (xs : List α) : (chunkF n k xs).flatten = xs.take (n * k) := by
  induction k generalizing xs with
  | zero => simp [chunkF]
  | succ k ih =>
    simp only [chunkF, List.flatten_cons, ih]
    rw [Nat.mul_succ, Nat.add_comm (n * k) n, List.take_add]

theorem mem_chunkF {α} (n k : Nat) (xs : List α) (r : List α) (hr : r ∈ chunkF n k xs) : ∀ x ∈ r, x ∈ xs :=
  fun x hx => List.mem_of_mem_take
    (chunkF_flatten_take n k xs ▸ List.mem_flatten.mpr ⟨r, hr, hx⟩ : x ∈ xs.take (n * k))

theorem chunkF_take {α} (n k : Nat) (xs : List α) : chunkF n k (xs.take (n * k)) = chunkF n k xs := by
  induction k generalizing xs with
  | zero => rfl
  | succ k ih =>
    rw [chunkF, chunkF, List.take_take, List.drop_take, Nat.mul_succ, Nat.add_sub_cancel, ih,
      Nat.min_eq_left (Nat.le_add_left _ _)]

theorem unflatten_flatten {α} (rows : List (List α)) :
    unflatten (rows.map List.length) rows.flatten = rows := by
  induction rows with
  | nil => rfl
  | cons r rs ih => simp [unflatten, ih]

theorem unflatten_append {α} (l1 l2 : List Nat) (xs : List α) :
    unflatten (l1 ++ l2) xs = unflatten l1 (xs.take l1.sum) ++ unflatten l2 (xs.drop l1.sum) := by
  induction l1 generalizing xs with
  | nil => simp [unflatten]
  | cons n ns ih =>
    simp only [List.cons_append, unflatten, List.sum_cons, ih, List.take_take, List.drop_take, List.drop_drop,
      Nat.min_eq_left (Nat.le_add_right n ns.sum), Nat.add_sub_cancel_left]

theorem unflatten_length {α} (l : List Nat) (xs : List α) : (unflatten l xs).length = l.length := by
  induction l generalizing xs with
  | nil => rfl
  | cons n ns ih => simp [unflatten, ih]

/-- flat split at every terminator + regrouping by terminator counts gives every row its own `splitOn` pieces -/
theorem regroup_spec (sep : Nat) (rows : List Bytes) :
    unflatten ((rows.map (· ++ [sep])).map (·.count sep)) (pieces (· == sep) (rows.map (· ++ [sep])).flatten)
      = rows.map (splitOn sep) := by
  have hc : (rows.map (· ++ [sep])).map (·.count sep) = (rows.map (splitOn sep)).map List.length := by
    rw [List.map_map, List.map_map]
    exact List.map_congr_left (fun r _ => by simp [splitOn_length])
  rw [pieces_stretches (· == sep) sep sep rows (fun _ _ _ _ => rfl) (beq_self_eq_true sep), hc, unflatten_flatten]

end C02
