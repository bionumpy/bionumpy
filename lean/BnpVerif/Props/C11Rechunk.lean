import BnpVerif.Model.C11
import BnpVerif.Base.Lists
/-! C11, re-chunking (`chunk_entries`, `chunk_lines`, repaired): both are `chop n` of the concatenated stream. `chop` by
induction along its cut (`chop_eq`, `Base.drop_induction`); the inner loops through `emit_spec`, and `chunk_lines`' loop is
`chunk_entries`' on the buffered entries followed by the chunk (`linesInner_eq_emit`). -/
namespace C11
open Base

section rechunk
variable {α : Type}

theorem chopGo_fuel (n : Nat) (hn : 0 < n) (f g : Nat) (xs : List α) (h : xs.length ≤ f) (h' : xs.length ≤ g) :
    chopGo n f xs = chopGo n g xs := by
  induction f generalizing g xs with
  | zero => cases List.eq_nil_of_length_eq_zero (Nat.le_zero.mp h); cases g <;> rfl
  | succ f ih =>
    cases g with
    | zero => cases List.eq_nil_of_length_eq_zero (Nat.le_zero.mp h'); rfl
    | succ g =>
      cases xs with
      | nil => rfl
      | cons a t =>
        have hd : ((a :: t).drop n).length ≤ t.length :=
          List.length_drop ▸ Nat.sub_le_of_le_add (Nat.add_le_add_left hn _)
        rw [chopGo, chopGo, if_neg (List.cons_ne_nil a t), if_neg (List.cons_ne_nil a t),
          ih g _ (Nat.le_trans hd (Nat.le_of_succ_le_succ h)) (Nat.le_trans hd (Nat.le_of_succ_le_succ h'))]

theorem chop_nil (n : Nat) : chop n ([] : List α) = [] := rfl

theorem chop_eq (n : Nat) (hn : 0 < n) (xs : List α) (h : xs ≠ []) :
    chop n xs = xs.take n :: chop n (xs.drop n) := by
  obtain ⟨a, t, rfl⟩ := List.exists_cons_of_ne_nil h
  exact congrArg _ (chopGo_fuel n hn _ _ _ (List.length_drop ▸ Nat.sub_le_of_le_add (Nat.add_le_add_left hn _))
    (Nat.le_refl _))

theorem chop_flatten (n : Nat) (hn : 0 < n) (xs : List α) : (chop n xs).flatten = xs := by
  induction xs using drop_induction n hn with
  | nil => rfl
  | step xs hx ih => rw [chop_eq n hn xs hx, List.flatten_cons, ih, List.take_append_drop]

theorem chop_getElem? {α} (n : Nat) (hn : 0 < n) (xs : List α) (i : Nat) :
    (chop n xs)[i]? = if i * n < xs.length then some ((xs.drop (i * n)).take n) else none := by
  induction xs using drop_induction n hn generalizing i with
  | nil => simp [chop_nil]
  | step xs hx ih =>
    have := List.length_pos_iff.mpr hx
    rw [chop_eq n hn xs hx]
    cases i with
    | zero => simp [this]
    | succ i =>
      rw [List.getElem?_cons_succ, ih, List.length_drop, List.drop_drop, Nat.succ_mul, Nat.add_comm n]
      by_cases hlt : i * n < xs.length - n
      · rw [if_pos hlt, if_pos (Nat.add_lt_of_lt_sub hlt)]
      · rw [if_neg hlt, if_neg fun h => hlt (Nat.lt_sub_of_add_lt h)]

theorem chop_sizes (n : Nat) (hn : 0 < n) (xs : List α) :
    (∀ c ∈ chop n xs, 1 ≤ c.length ∧ c.length ≤ n) ∧
    (∀ i, i + 1 < (chop n xs).length → ((chop n xs)[i]?).map List.length = some n) := by
  have key : ∀ i c, (chop n xs)[i]? = some c → i * n < xs.length ∧ c.length = min n (xs.length - i * n) := by
    intro i c h
    rw [chop_getElem? n hn] at h
    split at h
    · next hi => exact ⟨hi, by rw [← Option.some.inj h, List.length_take, List.length_drop]⟩
    · nomatch h
  constructor
  · intro c hc
    obtain ⟨i, hi⟩ := List.mem_iff_getElem?.mp hc
    obtain ⟨h1, h2⟩ := key i c hi
    exact h2 ▸ ⟨Nat.le_min.mpr ⟨hn, Nat.sub_pos_of_lt h1⟩, Nat.min_le_left ..⟩
  · intro i hi
    obtain ⟨h1, _⟩ := key (i + 1) _ (List.getElem?_eq_getElem hi)
    rw [Nat.succ_mul] at h1
    rw [chop_getElem? n hn, if_pos (Nat.lt_of_le_of_lt (Nat.le_add_right ..) h1), Option.map_some, List.length_take,
      List.length_drop, Nat.min_eq_left (Nat.le_sub_of_add_le' (Nat.le_of_lt h1))]

theorem chop_lt (n : Nat) (hn : 0 < n) (b : List α) (h : b.length < n) :
    chop n b = if b.length > 0 then [b] else [] := by
  cases b with
  | nil => rfl
  | cons a t =>
    rw [chop_eq n hn _ (List.cons_ne_nil a t), List.take_of_length_le (Nat.le_of_lt h),
      List.drop_eq_nil_of_le (Nat.le_of_lt h)]
    rfl

/-- the inner loop: what it emits, followed by `chop` of what it keeps with anything appended (`more`: the chunks still to
come), is `chop` of the whole; so the buffer is carried across chunks (`chunkEntriesGo_eq`, `chunkLinesGo_eq`). The fuel
suffices as soon as `t.length < n + f`. -/
theorem emit_spec (n : Nat) (hn : 0 < n) (f : Nat) (t : List α) (hf : t.length < n + f) :
    (emit n f t).2.length < n ∧
    ∀ more : List α, (emit n f t).1 ++ chop n ((emit n f t).2 ++ more) = chop n (t ++ more) := by
  induction f generalizing t with
  | zero => exact ⟨hf, fun _ => rfl⟩
  | succ f ih =>
    rw [emit]
    split
    · next hge =>
      obtain ⟨h1, h2⟩ := ih (t.drop n) (List.length_drop ▸ Nat.sub_lt_left_of_lt_add hge
        (Nat.lt_of_lt_of_le hf (Nat.add_le_add_left (Nat.add_comm n f ▸ Nat.add_le_add_left hn f) n)))
      refine ⟨h1, fun more => ?_⟩
      have hne : t ++ more ≠ [] := fun e => by
        rw [(List.append_eq_nil_iff.mp e).1] at hge; exact absurd hge (Nat.not_le.mpr hn)
      rw [List.cons_append, h2 more, chop_eq n hn _ hne, List.take_append_of_le_length hge,
        List.drop_append_of_le_length hge]
    · next hlt => exact ⟨Nat.not_le.mp hlt, fun _ => rfl⟩

/-- `chunk_lines`' inner loop is `chunk_entries`' inner loop on the buffered entries followed by the chunk -/
theorem linesInner_eq_emit (n f : Nat) (cur chunk : List α) (hc : cur.length ≤ n) :
    linesInner n f cur chunk = emit n f (cur ++ chunk) := by
  induction f generalizing cur chunk with
  | zero => rfl
  | succ f ih =>
    rw [linesInner, emit, List.length_append]
    by_cases hge : chunk.length ≥ n - cur.length
    · rw [if_pos hge, if_pos (Nat.sub_le_iff_le_add'.mp hge), ih [] _ (Nat.zero_le n), List.take_append, List.take_of_length_le hc,
        List.drop_append, List.drop_eq_nil_of_le hc]
    · rw [if_neg hge, if_neg fun h => hge (Nat.sub_le_iff_le_add'.mpr h)]

theorem chunkEntriesGo_eq (n : Nat) (hn : 0 < n) (buf : List α) (hb : buf.length < n) (cs : List (List α)) :
    chunkEntriesGo n buf cs = chop n (buf ++ cs.flatten) := by
  induction cs generalizing buf with
  | nil => rw [List.flatten_nil, List.append_nil, chop_lt n hn buf hb]; rfl
  | cons c cs ih =>
    obtain ⟨h1, h2⟩ := emit_spec n hn (buf ++ c).length (buf ++ c) (Nat.lt_add_of_pos_left hn)
    rw [chunkEntriesGo, ih _ h1, h2, List.flatten_cons, List.append_assoc]

theorem chunkLinesGo_eq (n : Nat) (hn : 0 < n) (cur : List α) (hc : cur.length < n) (cs : List (List α)) :
    chunkLinesGo n false cur cs = chop n (cur ++ cs.flatten) := by
  induction cs generalizing cur with
  | nil => simp only [List.flatten_nil, List.append_nil, chop_lt n hn cur hc, chunkLinesGo, Bool.false_or,
    decide_eq_true_eq]
  | cons c cs ih =>
    obtain ⟨h1, h2⟩ := emit_spec n hn (c.length + 1) (cur ++ c)
      (List.length_append ▸ Nat.add_lt_add_of_lt_of_le hc (Nat.le_succ _))
    rw [chunkLinesGo, linesInner_eq_emit n _ cur c (Nat.le_of_lt hc), ih _ h1, h2, List.flatten_cons, List.append_assoc]

theorem rechunk_entries (n : Nat) (hn : 0 < n) (cs : List (List α)) :
    chunkEntries n cs = some (chop n cs.flatten) := by
  rw [chunkEntries, if_neg (Nat.ne_of_gt hn), chunkEntriesGo_eq n hn [] hn]; rfl

theorem rechunk_lines (n : Nat) (hn : 0 < n) (cs : List (List α)) :
    chunkLines n cs = some (chop n cs.flatten) := by
  rw [chunkLines, if_neg (Nat.ne_of_gt hn), chunkLinesGo_eq n hn [] hn]; rfl

/-- **re-chunking** (`chunk_entries` and `chunk_lines`, repaired), `n ≥ 1`: both return the same chunks; order and content
are preserved, every chunk has `1..n` entries and every chunk except the last exactly `n` -/
theorem rechunk (n : Nat) (hn : 0 < n) (cs : List (List α)) :
    ∃ out, chunkEntries n cs = some out ∧ chunkLines n cs = some out ∧ out.flatten = cs.flatten ∧
      (∀ c ∈ out, 1 ≤ c.length ∧ c.length ≤ n) ∧
      (∀ i, i + 1 < out.length → (out[i]?).map List.length = some n) :=
  ⟨chop n cs.flatten, rechunk_entries n hn cs, rechunk_lines n hn cs, chop_flatten n hn _,
    (chop_sizes n hn _).1, (chop_sizes n hn _).2⟩

theorem chunkEntries_none_iff {α} (n : Nat) (cs : List (List α)) : chunkEntries n cs = none ↔ n = 0 := by
  by_cases h : n = 0
  · simp [chunkEntries, h]
  · simp [chunkEntries, h]

theorem chunkLines_none_iff {α} (n : Nat) (cs : List (List α)) : chunkLines n cs = none ↔ n = 0 := by
  by_cases h : n = 0
  · simp [chunkLines, h]
  · simp [chunkLines, h]

theorem rechunk_chunking_independent {α} (n : Nat) (hn : 0 < n) (cs cs' : List (List α)) (h : cs.flatten = cs'.flatten) :
    chunkEntries n cs = chunkEntries n cs' ∧ chunkLines n cs = chunkLines n cs' := by
  rw [rechunk_entries n hn, rechunk_entries n hn, rechunk_lines n hn, rechunk_lines n hn, h]
  exact ⟨rfl, rfl⟩

theorem rechunk_idempotent {α} (n : Nat) (hn : 0 < n) (cs out : List (List α)) (h : chunkEntries n cs = some out) :
    chunkEntries n out = some out := by
  rw [rechunk_entries n hn] at h ⊢
  rw [← Option.some.inj h, chop_flatten n hn]

end rechunk

example : chunkEntries 3 [[0, 1, 2, 3], [4, 5, 6, 7, 8, 9]] = some [[0, 1, 2], [3, 4, 5], [6, 7, 8], [9]] := by decide +kernel

/-- the shipped `chunk_entries` (one `if` per incoming chunk) violates the property:
one 10-entry chunk, n = 3 gives sizes [3, 7] -/
theorem chunkEntriesOld_unsound :
    (chunkEntriesOld 3 [[0, 1, 2, 3, 4, 5, 6, 7, 8, 9]]).map List.length = [3, 7] ∧
    chunkEntriesOld 3 [[0, 1, 2, 3, 4, 5, 6, 7, 8, 9]] ≠ chop 3 [0, 1, 2, 3, 4, 5, 6, 7, 8, 9] := by decide +kernel

/-- the shipped `chunk_lines` yields an empty trailing chunk when `n` divides the total, and raises
on an empty stream -/
theorem chunkLinesOld_unsound :
    chunkLinesOld 5 [[1, 2, 3, 4, 5]] = some [[1, 2, 3, 4, 5], []] ∧
    chunkLinesOld 2 ([] : List (List Nat)) = none ∧
    chunkLines 2 ([] : List (List Nat)) = some [] := by decide +kernel

end C11
