import BnpVerif.Props.C05Core
/-! C05 — the model's notions characterised by standard list facts, and algebraic laws of the lazy table. -/
namespace C05
open PyIdx

/-- the parsed column f is, row by row, the value of cell f -/
theorem fileCol_get (buf : List FRow) (f i : Nat) :
    (fileCol buf f)[i]? = (buf[i]?).map (fun r => ((r.cells[f]?).map (·.val)).getD []) :=
  List.getElem?_map

/-- a freshly read lazy table shows the file's columns -/
theorem view_ofFile (buf : List FRow) (f : Nat) : view (Lazy.ofFile buf) f = fileCol buf f := rfl

/-- rows ↔ columns: entry (i, f) of the row form is entry (f, i) of the column form -/
theorem transposeN_get (n : Nat) (cols : List Col) (i f : Nat) (hi : i < n) :
    ((transposeN n cols)[i]?).bind (·[f]?) = (cols[f]?).map (fun c => c.getD i []) := by
  rw [transposeN, List.getElem?_map, List.getElem?_range hi]
  exact List.getElem?_map

/-- indexing an eager table indexes every column -/
theorem eager_select_get (e : Eager) (ixs : List Nat) (f : Nat) (hf : f < e.cols.length) :
    (e.select ixs).get f = gather (e.get f) ixs := by
  rw [Eager.get, Eager.get, Eager.select, List.getD_eq_getElem?_getD, List.getD_eq_getElem?_getD, List.getElem?_map,
    List.getElem?_eq_getElem hf]
  rfl

/-- reading a field twice gives the same column and no further state change -/
theorem get_idempotent (l : Lazy) (f : Nat) : (l.get f).2.get f = ((l.get f).1, (l.get f).2) := by
  unfold Lazy.get
  cases hs : lookup l.set f with
  | some c => simp only [hs]
  | none =>
    cases hc : lookup l.computed f with
    | some c => simp only [hs, hc]
    | none => simp only [hs, lookup_insert, if_true]

/-- after `t.f = c`, field f reads back as c (whatever was cached) and the other fields are unchanged -/
theorem setattr_get (l : Lazy) (f g : Nat) (c : Col) :
    ((l.setattr f c).get g).1 = if f = g then c else (l.get g).1 := by
  rw [get_fst, get_fst, view_setattr]

/-- two index selections in a row show what the composed selection shows -/
theorem select_select_view (l : Lazy) (hc : Coh l) (ha : Aligned l) (a b : List Nat) (hv : ∀ k ∈ a, k < l.len) (f : Nat) :
    view ((l.select a).select b) f = view (l.select (gather a b)) f := by
  rw [view_select, view_select, view_select]
  exact gather_gather _ _ _ (by rw [view_length l hc ha f]; exact hv)

/-- replacing twice is replacing once with the later values winning -/
theorem replace_replace_view (l : Lazy) (kw1 kw2 : FMap) (f : Nat) :
    view ((l.replace kw1).replace kw2) f = view (l.replace (kw1 ++ kw2)) f := by
  have hupd (S : FMap) : update (update S kw1) kw2 = update S (kw1 ++ kw2) := by
    induction kw1 generalizing S with
    | nil => rfl
    | cons p ps ih => exact ih _
  unfold Lazy.replace view
  simp only [hupd]

/-- concatenation is associative on what the tables show: `cat [cat [a, b], c]` and
`cat [a, cat [b, c]]` both show `a ++ b ++ c` in every field -/
theorem concat_assoc_view (nF : Nat) (af : Bool) (a b c : Lazy) (ha : Coh a ∧ Aligned a) (hb : Coh b ∧ Aligned b) (hc : Coh c ∧ Aligned c)
    (f : Nat) (hf : f < nF) :
    ∃ ab bc x y, (concatNew nF af [a, b]).map (·.1) = some ab ∧ (concatNew nF af [b, c]).map (·.1) = some bc ∧
      (concatNew nF af [ab, c]).map (·.1) = some x ∧ (concatNew nF af [a, bc]).map (·.1) = some y ∧
      view x f = view a f ++ view b f ++ view c f ∧ view y f = view a f ++ view b f ++ view c f := by
  obtain ⟨ab, _, _, h1⟩ := concat_pair nF af a b ha hb
  obtain ⟨bc, _, _, h2⟩ := concat_pair nF af b c hb hc
  obtain ⟨x, _, _, h3⟩ := concat_pair nF af ab c ⟨h1.coh, h1.aligned⟩ hc
  obtain ⟨y, _, _, h4⟩ := concat_pair nF af a bc ha ⟨h2.coh, h2.aligned⟩
  exact ⟨ab, bc, x, y, congrArg _ h1.eq, congrArg _ h2.eq, congrArg _ h3.eq, congrArg _ h4.eq,
    by rw [h3.view f hf, h1.view f hf], by rw [h4.view f hf, h2.view f hf, List.append_assoc]⟩

/-! the hypotheses `Coh`, `Aligned` of `select_select_view` and `concat_assoc_view` hold of a table as read -/
example : Coh (Lazy.ofFile [demoRow 49 50]) ∧ Aligned (Lazy.ofFile [demoRow 49 50]) :=
  ⟨fun _ _ h => (nomatch h), fun _ _ h => (nomatch h)⟩

/-- an untouched lazy table (nothing set), however indexed, writes the selected records' original bytes -/
theorem write_untouched (join : List Bytes → Bytes) (nF : Nat) (buf : List FRow) (ixs : List Nat) :
    ((Lazy.ofFile buf).select ixs).write join nF = ((gather buf ixs).map (·.raw)).flatten :=
  write_of_set_nil join nF _ rfl  -- the overlay is `mapVals _ [] = []`

end C05
