import BnpVerif.Model.C15
import BnpVerif.Props.C01
/-! C15 property theorems: the reported line number of a format violation does not depend on how
the entries are cut into chunks, and equals the global zero-based line.

Every reader layer (`reported`, `reportedRows`, `reportedCols`) scans its chunks in order and adds
the lines delivered before the chunk. Each is shown to compute the chunk-level test on the
concatenation of the chunks (`reported_eq_flatten`, `reportedRows_eq_flatten`,
`reportedCols_eq_flatten`, the last under its head hypothesis); the line-number and chunk-independence theorems are corollaries
(`reported_none_iff`, stated without `2 < n`, has an induction of its own, and `readValidate_none_iff` rests on it). -/
namespace C15
open C01

theorem map_add_add (o : Option Nat) (a b : Nat) : (o.map (· + a)).map (· + b) = o.map (· + (a + b)) := by
  cases o with
  | none => rfl
  | some x => exact congrArg some (Nat.add_assoc x a b)

/-- the step shared by the three scans over chunks (`*_eq_flatten`) -/
theorem map_or_shift (v w : Option Nat) (d L : Nat) :
    (v.or (w.map (· + d))).map (· + L) = (v.map (L + ·)).or (w.map (· + (L + d))) := by
  cases v with
  | some l => exact congrArg some (Nat.add_comm l L)
  | none => exact (map_add_add w d L).trans (Nat.add_comm d L ▸ rfl)

/-- `firstBad p` is `List.findIdx?` for the negated test, so its equations are those of `findIdx?` -/
theorem firstBad_eq_findIdx? {α} (p : α → Bool) (l : List α) : firstBad p l = l.findIdx? (fun a => !p a) := by
  rw [List.findIdx?_eq_guard_findIdx_lt, Option.guard, firstBad]
  simp only [decide_eq_true_eq]

theorem firstBad_nil {α} (p : α → Bool) : firstBad p [] = none := rfl

theorem firstBad_cons {α} (p : α → Bool) (x : α) (xs : List α) :
    firstBad p (x :: xs) = if p x then (firstBad p xs).map (· + 1) else some 0 := by
  rw [firstBad_eq_findIdx?, firstBad_eq_findIdx?, List.findIdx?_cons]
  cases p x <;> rfl

theorem firstBad_append {α} (p : α → Bool) (l r : List α) :
    firstBad p (l ++ r) = (firstBad p l).or ((firstBad p r).map (· + l.length)) := by
  simp only [firstBad_eq_findIdx?, List.findIdx?_append]

theorem firstBad_none_iff {α} (p : α → Bool) (l : List α) : firstBad p l = none ↔ ∀ a ∈ l, p a = true := by
  simp only [firstBad_eq_findIdx?, List.findIdx?_eq_none_iff, Bool.not_eq_false']

theorem firstBad_lt {α} (p : α → Bool) (l : List α) (i : Nat) (h : firstBad p l = some i) : i < l.length :=
  (List.findIdx?_eq_some_iff_findIdx_eq.1 (firstBad_eq_findIdx? p l ▸ h)).1

theorem firstBad_append_right_good {α} (p : α → Bool) (l r : List α) (hr : ∀ a ∈ r, p a = true) :
    firstBad p (l ++ r) = firstBad p l := by
  rw [firstBad_append, (firstBad_none_iff p r).2 hr, Option.map_none, Option.or_none]

theorem firstBad_at_split {α} (p : α → Bool) (good rest : List α) (bad : α) (hg : ∀ a ∈ good, p a = true)
    (hb : p bad = false) : firstBad p (good ++ bad :: rest) = some good.length := by
  simp [firstBad_append, (firstBad_none_iff p good).2 hg, firstBad_cons, hb]

/-! ### one chunk: a valid entry moves the diagnosis on by `n` lines, an invalid one decides it -/

/-- an entry passes both tests the format applies -/
def entryOK (marker : Nat) (checkPlus : Bool) (e : Entry) : Bool :=
  markerOK marker e && (!checkPlus || plusOK e)

theorem minLine_eq_none_iff (a b : Option Nat) : minLine a b = none ↔ a = none ∧ b = none := by
  cases a <;> cases b <;> simp [minLine]

theorem minLine_zero (b : Option Nat) : minLine (some 0) b = some 0 := by
  cases b <;> rfl

theorem minLine_shift (a b : Option Nat) (d : Nat) :
    minLine (a.map (· + d)) (b.map (· + d)) = (minLine a b).map (· + d) := by
  cases a <;> cases b <;> simp only [minLine, Option.map_some, Option.map_none, Nat.add_lt_add_iff_right]
  split <;> rfl

theorem validateChunk_nil (n marker : Nat) (cp : Bool) : validateChunk n marker cp [] = none := by
  cases cp <;> rfl

theorem validateChunk_none_iff (n marker : Nat) (cp : Bool) (es : List Entry) :
    validateChunk n marker cp es = none ↔ ∀ e ∈ es, entryOK marker cp e = true := by
  unfold validateChunk
  rw [minLine_eq_none_iff]
  cases cp <;> simp [firstBad_none_iff, entryOK, forall_and]

theorem validateChunk_cons_ok (n : Nat) {marker : Nat} {cp : Bool} {e : Entry} (es : List Entry)
    (he : entryOK marker cp e = true) :
    validateChunk n marker cp (e :: es) = (validateChunk n marker cp es).map (· + n) := by
  simp only [entryOK, Bool.and_eq_true, Bool.or_eq_true, Bool.not_eq_true'] at he
  unfold validateChunk
  rw [← minLine_shift, firstBad_cons, if_pos he.1, Option.map_map, Option.map_map]
  cases cp with
  | false => simp [Function.comp_def, Nat.add_mul]
  | true =>
    have hp : plusOK e = true := by simpa using he.2
    simp [firstBad_cons, hp, Function.comp_def, Nat.add_mul, Nat.add_right_comm]

/-- The only place where `2 < n` is needed (FASTQ: n = 4): the `+` line of an entry, local line 2, must precede
the header of the next entry, local line `n`. -/
theorem validateChunk_cons_bad {n marker : Nat} {cp : Bool} (hcp : cp = true → 2 < n) {e : Entry} (es : List Entry)
    (he : entryOK marker cp e = false) :
    validateChunk n marker cp (e :: es) = some (if markerOK marker e then 2 else 0) := by
  unfold validateChunk
  rw [firstBad_cons]
  cases hm : markerOK marker e with
  | false => simp [minLine_zero]
  | true =>
    obtain ⟨rfl, hp⟩ : cp = true ∧ plusOK e = false := by simpa [entryOK, hm] using he
    cases hf : firstBad (markerOK marker) es with
    | none => simp [firstBad_cons, hp, minLine]
    | some j =>
      have : 2 < (j + 1) * n := Nat.lt_of_lt_of_le (hcp rfl) (Nat.le_mul_of_pos_left n (Nat.succ_pos j))
      simp [firstBad_cons, hp, minLine, this]

/-- the half of `validateChunk_append` that holds for every `n`: nothing is found in `g` -/
theorem validateChunk_shift (n marker : Nat) (cp : Bool) (g es : List Entry)
    (hg : ∀ e ∈ g, entryOK marker cp e = true) :
    validateChunk n marker cp (g ++ es) = (validateChunk n marker cp es).map (· + g.length * n) := by
  induction g with
  | nil => simp
  | cons e g ih =>
    rw [List.cons_append, validateChunk_cons_ok n _ (hg e List.mem_cons_self),
      ih fun a ha => hg a (List.mem_cons_of_mem e ha), map_add_add, List.length_cons, Nat.add_mul, Nat.one_mul]

/-- `validateChunk` finds the FIRST offending entry; all chunking results rest on this -/
theorem validateChunk_append {n : Nat} (marker : Nat) {cp : Bool} (hcp : cp = true → 2 < n) (l r : List Entry) :
    validateChunk n marker cp (l ++ r) =
      (validateChunk n marker cp l).or ((validateChunk n marker cp r).map (· + l.length * n)) := by
  induction l with
  | nil => simp [validateChunk_nil]
  | cons e es ih =>
    cases he : entryOK marker cp e with
    | false =>
      rw [List.cons_append, validateChunk_cons_bad hcp _ he, validateChunk_cons_bad hcp _ he]
      rfl
    | true =>
      rw [List.cons_append, validateChunk_cons_ok n _ he, validateChunk_cons_ok n _ he, ih,
        Option.map_or, map_add_add, List.length_cons, Nat.add_mul, Nat.one_mul]

/-- **the first offending entry decides**: whatever follows it in the chunk (valid or not), the
chunk is diagnosed at the line of its first offending entry. -/
theorem validateChunk_first (n marker : Nat) (cp : Bool) (hn : cp = true → 2 < n) (bad : Entry) (o : Nat)
    (hbad : validateChunk n marker cp [bad] = some o) (rest : List Entry) :
    validateChunk n marker cp (bad :: rest) = some o := by
  rw [← List.singleton_append, validateChunk_append marker hn, hbad]
  rfl

/-! ### every chunking reports the same, global, line -/

theorem reported_eq_flatten {n : Nat} (marker : Nat) {cp : Bool} (hcp : cp = true → 2 < n) (cs : List (List Entry)) (L : Nat) :
    reported n marker cp L cs = (validateChunk n marker cp cs.flatten).map (· + L) := by
  induction cs generalizing L with
  | nil => simp [reported, validateChunk_nil]
  | cons c cs ih =>
    rw [reported, List.flatten_cons, validateChunk_append marker hcp, ih, map_or_shift]
    cases validateChunk n marker cp c <;> rfl

/-- FASTA/FASTQ-style formats: entries `good ++ bad :: rest`, `good` valid, `bad` alone diagnosed at local
line `o`, `rest` ARBITRARY (further violations of any class). EVERY way `cs` of cutting them into consecutive
chunks (what every chunk size / mode produces, by C01) reports line `good.length·n + o` counted from the
start of the data (`L = 0`): the line of the FIRST offending record. -/
theorem line_number_kline (n marker : Nat) (cp : Bool) (hn : cp = true → 2 < n) (bad : Entry) (o : Nat)
    (hbad : validateChunk n marker cp [bad] = some o) :
    ∀ (cs : List (List Entry)) (good rest : List Entry) (L : Nat),
      cs.flatten = good ++ bad :: rest →
      (∀ e ∈ good, entryOK marker cp e = true) →
      reported n marker cp L cs = some (L + good.length * n + o) := by
  intro cs good rest L hflat hgood
  rw [reported_eq_flatten marker hn, hflat, validateChunk_shift n marker cp good _ hgood,
    validateChunk_first n marker cp hn bad o hbad, map_add_add, Option.map_some, Nat.add_comm o, Nat.add_comm _ L]

/-- a file with ANY violation never yields a table, whatever the chunking; a valid file never raises -/
theorem reported_none_iff (n marker : Nat) (cp : Bool) :
    ∀ (cs : List (List Entry)) (L : Nat),
      reported n marker cp L cs = none ↔ ∀ e ∈ cs.flatten, entryOK marker cp e = true := by
  intro cs
  induction cs with
  | nil => simp [reported]
  | cons c cs ih =>
    intro L
    rw [reported, List.flatten_cons, List.forall_mem_append, ← validateChunk_none_iff n, ← ih (L + c.length * n)]
    cases validateChunk n marker cp c <;> simp

theorem reported_flatten_invariant (n marker : Nat) (cp : Bool) (hcp : cp = true → 2 < n)
    (cs₁ cs₂ : List (List Entry)) (h : cs₁.flatten = cs₂.flatten) (L : Nat) :
    reported n marker cp L cs₁ = reported n marker cp L cs₂ := by
  rw [reported_eq_flatten marker hcp, reported_eq_flatten marker hcp, h]

/-- the code before the repair was chunk-size dependent: records `[bad '+', bad header]` in one
chunk reported line 4, in two chunks line 2; the repaired rule reports 2 both ways -/
theorem validateOld_chunk_dependent :
    let e0 : Entry := [[64, 97], [65], [45], [73]]     -- @a / A / - / I   (third line is not '+')
    let e1 : Entry := [[88, 98], [65], [43], [73]]     -- Xb / A / + / I   (header marker wrong)
    reportedOld 4 64 true 0 [[e0, e1]] = some 4 ∧ reportedOld 4 64 true 0 [[e0], [e1]] = some 2 ∧
    reported 4 64 true 0 [[e0, e1]] = some 2 ∧ reported 4 64 true 0 [[e0], [e1]] = some 2 := by
  decide

-- the `hbad` of `line_number_kline` for a wrong header (`Xa`) and for a third line that is not `+`; then a read in two chunks
example : validateChunk 4 64 true [[[88, 97], [65], [43], [73]]] = some 0 := by decide +kernel
example : validateChunk 4 64 true [[[64, 97], [65], [45], [73]]] = some 2 := by decide +kernel
example : reported 4 64 true 0 [[[[64, 97], [65], [43], [73]]], [[[64, 98], [67], [45], [73]]]] = some 6 := by decide +kernel

/-- the records that every reading delivers: the first `⌊lines/n⌋·n` lines of the terminated file -/
def wholeRecords (n : Nat) (file : Bytes) : Bytes :=
  (norm file).take (prefixThroughNL (countNL (norm file) - countNL (norm file) % n) (norm file))

theorem wholeRecords_wf (n : Nat) (file : Bytes) (hwf : n ∣ countNL (norm file)) : wholeRecords n file = norm file := by
  rw [wholeRecords, Nat.mod_eq_zero_of_dvd hwf, Nat.sub_zero]
  unfold norm
  split
  · rfl
  · rw [prefix_all _ (addNL_getLast file), List.take_length]

theorem entries_readAll {n : Nat} (hn : 0 < n) (mode : Mode) (file : Bytes) {k : Nat} (hk : 0 < k) :
    ((readAll (Fmt.kLine n) true mode file k).map (entriesOf n)).flatten = entriesOf n (wholeRecords n file) := by
  obtain ⟨hflat, -, hall⟩ := readAll_kLine_any_file n hn mode file k hk
  rw [wholeRecords, ← hflat]
  exact entriesK_chunks n hn _ hall

theorem readValidate_eq {n : Nat} (hn : 0 < n) (marker : Nat) {cp : Bool} (hcp : cp = true → 2 < n)
    (mode : Mode) (file : Bytes) {k : Nat} (hk : 0 < k) :
    readValidate n marker cp mode file k = validateChunk n marker cp (entriesOf n (wholeRecords n file)) := by
  rw [readValidate, reported_eq_flatten marker hcp, entries_readAll hn mode file hk]
  simp

/-- end to end over the C01 reader model: a FASTQ / two-line FASTA file whose entries are
`good ++ bad :: rest` as in `line_number_kline` is reported at line `good.length·n + o` for EVERY
chunk size `k ≥ 1` and both reader modes. -/
theorem readValidate_line (n : Nat) (hn : 0 < n) (marker : Nat) (cp : Bool) (hcp : cp = true → 2 < n)
    (mode : Mode) (file : Bytes)
    (hwf : n ∣ countNL (norm file)) (k : Nat) (hk : 0 < k) (good rest : List Entry) (bad : Entry) (o : Nat)
    (hE : entriesK n (norm file) = good ++ bad :: rest)
    (hgood : ∀ e ∈ good, entryOK marker cp e = true)
    (hbad : validateChunk n marker cp [bad] = some o) :
    readValidate n marker cp mode file k = some (good.length * n + o) := by
  have hflat := entries_readAll hn mode file hk
  rw [wholeRecords_wf n file hwf, entriesOf, hE] at hflat
  exact (line_number_kline n marker cp hcp bad o hbad _ good rest 0 hflat hgood).trans (by rw [Nat.zero_add])

/-- a valid file is read without error, and a file with any violation raises, for every chunk size -/
theorem readValidate_none_iff (n : Nat) (hn : 0 < n) (marker : Nat) (cp : Bool) (mode : Mode) (file : Bytes)
    (hwf : n ∣ countNL (norm file)) (k : Nat) (hk : 0 < k) :
    readValidate n marker cp mode file k = none ↔ ∀ e ∈ entriesK n (norm file), entryOK marker cp e = true := by
  rw [readValidate, reported_none_iff, entries_readAll hn mode file hk, wholeRecords_wf n file hwf, entriesOf]

/-- the outcome of reading a FASTA/FASTQ-style file (success, or the reported line) is the same for
every two chunk sizes and reader modes, whatever violations the file contains. -/
theorem chunk_size_independent (n : Nat) (hn : 0 < n) (marker : Nat) (cp : Bool) (hcp : cp = true → 2 < n)
    (file : Bytes) (hwf : n ∣ countNL (norm file)) (m₁ m₂ : Mode) (k₁ k₂ : Nat) (h₁ : 0 < k₁) (h₂ : 0 < k₂) :
    readValidate n marker cp m₁ file k₁ = readValidate n marker cp m₂ file k₂ := by
  rw [readValidate_eq hn marker hcp m₁ file h₁, readValidate_eq hn marker hcp m₂ file h₂]

/-! ### delimited columns: from the flat offset of a rejected character to the row -/

theorem rowOfOffsetMatrix_spec (w i j : Nat) (hj : j < w) : rowOfOffsetMatrix w (i * w + j) = i := by
  rw [rowOfOffsetMatrix, Nat.mul_comm, Nat.mul_add_div (Nat.zero_lt_of_lt hj), Nat.div_eq_of_lt hj, Nat.add_zero]

/-- `searchsorted(cumsum(lengths), offset, side="right")` walks the rows, taking each row's length off the offset -/
theorem rowOfOffsetRagged_cons (x : Nat) (xs : List Nat) (off : Nat) :
    rowOfOffsetRagged (x :: xs) off = if x ≤ off then rowOfOffsetRagged xs (off - x) + 1 else 0 := by
  rw [rowOfOffsetRagged, cumsum, List.countP_cons, List.countP_map]
  by_cases h : x ≤ off
  · -- the later prefix sums all contain `x`: `c + x ≤ off ↔ c ≤ off - x`
    rw [if_pos (decide_eq_true h), if_pos h]
    exact congrArg (· + 1) (List.countP_congr fun c _ =>
      decide_eq_true_iff.trans ((Nat.le_sub_iff_add_le h).symm.trans decide_eq_true_iff.symm))
  · rw [if_neg (mt of_decide_eq_true h), if_neg h]
    exact List.countP_eq_zero.2 fun c _ hc => h (Nat.le_trans (Nat.le_add_left x c) (of_decide_eq_true hc))

/-- the ragged formula finds the row that contains the offending flat offset, whatever the row
lengths (zero-length rows included) -/
theorem rowOfOffsetRagged_spec (pre : List Nat) (len : Nat) (post : List Nat) (j : Nat) (hj : j < len) :
    rowOfOffsetRagged (pre ++ len :: post) (pre.sum + j) = pre.length := by
  induction pre with
  | nil => rw [List.nil_append, rowOfOffsetRagged_cons, List.sum_nil, Nat.zero_add, if_neg (Nat.not_le.2 hj)]; rfl
  | cons x xs ih =>
    rw [List.cons_append, rowOfOffsetRagged_cons, List.sum_cons, Nat.add_assoc, if_pos (Nat.le_add_right ..),
      Nat.add_sub_cancel_left, ih, List.length_cons]

/-- the whole path of a value error in a text column: the rows are encoded as ONE flat array, the encoder
reports the flat offset of the first rejected character, and `np.searchsorted(np.cumsum(lengths), offset,
side="right")` turns it into a row: the first row containing a rejected character, for every list of rows
(empty rows included) and every character predicate. -/
theorem offset_to_first_bad_row (ok : Nat → Bool) (rows : List Bytes) (i : Nat)
    (hfb : firstBad (fun r => r.all ok) rows = some i) :
    ∃ off, firstBad ok rows.flatten = some off ∧ rowOfOffsetRagged (rows.map List.length) off = i := by
  induction rows generalizing i with
  | nil => cases hfb
  | cons r rs ih =>
    rw [List.flatten_cons, firstBad_append, List.map_cons]
    rw [firstBad_cons] at hfb
    cases hoff : firstBad ok r with
    | none =>
      rw [if_pos (List.all_eq_true.2 ((firstBad_none_iff ok r).1 hoff))] at hfb
      obtain ⟨i', hi', rfl⟩ := Option.map_eq_some_iff.1 hfb
      obtain ⟨off, h1, h2⟩ := ih i' hi'
      exact ⟨off + r.length, by rw [h1]; rfl,
        by rw [rowOfOffsetRagged_cons, if_pos (Nat.le_add_left ..), Nat.add_sub_cancel, h2]⟩
    | some off =>
      have hr : ¬ r.all ok = true := fun h => by
        rw [(firstBad_none_iff ok r).2 (List.all_eq_true.1 h)] at hoff; cases hoff
      rw [if_neg hr] at hfb
      cases hfb
      exact ⟨off, rfl, by rw [rowOfOffsetRagged_cons, if_neg (Nat.not_le.2 (firstBad_lt ok r off hoff))]⟩

example : firstBad (fun r => r.all (fun c => decide (c < 58))) [[49, 50], [], [51, 120, 52], [120]] = some 2 ∧
    firstBad (fun c => decide (c < 58)) [[49, 50], [], [51, 120, 52], [120]].flatten = some 3 ∧
    rowOfOffsetRagged [2, 0, 3, 1] 3 = 2 := by decide +kernel

/-! ### delimited rows: every chunking reports the first row that does not parse -/

theorem reportedRows_eq_flatten (cs : List (List Bool)) (L : Nat) :
    reportedRows L cs = (firstBad id cs.flatten).map (· + L) := by
  induction cs generalizing L with
  | nil => rfl
  | cons c cs ih =>
    rw [reportedRows, List.flatten_cons, firstBad_append, ih, map_or_shift]
    cases firstBad id c <;> rfl

/-- rows `good ++ false :: rest` (first offending row after `good.length` parsable rows) cut into chunks in any way:
the reported row is `good.length`. -/
theorem line_number_delimited :
    ∀ (cs : List (List Bool)) (good rest : List Bool) (L : Nat),
      cs.flatten = good ++ false :: rest → (∀ b ∈ good, b = true) →
      reportedRows L cs = some (L + good.length) := by
  intro cs good rest L hflat hgood
  rw [reportedRows_eq_flatten, hflat, firstBad_at_split id good rest false hgood rfl, Option.map_some, Nat.add_comm]

theorem splitBy_flatten {α} : ∀ (sizes : List Nat) (l : List α), sizes.sum = l.length → (splitBy sizes l).flatten = l := by
  intro sizes
  induction sizes with
  | nil => intro l h; exact (List.length_eq_zero_iff.1 h.symm).symm
  | cons n ns ih =>
    intro l h
    rw [splitBy, List.flatten_cons, ih (l.drop n) (by rw [List.length_drop, ← h, List.sum_cons, Nat.add_sub_cancel_left]),
      List.take_append_drop]

/-- `flags` is an oracle, one answer per line, tied to `file` only by its length -/
theorem readValidateRows_eq {flags : List Bool} (mode : Mode) {file : Bytes} {k : Nat} (hk : 0 < k)
    (hlen : flags.length = countNL (norm file)) : readValidateRows flags mode file k = firstBad id flags := by
  -- `countNL` is `List.count NL`
  have hsum : ((readAll (Fmt.kLine 1) true mode file k).map countNL).sum = flags.length :=
    List.count_flatten.symm.trans <|
      (congrArg countNL (readAll_bytes_kLine 1 Nat.one_pos mode file (Nat.one_dvd _) k hk).1).trans hlen.symm
  rw [readValidateRows, reportedRows_eq_flatten, splitBy_flatten _ _ hsum]
  simp

/-- delimited formats end to end over the C01 reader model: for EVERY file (any bytes), chunk size
`k ≥ 1`, reader mode and pattern of rows `good ++ false :: rest` (`good` all parse, `rest` arbitrary)
the reported line is `good.length`. -/
theorem readValidateRows_line (mode : Mode) (file : Bytes) (k : Nat) (hk : 0 < k)
    (good rest : List Bool) (hgood : ∀ b ∈ good, b = true)
    (hlen : (good ++ false :: rest).length = countNL (norm file)) :
    readValidateRows (good ++ false :: rest) mode file k = some good.length := by
  rw [readValidateRows_eq mode hk hlen, firstBad_at_split id good rest false hgood rfl]

/-- a delimited file is read without a parse error exactly when every row parses — for every chunk size -/
theorem readValidateRows_none_iff (flags : List Bool) (mode : Mode) (file : Bytes) (k : Nat) (hk : 0 < k)
    (hlen : flags.length = countNL (norm file)) :
    readValidateRows flags mode file k = none ↔ ∀ b ∈ flags, b = true := by
  rw [readValidateRows_eq mode hk hlen]
  exact firstBad_none_iff id flags

/-- for every delimited file and every pattern of parsing rows, the outcome (success or the reported row) is the same
for any two chunk sizes and reader modes. -/
theorem rows_chunk_size_independent (flags : List Bool) (file : Bytes) (hlen : flags.length = countNL (norm file))
    (m₁ m₂ : Mode) (k₁ k₂ : Nat) (h₁ : 0 < k₁) (h₂ : 0 < k₂) :
    readValidateRows flags m₁ file k₁ = readValidateRows flags m₂ file k₂ := by
  rw [readValidateRows_eq m₁ h₁ hlen, readValidateRows_eq m₂ h₂ hlen]

example : readValidateRows [true, false, true] .seek [97, 10, 98, 10, 99] 2 = some 1 ∧
    readValidateRows [true, false, true] .carry [97, 10, 98, 10, 99] 100 = some 1 := by decide +kernel

/-! ### column counts: each buffer infers the count from its own first line, so here the chunking matters -/

theorem firstIrregular_of_all (n : Nat) (c : List Nat) (h : ∀ x ∈ c, x = n) : firstIrregular c = none := by
  cases c with
  | nil => rfl
  | cons y ys =>
    exact (firstBad_none_iff _ _).2 fun a ha => beq_iff_eq.2 ((h a ha).trans (h y List.mem_cons_self).symm)

theorem firstIrregular_of_head (n : Nat) (c : List Nat) (h : c = [] ∨ c.head? = some n) :
    firstIrregular c = firstBad (fun x => x == n) c := by
  cases c with
  | nil => rfl
  | cons y ys =>
    obtain rfl : y = n := by simpa using h
    rfl

theorem reportedCols_eq_flatten (n : Nat) (cs : List (List Nat)) (L : Nat) (h : ∀ c ∈ cs, c = [] ∨ c.head? = some n) :
    reportedCols L cs = (firstBad (fun x => x == n) cs.flatten).map (· + L) := by
  induction cs generalizing L with
  | nil => rfl
  | cons c cs ih =>
    rw [reportedCols, firstIrregular_of_head n c (h c List.mem_cons_self), List.flatten_cons, firstBad_append,
      ih _ fun c' hc' => h c' (List.mem_cons_of_mem c hc'), map_or_shift]
    cases firstBad (fun x => x == n) c <;> rfl

/-- lines `good ++ b :: rest`, `good` all with `n` columns, `b` with another number: EVERY chunking in which
each chunk starts with an `n`-column line reports `good.length`. Otherwise the offending line sets the count
for its buffer and a later line is named; the harness accepts the successor there (`harness/props/c15.py`). -/
theorem line_number_cols (n b : Nat) (hb : b ≠ n) :
    ∀ (cs : List (List Nat)) (good rest : List Nat) (L : Nat),
      cs.flatten = good ++ b :: rest → (∀ x ∈ good, x = n) →
      (∀ c ∈ cs, c = [] ∨ c.head? = some n) →
      reportedCols L cs = some (L + good.length) := by
  intro cs good rest L hflat hgood hhead
  rw [reportedCols_eq_flatten n cs L hhead, hflat,
    firstBad_at_split _ good rest b (fun x hx => beq_iff_eq.2 (hgood x hx)) (by simpa using hb),
    Option.map_some, Nat.add_comm]

example : reportedCols 0 [[3, 3], [3, 2, 4, 3]] = some 3 := by decide +kernel

/-! ### the column-count test and the value parsing together (`readValidateDelim`, what the driver runs) -/

/-- `n` is the column count all lines share when the test is on; with the test off it plays no part (any number does) -/
theorem reportedBoth_splitBy (colcheck : Bool) (n : Nat) : ∀ (sizes : List Nat) (cols : List Nat) (flags : List Bool) (L : Nat),
    cols.length = flags.length → (colcheck = true → ∀ x ∈ cols, x = n) →
    reportedBoth colcheck L (splitBy sizes cols) (splitBy sizes flags) = reportedRows L (splitBy sizes flags) := by
  intro sizes
  induction sizes with
  | nil => intro cols flags L _ _; rfl
  | cons m ns ih =>
    intro cols flags L hlen hreg
    have hcol : (if colcheck = true then firstIrregular (cols.take m) else none) = none := by
      split
      · exact firstIrregular_of_all n _ fun x hx => hreg ‹_› x (List.mem_of_mem_take hx)
      · rfl
    simp only [splitBy, reportedBoth, reportedRows, hcol]
    rw [ih (cols.drop m) (flags.drop m) _ (by rw [List.length_drop, List.length_drop, hlen])
        fun hc x hx => hreg hc x (List.mem_of_mem_drop hx), List.length_take, List.length_take, hlen]

/-- formats without a column-count test (SAM): the driver's function is `readValidateRows` -/
theorem readValidateDelim_nocheck (cols : List Nat) (flags : List Bool) (h : cols.length = flags.length)
    (mode : Mode) (file : Bytes) (k : Nat) :
    readValidateDelim false cols flags mode file k = readValidateRows flags mode file k :=
  reportedBoth_splitBy false 0 _ cols flags 0 h nofun

/-- what the driver runs for BED/VCF/GTF/…: when every line has the same number of columns the column-count test is
silent for every chunking, so the reported line is the first row that does not parse (`readValidateRows_line`), for every
chunk size and mode. -/
theorem readValidateDelim_regular (n : Nat) (cols : List Nat) (flags : List Bool) (h : cols.length = flags.length)
    (hreg : ∀ x ∈ cols, x = n) (mode : Mode) (file : Bytes) (k : Nat) :
    readValidateDelim true cols flags mode file k = readValidateRows flags mode file k :=
  reportedBoth_splitBy true n _ cols flags 0 h fun _ => hreg

/-! ### lazy reading: the chunk's own start line is added when a field is looked at -/

theorem readLazy_rows (cs : List (List Bool)) (L : Nat) : (readLazy L cs).map (·.rows) = cs := by
  induction cs generalizing L with
  | nil => rfl
  | cons c cs ih => rw [readLazy, List.map_cons, ih]

theorem readLazy_length (L : Nat) (cs : List (List Bool)) : (readLazy L cs).length = cs.length :=
  List.length_map LazyChunk.rows ▸ congrArg List.length (readLazy_rows cs L)

theorem readLazy_drop (cs : List (List Bool)) (L j : Nat) :
    (readLazy L cs).drop j = readLazy (L + (cs.take j).flatten.length) (cs.drop j) := by
  induction cs generalizing L j with
  | nil => simp [readLazy]
  | cons c cs ih =>
    cases j with
    | zero => rfl
    | succ j =>
      rw [readLazy, List.drop_succ_cons, ih, List.take_succ_cons, List.flatten_cons, List.length_append, Nat.add_assoc,
        List.drop_succ_cons]

/-- whenever the `i`-th lazily read chunk is looked at (in whatever order, after however many later reads), its first
non-parsing row is reported at (lines of all earlier chunks) + (row within the chunk): the offset is the chunk's own, not
the reader's current one. -/
theorem lazy_access_any_time : ∀ (cs : List (List Bool)) (L i : Nat) (hi : i < cs.length),
    ((readLazy L cs)[i]?).bind accessLazy = (firstBad id cs[i]).map (· + (L + (cs.take i).flatten.length)) := by
  intro cs L i hi
  rw [← List.head?_drop, readLazy_drop, List.drop_eq_getElem_cons hi]
  rfl

/-- looking at the lazily read chunks in file order reports exactly what eager reading reports (the first non-parsing
row of the file, counted from the start of the data). -/
theorem lazy_eq_eager : ∀ (cs : List (List Bool)) (L : Nat),
    (readLazy L cs).findSome? accessLazy = reportedRows L cs := by
  intro cs
  induction cs with
  | nil => intro L; rfl
  | cons c cs ih =>
    intro L
    simp only [readLazy, List.findSome?_cons, accessLazy, reportedRows]
    cases firstBad id c with
    | some i => exact congrArg some (Nat.add_comm i L)
    | none => exact ih _

example : ((readLazy 0 [[true, true], [true, false, true], [false]])[1]?).bind accessLazy = some 3 := by decide +kernel

/-- lazily read chunks `cs[j:]` joined with `np.concatenate` BEFORE any field is looked at: the reported line is
what eager reading of those chunks reports, counted from the start of the data. The joined object keeps the start
line of its first operand; a join that forgets it (seeded change C15-x1) is short by exactly the lines of `cs[:j]`. -/
theorem lazy_concat_tail (cs : List (List Bool)) (L j : Nat) (hj : j < cs.length) :
    accessLazy (concatLazy ((readLazy L cs).drop j)) = reportedRows (L + (cs.take j).flatten.length) (cs.drop j) := by
  rw [readLazy_drop, reportedRows_eq_flatten, accessLazy, concatLazy, readLazy_rows, List.drop_eq_getElem_cons hj]
  rfl

example : accessLazy (concatLazy ((readLazy 0 [[true, true], [true, true, true], [true, false]]).drop 1)) = some 6 := by decide +kernel

/-! ### a truncated last record: the end-of-file test (fix a0fa304) -/

/-- no hypothesis on the file (any violations, a last record cut anywhere): chunked reading with every chunk size and
mode reports the first violation among the whole records; if there is none, it reports the truncated record at line
`⌊lines/n⌋·n` when bytes other than line ends follow the whole records, and completes otherwise. The right-hand side
mentions neither `k` nor the mode. -/
theorem readValidateT_any_file (n : Nat) (hn : 0 < n) (marker : Nat) (cp : Bool) (hcp : cp = true → 2 < n)
    (mode : Mode) (file : Bytes) (k : Nat) (hk : 0 < k) :
    readValidateT n marker cp mode file k =
      match validateChunk n marker cp (entriesOf n (wholeRecords n file)) with
      | some l => some l
      | none =>
        if isBlank ((norm file).drop (wholeRecords n file).length) then none
        else some (countNL (norm file) - countNL (norm file) % n) := by
  obtain ⟨hflat, hcount, -⟩ := readAll_kLine_any_file n hn mode file k hk
  rw [readValidateT, leftoverOf, readValidate_eq hn marker hcp mode file hk, hcount, hflat]
  rfl

/-- the outcome of reading a FASTQ / two-line FASTA file is the same for every two chunk sizes and reader
modes, for EVERY file, including a last record cut off anywhere. -/
theorem chunk_size_independent_any_file (n : Nat) (hn : 0 < n) (marker : Nat) (cp : Bool) (hcp : cp = true → 2 < n)
    (file : Bytes) (m₁ m₂ : Mode) (k₁ k₂ : Nat) (h₁ : 0 < k₁) (h₂ : 0 < k₂) :
    readValidateT n marker cp m₁ file k₁ = readValidateT n marker cp m₂ file k₂ := by
  rw [readValidateT_any_file n hn marker cp hcp m₁ file k₁ h₁, readValidateT_any_file n hn marker cp hcp m₂ file k₂ h₂]

/-- the headline case: all whole records valid, bytes other than line ends after them: every
chunk size and mode reports line `⌊lines/n⌋·n`, the line where the truncated record starts; never a table. -/
theorem truncated_line (n : Nat) (hn : 0 < n) (marker : Nat) (cp : Bool) (hcp : cp = true → 2 < n) (mode : Mode)
    (file : Bytes) (k : Nat) (hk : 0 < k)
    (hgood : validateChunk n marker cp (entriesOf n (wholeRecords n file)) = none)
    (hleft : isBlank ((norm file).drop (wholeRecords n file).length) = false) :
    readValidateT n marker cp mode file k = some (countNL (norm file) / n * n) := by
  rw [readValidateT_any_file n hn marker cp hcp mode file k hk, hgood, Nat.div_mul_self_eq_mod_sub_self]
  simp only [hleft, Bool.false_eq_true, ↓reduceIte]

/-- non-vacuity of `truncated_line`: `@a/A/+/I/@b` -/
example : validateChunk 4 64 true (entriesOf 4 (wholeRecords 4 [64,97,10,65,10,43,10,73,10,64,98,10])) = none ∧
    isBlank ((norm [64,97,10,65,10,43,10,73,10,64,98,10]).drop (wholeRecords 4 [64,97,10,65,10,43,10,73,10,64,98,10]).length) = false := by
  decide +kernel

/-- on files made of whole records the end-of-file test never fires: `readValidateT` is `readValidate` there -/
theorem readValidateT_wf (n : Nat) (hn : 0 < n) (marker : Nat) (cp : Bool) (mode : Mode) (file : Bytes)
    (hwf : n ∣ countNL (norm file)) (k : Nat) (hk : 0 < k) :
    readValidateT n marker cp mode file k = readValidate n marker cp mode file k := by
  rw [readValidateT, leftoverOf, (readAll_bytes_kLine n hn mode file hwf k hk).1, List.drop_length]
  cases readValidate n marker cp mode file k <;> rfl

/-- whenever bytes other than line ends are left after the last delivered record, chunked reading does not
complete: a violation in the complete records is reported, or the truncated record at the line where it starts
(= the number of lines delivered). -/
theorem truncated_never_table (n marker : Nat) (cp : Bool) (mode : Mode) (file : Bytes) (k : Nat)
    (hleft : isBlank (leftoverOf n mode file k) = false) :
    readValidateT n marker cp mode file k ≠ none ∧
    (readValidate n marker cp mode file k = none →
      readValidateT n marker cp mode file k = some (countNL (readAll (Fmt.kLine n) true mode file k).flatten)) := by
  unfold readValidateT
  cases readValidate n marker cp mode file k with
  | some l => exact ⟨nofun, nofun⟩
  | none => simp [hleft]

/-! ### `f.read()`: the whole file as one buffer -/

/-- the right-hand side is that of `readValidateT_any_file` -/
theorem wholeValidateT_eq {n : Nat} (hn : 0 < n) (marker : Nat) (cp : Bool) {file : Bytes}
    (hc : n ≤ countNL (norm file)) :
    wholeValidateT n marker cp file = .ok
      (match validateChunk n marker cp (entriesOf n (wholeRecords n file)) with
      | some l => some l
      | none =>
        if isBlank ((norm file).drop (wholeRecords n file).length) then none
        else some (countNL (norm file) - countNL (norm file) % n)) := by
  have hne : (norm file).isEmpty = false := by
    cases h : norm file with
    | nil => rw [h] at hc; exact absurd hc (Nat.not_le.2 hn)
    | cons x xs => rfl
  have hcnt : countNL (wholeRecords n file) = countNL (norm file) - countNL (norm file) % n :=
    (kLine_cut hn (decide_eq_true hc)).2.2.2
  -- by the `cutLen` field of `Fmt.kLine n`
  have hD : (norm file).take ((Fmt.kLine n).cutLen (norm file)) = wholeRecords n file := rfl
  unfold wholeValidateT
  simp only [hne, Bool.false_eq_true, ↓reduceIte, Nat.not_lt.mpr hc, hD, hcnt]
  cases validateChunk n marker cp (entriesOf n (wholeRecords n file)) with
  | some l => rfl
  | none => exact (apply_ite Res.ok ..).symm

/-- `f.read()` and `read_chunks` with every chunk size and mode give the same
outcome for every file that holds at least one record's worth of lines. -/
theorem whole_eq_chunks_any_file (n : Nat) (hn : 0 < n) (marker : Nat) (cp : Bool) (hcp : cp = true → 2 < n) (mode : Mode)
    (file : Bytes) (hc : n ≤ countNL (norm file)) (k : Nat) (hk : 0 < k) :
    wholeValidateT n marker cp file = .ok (readValidateT n marker cp mode file k) := by
  rw [wholeValidateT_eq hn marker cp hc, readValidateT_any_file n hn marker cp hcp mode file k hk]

/-- on files made of whole records `f.read()` and `read_chunks` with every chunk size and
mode give the same outcome, whatever violations the records contain. -/
theorem whole_eq_chunks (n : Nat) (hn : 0 < n) (marker : Nat) (cp : Bool) (hcp : cp = true → 2 < n) (mode : Mode)
    (file : Bytes) (hwf : n ∣ countNL (norm file)) (hc : n ≤ countNL (norm file)) (k : Nat) (hk : 0 < k) :
    wholeValidateT n marker cp file = .ok (readValidateT n marker cp mode file k) :=
  whole_eq_chunks_any_file n hn marker cp hcp mode file hc k hk

/-- `f.read()` of a file that ends inside a record (bytes other than line ends after the
last complete record) whose complete records are all valid: the error names line `⌊lines / n⌋ · n`, the first line
of the truncated record. -/
theorem whole_truncated (n : Nat) (hn : 0 < n) (marker : Nat) (cp : Bool) (file : Bytes)
    (hc : n ≤ countNL (norm file))
    (hleft : isBlank ((norm file).drop ((Fmt.kLine n).cutLen (norm file))) = false)
    (hgood : validateChunk n marker cp (entriesOf n ((norm file).take ((Fmt.kLine n).cutLen (norm file)))) = none) :
    wholeValidateT n marker cp file = .ok (some (countNL (norm file) / n * n)) := by
  -- the hypotheses speak of the cut of `Fmt.kLine n`; the bytes before it are `wholeRecords n file` by definition
  rw [List.drop_eq_drop_min, ← List.length_take] at hleft
  change isBlank ((norm file).drop (wholeRecords n file).length) = false at hleft
  change validateChunk n marker cp (entriesOf n (wholeRecords n file)) = none at hgood
  rw [wholeValidateT_eq hn marker cp hc, hgood, hleft, Nat.div_mul_self_eq_mod_sub_self]
  rfl

/-- non-vacuity: `@a/A/+/I/@b` (the file ends inside its second record) read whole and with chunk sizes 1–3, both
modes: line 4; the same file made whole reads without error; a file ending in blank lines is accepted -/
example : wholeValidateT 4 64 true [64,97,10,65,10,43,10,73,10,64,98,10] = .ok (some 4) ∧
    readValidateT 4 64 true .seek [64,97,10,65,10,43,10,73,10,64,98,10] 1 = some 4 ∧
    readValidateT 4 64 true .carry [64,97,10,65,10,43,10,73,10,64,98,10] 3 = some 4 ∧
    readValidateT 4 64 true .seek [64,97,10,65,10,43,10,73,10,64,98] 2 = some 4 ∧
    readValidateT 4 64 true .seek [64,97,10,65,10,43,10,73,10] 2 = none ∧
    readValidateT 4 64 true .carry [64,97,10,65,10,43,10,73,10,10,13,10] 2 = none ∧
    readValidateT 4 64 true .seek [64,97,10,65,10,73,10] 5 = some 0 := by decide +kernel

/-! ### the reader's own end-of-file test (what the driver runs) -/

/-- the end-of-file test as the reader performs it (on the pending chunks when it gives up,
or on the final chunk behind its buffer; `readValidateR`, the function the correspondence runs against the code) decides
exactly as the test on the bytes never delivered (`readValidateT`), for every file, chunk size and mode. -/
theorem readValidateR_eq (n : Nat) (hn : 0 < n) (marker : Nat) (cp : Bool) (mode : Mode) (file : Bytes) (k : Nat) (hk : 0 < k) :
    readValidateR n marker cp mode file k = readValidateT n marker cp mode file k := by
  rw [readValidateR, readValidateT, leftoverOf, readAllRest_blank_iff n hn mode file k hk]

/-- `readValidateT_any_file` for the reader-level function -/
theorem readValidateR_any_file (n : Nat) (hn : 0 < n) (marker : Nat) (cp : Bool) (hcp : cp = true → 2 < n)
    (mode : Mode) (file : Bytes) (k : Nat) (hk : 0 < k) :
    readValidateR n marker cp mode file k =
      match validateChunk n marker cp (entriesOf n (wholeRecords n file)) with
      | some l => some l
      | none =>
        if isBlank ((norm file).drop (wholeRecords n file).length) then none
        else some (countNL (norm file) - countNL (norm file) % n) :=
  (readValidateR_eq n hn marker cp mode file k hk).trans (readValidateT_any_file n hn marker cp hcp mode file k hk)

theorem readValidateR_chunk_size_independent (n : Nat) (hn : 0 < n) (marker : Nat) (cp : Bool) (hcp : cp = true → 2 < n)
    (file : Bytes) (m₁ m₂ : Mode) (k₁ k₂ : Nat) (h₁ : 0 < k₁) (h₂ : 0 < k₂) :
    readValidateR n marker cp m₁ file k₁ = readValidateR n marker cp m₂ file k₂ := by
  rw [readValidateR_eq n hn marker cp m₁ file k₁ h₁, readValidateR_eq n hn marker cp m₂ file k₂ h₂]
  exact chunk_size_independent_any_file n hn marker cp hcp file m₁ m₂ k₁ k₂ h₁ h₂

/-- the two sites are both reached: `@a/A/+/I/@b`, seek mode: chunk size 9 ends at site 1 (pending chunks), chunk size 12
at site 2 (behind the final buffer); both report line 4 -/
example : readAllRest (Fmt.kLine 4) .seek [64,97,10,65,10,43,10,73,10,64,98,10] 9 = [64,98,10] ∧
    readAllRest (Fmt.kLine 4) .seek [64,97,10,65,10,43,10,73,10,64,98,10] 12 = [64,98,10] ∧
    readValidateR 4 64 true .seek [64,97,10,65,10,43,10,73,10,64,98,10] 9 = some 4 ∧
    readValidateR 4 64 true .seek [64,97,10,65,10,43,10,73,10,64,98,10] 12 = some 4 := by decide +kernel

end C15
