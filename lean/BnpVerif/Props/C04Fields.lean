import BnpVerif.Props.C04KLine
import BnpVerif.Props.C04Sam
import BnpVerif.Props.C04Eager
/-! C04 — SOURCE-LEVEL field text: what `get_field_by_number(j)` returns for the constructed extractor, stated on the source
lines (FASTQ / FASTA: the line without its header character; SAM: the column and the tags; CRLF: without the CR). The k-line
texts are also carried through every program and the driver's `evalTab`. -/
namespace C04

theorem getD_take {α : Type} (l : List α) (n j : Nat) (d : α) (h : j < n) : (l.take n).getD j d = l.getD j d := by
  rw [List.getD_eq_getElem?_getD, List.getElem?_take, if_pos h, List.getD_eq_getElem?_getD]

theorem getLastD_take {α : Type} (l : List α) (n : Nat) (d : α) (h : n + 1 ≤ l.length) : (l.take (n + 1)).getLastD d = l.getD n d := by
  rw [getLastD_eq_getD, List.length_take, Nat.min_eq_left h, Nat.add_sub_cancel, getD_take _ _ _ _ (Nat.lt_succ_self n)]

/-- **C04.kline_fields** — field j of the constructed extractor (FASTQ: K = 4, offsets [1,0,0,0]; FASTA: K = 2, [1,0]) is, entry
by entry, the j-th LINE of the source entry without its first `offs[j]` bytes (the '@' / '>') and, when the CR switch is
on, without its trailing CR -/
theorem kline_fields (K : Nat) (hK : 0 < K) (offs : List Nat) (entries : List (List Bytes))
    (h : CleanTable 10 K entries) (j : Nat) (hj : j < K) (hjo : j < offs.length) :
    (kExt K offs entries).fieldText j =
      entries.map (fun l => ((if kCR K entries then dropCR (l.getD j []) else l.getD j [])).drop (offs.getD j 0)) := by
  rw [Ext.fieldText, (kExt_rows K offs entries (h.ne_nil hK)).2]
  refine rows_ctx 10 (fun l => l.length = K) _ entries (fun l hl => (h l hl).1) _
    (fun d r => slice d (r.fS.getD j 0) (r.fL.getD j 0)) (fun A B l hA hl => ?_)
  simp only [kRow, lineRow]
  have hjl : j < l.length := by rw [hl]; exact hj
  have hne : l ≠ [] := List.ne_nil_of_length_pos (Nat.zero_lt_of_lt hjl)
  have hjO : j < (offsFrom A.length l).length := by rw [offsFrom_length]; exact hjl
  have hjG : j < (lineDelims A.length l).length := by rw [lineDelims_length _ _ hne]; exact hjl
  rw [dropCR_eq_take]
  refine row_field 10 A B l j hjl _ _ (by rw [List.length_zipWith]; exact Nat.lt_min.mpr ⟨hjO, hjo⟩) ?_ (offs.getD j 0) _
    (getD_zipWith _ _ _ j hjO hjo 0 0 0) ?_ (Nat.sub_le _ _)
  · cases kCR K entries <;> simp only [Bool.false_eq_true, if_false, if_true, List.length_map] <;> exact hjG
  · cases kCR K entries with
    | false => exact lineDelims_getD _ l j hjl
    | true =>
      rw [if_pos rfl, Base.getD_map_of_lt _ _ j hjG 0 0, lineDelims_getD _ l j hjl]
      exact cut_field_end 10 A B l j hjl (.inl rfl) (.inr ⟨by decide, hA⟩)

/-- **C04.kline_fields_lf** — plain LF text: the j-th source line without its `offs[j]` header bytes -/
theorem kline_fields_lf (K : Nat) (hK : 0 < K) (offs : List Nat) (entries : List (List Bytes))
    (h : CleanTable 10 K entries) (hnocr : NoCRTable entries) (j : Nat) (hj : j < K) (hjo : j < offs.length) :
    (kExt K offs entries).fieldText j = entries.map (fun l => (l.getD j []).drop (offs.getD j 0)) := by
  rw [kline_fields K hK offs entries h j hj hjo]
  apply List.map_congr_left
  intro l hl
  rw [dropCR_noCR _ (hnocr l hl _ (Base.getD_mem l j [] (by rw [(h l hl).1]; exact hj))), ite_self]

/-- a CRLF file of k-line entries, seen as an LF dump: every line carries the CR -/
def CRLines (entries : List (List Bytes)) : Prop := ∀ l ∈ entries, ∀ x ∈ l, x.getLast? = some 13

theorem kCR_of_CRLines (K : Nat) (hK : 0 < K) (entries : List (List Bytes)) (hne : entries ≠ [])
    (h : CleanTable 10 K entries) (hcr : CRLines entries) : kCR K entries = true := by
  -- `kCR` is an `any` over the header lines of the first K entries: it is true at its head, the first line of the first entry
  match K, entries, hK, hne, h, hcr with
  | _, [] :: _, hK, _, h, _ => exact absurd rfl (h.ne_nil hK [] (by simp))
  | k' + 1, (x0 :: r) :: ls, _, _, _, hcr =>
    have hx0 := hcr (x0 :: r) (by simp) x0 (by simp)
    have hx0ne : x0 ≠ [] := by intro e; rw [e] at hx0; simp at hx0
    obtain ⟨Y, hY⟩ : ∃ Y, dumpFile 10 ((x0 :: r) :: ls) = x0 ++ Y := by
      obtain ⟨Z, hZ⟩ := intercalate_cons [10] x0 r
      exact ⟨Z ++ [10] ++ dumpFile 10 ls, by simp [dumpFile, dumpLine, hZ]⟩
    have hb := last_byte x0 Y hx0ne
    rw [hx0, ← hY] at hb
    have hd : (lineDelims 0 (x0 :: r)).headD 0 = x0.length := by cases r <;> simp [lineDelims]
    have hg : decide (x0.length < 1) = false := decide_eq_false (Nat.not_lt.mpr (List.length_pos_iff.mpr hx0ne))
    simp only [kCR, kGuard, lineGroups, List.head?_cons, Option.map_some, Option.getD_some, List.take_succ_cons, List.any_cons,
      hd, hg, hb]
    rfl

/-- **C04.kline_fields_crlf** — CRLF text: the j-th source line without header bytes and without the CR -/
theorem kline_fields_crlf (K : Nat) (hK : 0 < K) (offs : List Nat) (entries : List (List Bytes)) (hne : entries ≠ [])
    (h : CleanTable 10 K entries) (hcr : CRLines entries) (j : Nat) (hj : j < K) (hjo : j < offs.length) :
    (kExt K offs entries).fieldText j = entries.map (fun l => (dropCR (l.getD j [])).drop (offs.getD j 0)) := by
  rw [kline_fields K hK offs entries h j hj hjo, kCR_of_CRLines K hK entries hne h hcr]
  rfl

/-- the j-th entry field of a source entry, as the code's construction delivers it -/
def kSrcField (K : Nat) (offs : List Nat) (entries : List (List Bytes)) (j : Nat) (l : List Bytes) : Bytes :=
  ((if kCR K entries then dropCR (l.getD j []) else l.getD j [])).drop (offs.getD j 0)

theorem evalSpec_transfer {α β γ} (A : List (List α)) (B : List (List β)) (φ : α → γ) (ψ : β → γ)
    (h : A.map (·.map φ) = B.map (·.map ψ)) (p : Prog) : (p.evalSpec A).map (·.map φ) = (p.evalSpec B).map (·.map ψ) := by
  rw [← evalSpec_map, h, evalSpec_map]

theorem rows_of_cols {α β γ} (J : List Nat) (φ : Nat → α → γ) (ψ : Nat → β → γ) :
    ∀ (R : List α) (T : List β), R.length = T.length → (∀ j ∈ J, R.map (φ j) = T.map (ψ j)) →
      R.map (fun r => J.map (fun j => φ j r)) = T.map (fun l => J.map (fun j => ψ j l))
  | [], [], _, _ => rfl
  | [], _ :: _, hl, _ => absurd hl.symm (Nat.succ_ne_zero _)
  | _ :: _, [], hl, _ => absurd hl (Nat.succ_ne_zero _)
  | r :: R, l :: T, hl, h => by
    rw [List.map_cons, List.map_cons, rows_of_cols J φ ψ R T (Nat.succ.inj hl) (fun j hj => (List.cons.inj (h j hj)).2)]
    exact congrArg (· :: _) (List.map_congr_left (fun j hj => (List.cons.inj (h j hj)).1))

/-- field texts known at source level table by table stay so through every program, on the extractor and in the rows the
driver's evaluator yields -/
theorem program_src {β : Type} (mk : List β → Ext) (blk : β → Bytes) (tables : List (List β))
    (hI : ∀ t ∈ tables, Inv (mk t) ∧ (mk t).abs.map (·.raw) = t.map blk) (Q : Nat → Prop) (f : Nat → β → Bytes)
    (hf : ∀ t ∈ tables, ∀ j, Q j → (mk t).fieldText j = t.map (f j)) (c : Bool) (p : Prog) :
    (∀ j, Q j → (p.evalExt (tables.map mk)).map (fun e => e.fieldText j) = (p.evalSpec tables).map (·.map (f j))) ∧
    (∀ fidx : List Nat, (∀ j ∈ fidx, Q j) →
      (p.evalTab c fidx (tables.map mk)).map (Tab.rows fidx) =
        (p.evalSpec tables).map (·.map (fun l => fidx.map (fun j => f j l)))) := by
  have hinv : ∀ e ∈ tables.map mk, Inv e := List.forall_mem_map.mpr (fun t ht => (hI t ht).1)
  have hcol : ∀ t ∈ tables, ∀ j, Q j → (mk t).abs.map (·.field j) = t.map (f j) :=
    fun t ht j hj => (field_text _ (hI t ht).1.1 j).symm.trans (hf t ht j hj)
  refine ⟨fun j hj => ?_, fun fidx hfi => ?_⟩
  · rw [program_fields _ hinv p j]
    refine evalSpec_transfer _ tables _ (f j) ?_ p
    rw [List.map_map, List.map_map]
    exact List.map_congr_left (fun t ht => hcol t ht j hj)
  · rw [(eager_fields c fidx _ hinv p).2]
    refine evalSpec_transfer _ tables _ _ ?_ p
    rw [List.map_map, List.map_map]
    exact List.map_congr_left (fun t ht => rows_of_cols fidx (fun j (r : Rec) => r.field j) f _ t
      (by simpa using congrArg List.length (hI t ht).2) (fun j hj => hcol t ht j (hfi j hj)))

/-- **C04.passthrough_kline_fields** — FASTQ / two-line FASTA on plain LF files: after every program every entry field of the
result is the corresponding line of the SELECTED SOURCE entries without its header bytes, on the pass-through extractor
and in the rows the driver's `evalTab` yields (eager fallback included) -/
theorem passthrough_kline_fields (K : Nat) (hK : 0 < K) (offs : List Nat) (hoffs : offs.length = K)
    (tables : List (List (List Bytes))) (hne : ∀ t ∈ tables, t ≠ []) (h : ∀ t ∈ tables, CleanTable 10 K t)
    (ho : ∀ t ∈ tables, OffsOK offs t) (hnocr : ∀ t ∈ tables, NoCRTable t) (p : Prog) :
    (∀ j, j < K → (p.evalExt (tables.map (kExt K offs))).map (fun e => e.fieldText j) =
      (p.evalSpec tables).map (·.map (fun l => (l.getD j []).drop (offs.getD j 0)))) ∧
    (∀ fidx : List Nat, (∀ j ∈ fidx, j < K) →
      (p.evalTab false fidx (tables.map (kExt K offs))).map (Tab.rows fidx) =
        (p.evalSpec tables).map (·.map (fun l => fidx.map (fun j => (l.getD j []).drop (offs.getD j 0))))) :=
  program_src (kExt K offs) _ tables (fun t ht => kExt_inv K offs t ((h t ht).ne_nil hK) (ho t ht)) (· < K) _
    (fun t ht j hj => kline_fields_lf K hK offs t (h t ht) (hnocr t ht) j hj (hoffs ▸ hj)) false p

/-- **C04.passthrough_kline_fields_crlf** — the same on CRLF files: the texts additionally lose their carriage return -/
theorem passthrough_kline_fields_crlf (K : Nat) (hK : 0 < K) (offs : List Nat) (hoffs : offs.length = K)
    (tables : List (List (List Bytes))) (hne : ∀ t ∈ tables, t ≠ []) (h : ∀ t ∈ tables, CleanTable 10 K t)
    (ho : ∀ t ∈ tables, OffsOK offs t) (hcr : ∀ t ∈ tables, CRLines t) (p : Prog) :
    (∀ j, j < K → (p.evalExt (tables.map (kExt K offs))).map (fun e => e.fieldText j) =
      (p.evalSpec tables).map (·.map (fun l => (dropCR (l.getD j [])).drop (offs.getD j 0)))) ∧
    (∀ fidx : List Nat, (∀ j ∈ fidx, j < K) →
      (p.evalTab false fidx (tables.map (kExt K offs))).map (Tab.rows fidx) =
        (p.evalSpec tables).map (·.map (fun l => fidx.map (fun j => (dropCR (l.getD j [])).drop (offs.getD j 0))))) :=
  program_src (kExt K offs) _ tables (fun t ht => kExt_inv K offs t ((h t ht).ne_nil hK) (ho t ht)) (· < K) _
    (fun t ht j hj => kline_fields_crlf K hK offs t (hne t ht) (h t ht) (hcr t ht) j hj (hoffs ▸ hj)) false p

/-- **C04.passthrough_kline_tab** — on every program without concatenation the driver's `evalTab` yields the pass-through
extractor, whose bytes are the selected entries' source bytes -/
theorem passthrough_kline_tab (K : Nat) (hK : 0 < K) (offs : List Nat) (fidx : List Nat)
    (tables : List (List (List Bytes))) (hne : ∀ t ∈ tables, t ≠ []) (h : ∀ t ∈ tables, CleanTable 10 K t)
    (ho : ∀ t ∈ tables, OffsOK offs t) (p : Prog) (hp : p.catFree = true) :
    p.evalTab false fidx (tables.map (kExt K offs)) = (p.evalExt (tables.map (kExt K offs))).map Tab.lz ∧
    (p.evalExt (tables.map (kExt K offs))).map Ext.bytes = (p.evalSpec (tables.map (·.map (dumpLine 10)))).map List.flatten :=
  ⟨evalTab_lz false fidx _ p (Or.inr hp), (passthrough_kline K hK offs tables hne h ho p).2⟩

/-! the name of a FASTQ entry comes back without '@' -/
example : (kExt 4 [1, 0, 0, 0] [["@r1 d".toList.map Char.toNat, "ACGT".toList.map Char.toNat, "+".toList.map Char.toNat, "IIII".toList.map Char.toNat]]).fieldText 0
    = ["r1 d".toList.map Char.toNat] := by decide +kernel

/-- **C04.sam_fields** — each of the 11 mandatory fields of the constructed extractor is, line by line, the source column;
when the CR switch is on and the line has no tags, the 11th field loses its trailing CR -/
theorem sam_fields (lines : List (List Bytes)) (hne : lines ≠ []) (h : SamTable 11 lines)
    (hlast : ∀ l ∈ lines, l.getLastD [] ≠ []) (j : Nat) (hj : j < 11) :
    (samExt lines).fieldText j =
      lines.map (fun l => if (samCR lines && j + 1 == l.length) then dropCR (l.getD j []) else l.getD j []) := by
  rw [Ext.fieldText, (samExt_rows lines (fun l hl => (h l hl).1)).2]
  refine rows_ctx 9 (fun l => 11 ≤ l.length ∧ l.getLastD [] ≠ []) _ lines (fun l hl => ⟨(h l hl).1, hlast l hl⟩) _
    (fun d r => slice d (r.fS.getD j 0) (r.fL.getD j 0)) (fun A B l _ hl => ?_)
  simp only [samRow, lineRow]
  have hjl : j < l.length := Nat.lt_of_lt_of_le hj hl.1
  have hlen := ends_length (samCR lines) l (A ++ dumpLine 9 l ++ B) A.length (List.ne_nil_of_length_pos (Nat.zero_lt_of_lt hjl))
  rw [dropCR_eq_take]
  refine row_field 9 A B l j hjl _ _ (by rw [List.length_take, offsFrom_length]; exact Nat.lt_min.mpr ⟨hj, hjl⟩)
    (by rw [List.length_take, hlen]; exact Nat.lt_min.mpr ⟨hj, hjl⟩)
    0 _ (getD_take _ _ _ _ hj) ?_ (Nat.sub_le _ _)
  rw [getD_take _ _ _ _ hj]
  exact ends_getD (samCR lines) 9 A B l j hjl fun _ _ => .inl hl.2

/-- **C04.sam_fields_exact** — lines that carry a tag (or plain LF text) have all 11 fields exact -/
theorem sam_fields_exact (lines : List (List Bytes)) (hne : lines ≠ []) (h : SamTable 11 lines)
    (hlast : ∀ l ∈ lines, l.getLastD [] ≠ [])
    (hok : ∀ l ∈ lines, 11 < l.length ∨ ∀ b ∈ l.getD 10 [], b ≠ 13) (j : Nat) (hj : j < 11) :
    (samExt lines).fieldText j = lines.map (fun l => l.getD j []) := by
  rw [sam_fields lines hne h hlast j hj]
  apply List.map_congr_left
  intro l hl
  split
  · rename_i hc
    simp only [Bool.and_eq_true, beq_iff_eq] at hc
    have h11 := (h l hl).1
    rcases hok l hl with h1 | h1
    · omega
    · obtain rfl : j = 10 := by omega
      exact dropCR_noCR _ h1
  · rfl

/-- what `Ext.samExtra` computes for one row, under a name so that `rows_ctx` can take it -/
def extraOf (d : Bytes) (r : Row) : Bytes :=
  let st := r.fS.getLastD 0 + r.fL.getLastD 0 + 1
  let lineEnd := r.eE - 1 - (if byteAt d (r.eE - 2) == 13 then 1 else 0)
  slice d st (lineEnd - st)

/-- the line end `_get_extra_field` computes from a record end `e + 1` -/
theorem cut_eq_sub (d : Bytes) (e : Nat) : e + 1 - 1 - (if byteAt d (e + 1 - 2) == 13 then 1 else 0) = cut d e := by
  unfold cut
  rw [Nat.add_sub_cancel, show e + 1 - 2 = e - 1 from rfl]
  split <;> rfl

theorem sam_extra_row (c : Bool) (A B : Bytes) (l : List Bytes) (h11 : 11 ≤ l.length) (hlast : l.getLastD [] ≠ []) :
    extraOf (A ++ dumpLine 9 l ++ B) (samRow c (A ++ dumpLine 9 l ++ B) A.length l) = dropCR (intercalate [9] (l.drop 11)) := by
  have hne : l ≠ [] := List.ne_nil_of_length_pos (Nat.lt_of_lt_of_le (by decide) h11)
  have hlen := ends_length c l (A ++ dumpLine 9 l ++ B) A.length hne
  have hE := ends_getD c 9 A B l 10 h11 fun _ _ => .inl hlast
  have hS := getLastD_take (offsFrom A.length l) 10 0 (by rw [offsFrom_length]; exact h11)
  have hT := getLastD_take _ 10 0 (hlen ▸ h11)
  simp only [extraOf, samRow, lineRow, dumpLine_length_intercalate, ← Nat.add_assoc, cut_eq_sub]
  rw [cut_line_end 9 A B l hlast, last_end _ _ (by rw [List.length_take, List.length_take, hlen, offsFrom_length])
    (by rw [hS, hT, hE]; exact Nat.le_add_right _ _), hT, hE]
  by_cases hl11 : l.length = 11
  · -- no tags: the 11th field ends where the line ends, nothing lies between
    have h10 : l.getLastD [] = l.getD 10 [] := by rw [getLastD_eq_getD, hl11]
    have ho := offs_last 9 A.length l hne
    rw [getLastD_eq_getD, offsFrom_length, show l.length - 1 = 10 by rw [hl11], h10] at ho
    have hm := crLen_mono (c && 10 + 1 == l.length) (l.getD 10 [])
    rw [← hl11, List.drop_length, h10, ← ho]
    rw [Nat.sub_eq_zero_of_le (Nat.le_succ_of_le (Nat.add_sub_assoc (crLen_le _ _) _ ▸ Nat.sub_le_sub_left hm _))]
    rfl
  · -- tags: from the start of column 12 to the CR-less line end
    have h12 : 11 < l.length := Nat.lt_of_le_of_ne h11 (fun e => hl11 e.symm)
    rw [beq_false_of_ne (fun e => hl11 e.symm), Bool.and_false, show crLen false (l.getD 10 []) = 0 from rfl, Nat.sub_zero,
      ← offs_succ A.length l 10 h12]
    exact rest_strip true 9 A B l hlast 11 h12

/-- **C04.sam_extra_src** — `_get_extra_field` returns, line by line, the source columns after the 11th joined by tabs, without
the line's trailing CR (empty when the line has no tags) -/
theorem sam_extra_src (lines : List (List Bytes)) (hne : lines ≠ []) (h : SamTable 11 lines)
    (hlast : ∀ l ∈ lines, l.getLastD [] ≠ []) :
    (samExt lines).samExtra = lines.map (fun l => dropCR (intercalate [9] (l.drop 11))) := by
  rw [show (samExt lines).samExtra = (samExt lines).rows.map (extraOf (samExt lines).data) from rfl,
    (samExt_rows lines (fun l hl => (h l hl).1)).2]
  exact rows_ctx 9 (fun l => 11 ≤ l.length ∧ l.getLastD [] ≠ []) _ lines (fun l hl => ⟨(h l hl).1, hlast l hl⟩) _ extraOf
    (fun A B l _ hl => sam_extra_row _ A B l hl.1 hl.2)

/-! on a CRLF line the tags come back without the CR, on a line without tags they are empty -/
example : (samExt [["r1", "0", "c", "007", "60", "4M", "*", "0", "0", "ACGT", "IIII", "NM:i:0", "XS:A:+\r"].map (·.toList.map Char.toNat),
    ["r2", "0", "c", "7", "60", "4M", "*", "0", "0", "ACGT", "IIII\r"].map (·.toList.map Char.toNat)]).samExtra
    = ["NM:i:0\tXS:A:+".toList.map Char.toNat, []] := by
  simp only [List.map_cons, List.map_nil]
  repeat rw [String.toList_ofList]
  decide +kernel

end C04
