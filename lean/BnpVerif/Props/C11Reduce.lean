import BnpVerif.Model.C11
import BnpVerif.Base.Lists
/-! C11, streamed reductions (mean, bincount, histogram, k-mer counts, axis-0 mean, quantiles): a reduction is
chunking-independent when the per-chunk result and the running value turn concatenation into the reduction's step
(`foldl_chunks`); the `*_chunks` theorem of each fold (mean, bincount, histogram, k-mer counts, axis-0 mean) is that lemma
with one additivity fact, quantiles rest on the bincount, `map_chunks` has no fold; the `*_iff` theorems say when it raises. -/
namespace C11
open Base

/-- Why every streamed reduction is chunking-independent: when the per-chunk result `f` and the running
value `F` turn concatenation into `step`, folding `step` over the chunk results computes `F` of the whole. The users start
it at `a := []` where the fold's start value is `F []`, and at the first chunk `a := c` where the fold starts from `f c`
(`reduce` without initial value, Python's `sum` from the integer 0); either holds by unfolding. -/
theorem foldl_chunks {α β γ} (f : List α → β) (F : List α → γ) (step : γ → β → γ)
    (h : ∀ a b, step (F a) (f b) = F (a ++ b)) (a : List α) (cs : List (List α)) :
    (cs.map f).foldl step (F a) = F (a ++ cs.flatten) := by
  induction cs generalizing a with
  | nil => simp
  | cons c cs ih => rw [List.map_cons, List.foldl_cons, h, ih, List.flatten_cons, List.append_assoc]

/-! ### mean -/
theorem sumAndN_append (a b : List Int) : pairAdd (sumAndN a) (sumAndN b) = sumAndN (a ++ b) := by
  simp [pairAdd, sumAndN, List.sum_append]

/-- **mean**. Partial: exact integer arithmetic, the final division `t[:-1] / t[-1]` is run-time behaviour. -/
theorem mean_chunks_partial (cs : List (List Int)) (h : cs ≠ []) : meanStream cs = .ok (sumAndN cs.flatten) := by
  obtain ⟨c, t, rfl⟩ := List.exists_cons_of_ne_nil h
  exact congrArg Except.ok (foldl_chunks sumAndN sumAndN pairAdd sumAndN_append [] (c :: t))

theorem mean_chunking_independent (cs cs' : List (List Int)) (h : cs.flatten = cs'.flatten)
    (h1 : cs ≠ []) (h2 : cs' ≠ []) : meanStream cs = meanStream cs' := by
  rw [mean_chunks_partial cs h1, mean_chunks_partial cs' h2, h]

/-- `sum(())` is the integer 0 and `0[:-1]` a `TypeError`; chunks that are all empty give (0, 0), i.e. `nan`, as in memory -/
theorem meanStream_error_iff (cs : List (List Int)) : meanStream cs = .error .emptyStream ↔ cs = [] := by
  cases cs <;> simp [meanStream]

/-! ### bincount -/
@[simp] theorem size_cons (x : Nat) (c : List Nat) : size (x :: c) = max (x + 1) (size c) := rfl

theorem size_append (a b : List Nat) : size (a ++ b) = max (size a) (size b) := by
  induction a with
  | nil => simp only [size, List.nil_append, List.foldr_nil, Nat.zero_le, Nat.max_eq_right]
  | cons x xs ih => simp only [List.cons_append, size_cons, ih, Nat.max_assoc]

theorem size_spec (c : List Nat) : (∀ x ∈ c, x < size c) ∧ (c ≠ [] → ∃ x ∈ c, x + 1 = size c) := by
  induction c with
  | nil => simp
  | cons a t ih =>
    rw [size_cons]
    refine ⟨fun x hx => ?_, fun _ => ?_⟩
    · rcases List.mem_cons.mp hx with rfl | hx
      · exact Nat.lt_of_lt_of_le (Nat.lt_succ_self x) (Nat.le_max_left ..)
      · exact Nat.lt_of_lt_of_le (ih.1 x hx) (Nat.le_max_right ..)
    · rcases Nat.le_total (size t) (a + 1) with h | h
      · exact ⟨a, List.mem_cons_self, (Nat.max_eq_left h).symm⟩
      · obtain ⟨x, hx, hs⟩ := ih.2 (by rintro rfl; exact absurd h (Nat.not_succ_le_zero a))
        exact ⟨x, List.mem_cons_of_mem _ hx, hs.trans (Nat.max_eq_right h).symm⟩

theorem bincount_getElem? (ml : Nat) (c : List Nat) (v : Nat) :
    (bincount ml c)[v]? = if v < max (size c) ml then some (c.count v) else none := by
  by_cases h : v < max (size c) ml <;> simp [bincount, h]

theorem bincount_length (ml : Nat) (c : List Nat) : (bincount ml c).length = max (size c) ml := by
  simp [bincount]

theorem bincount_getD (ml : Nat) (c : List Nat) (i : Nat) : (bincount ml c).getD i 0 = c.count i := by
  rw [List.getD_eq_getElem?_getD, bincount_getElem?]
  split
  · rfl
  · next h =>
    exact (List.count_eq_zero.mpr fun hm => h (Nat.lt_of_lt_of_le ((size_spec c).1 i hm) (Nat.le_max_left ..))).symm

theorem addPrefix_nil (long : List Nat) : addPrefix long [] = long := rfl

theorem addPrefix_cons (x y : Nat) (l s : List Nat) : addPrefix (x :: l) (y :: s) = (x + y) :: addPrefix l s := rfl

theorem addPrefix_spec (long short : List Nat) (h : short.length ≤ long.length) :
    (addPrefix long short).length = long.length ∧
      ∀ i, (addPrefix long short).getD i 0 = long.getD i 0 + short.getD i 0 := by
  induction short generalizing long with
  | nil => rw [addPrefix_nil]; exact ⟨rfl, fun _ => rfl⟩
  | cons y s ih =>
    cases long with
    | nil => exact absurd h (Nat.not_succ_le_zero _)
    | cons x l =>
      obtain ⟨h1, h2⟩ := ih l (Nat.le_of_succ_le_succ h)
      rw [addPrefix_cons]
      exact ⟨congrArg (· + 1) h1, fun i => by
        cases i with
        | zero => rfl
        | succ i => exact h2 i⟩

theorem bincountReduce_spec (a b : List Nat) :
    (bincountReduce a b).length = max a.length b.length ∧
      ∀ i, (bincountReduce a b).getD i 0 = a.getD i 0 + b.getD i 0 := by
  unfold bincountReduce
  split
  next h =>
    obtain ⟨h1, h2⟩ := addPrefix_spec a b h
    exact ⟨h1.trans (Nat.max_eq_left h).symm, h2⟩
  next h =>
    have h := Nat.le_of_lt (Nat.not_le.mp h)
    obtain ⟨h1, h2⟩ := addPrefix_spec b a h
    exact ⟨h1.trans (Nat.max_eq_right h).symm, fun i => (h2 i).trans (Nat.add_comm ..)⟩

theorem bincountReduce_bincount (ml : Nat) (a b : List Nat) :
    bincountReduce (bincount ml a) (bincount ml b) = bincount ml (a ++ b) := by
  obtain ⟨h1, h2⟩ := bincountReduce_spec (bincount ml a) (bincount ml b)
  apply List.ext_getElem
  · -- `max (max a ml) (max b ml) = max (max a b) ml`
    rw [h1, bincount_length, bincount_length, bincount_length, size_append, Nat.max_assoc, Nat.max_left_comm ml,
      Nat.max_self, Nat.max_assoc]
  · intro i hi1 hi2
    have := h2 i
    rw [bincount_getD, bincount_getD, ← List.count_append, ← bincount_getD ml (a ++ b)] at this
    simpa [List.getD_eq_getElem?_getD, hi1, hi2] using this

theorem bincount_chunks (ml : Nat) (cs : List (List Nat)) (h : cs ≠ []) :
    bincountStream ml cs = some (bincount ml cs.flatten) := by
  obtain ⟨c, t, rfl⟩ := List.exists_cons_of_ne_nil h
  exact congrArg some (foldl_chunks (bincount ml) (bincount ml) bincountReduce (bincountReduce_bincount ml) c t)

example : bincountStream 0 [[1, 2], [5], [0]] = some [1, 1, 1, 0, 0, 1] := by decide +kernel

theorem bincount_chunking_independent (ml : Nat) (cs cs' : List (List Nat)) (h : cs.flatten = cs'.flatten)
    (h1 : cs ≠ []) (h2 : cs' ≠ []) : bincountStream ml cs = bincountStream ml cs' := by
  rw [bincount_chunks ml cs h1, bincount_chunks ml cs' h2, h]

/-- `reduce` of an empty sequence -/
theorem bincountStream_none_iff (ml : Nat) (cs : List (List Nat)) : bincountStream ml cs = none ↔ cs = [] := by
  cases cs with
  | nil => simp [bincountStream, reduce1]
  | cons c t => simp [bincount_chunks ml (c :: t)]

/-! ### histogram -/
theorem histogram_getElem? (e : List Int) (c : List Int) (i : Nat) (h : i + 1 < e.length) :
    (histogram e c)[i]? = some (c.countP (inBin e i)) := by
  simp only [histogram, List.getElem?_map, List.getElem?_range (Nat.lt_sub_of_add_lt h), Option.map_some]

theorem histogram_add (e : List Int) (a b : List Int) :
    List.zipWith (· + ·) (histogram e a) (histogram e b) = histogram e (a ++ b) := by
  simp [histogram, List.countP_append]

theorem histogram_comm (e : List Int) (a b : List Int) : histogram e (a ++ b) = histogram e (b ++ a) := by
  simp [histogram, List.countP_append, Nat.add_comm]

@[simp] theorem pyAdd_zero (v : List Nat) : pyAdd .zero v = .arr v := rfl
@[simp] theorem pyAdd_arr (a v : List Nat) : pyAdd (.arr a) v = .arr (List.zipWith (· + ·) a v) := rfl

/-- `histogram_reduce` adds the first chunk's counts last: `sum(rest) + first` -/
theorem histogramReduce_chunks (edges : List Int) (cs : List (List Int)) (h : cs ≠ []) :
    histogramReduce (cs.map (fun c => (histogram edges c, edges))) = some (histogram edges cs.flatten, edges) := by
  obtain ⟨c, rest, rfl⟩ := List.exists_cons_of_ne_nil h
  cases rest with
  | nil => simp [histogramReduce]
  | cons d ds =>
    have := foldl_chunks (fun c => (histogram edges c, edges)) (fun a => PySum.arr (histogram edges a))
      (fun acc p => pyAdd acc p.1) (fun a b => congrArg PySum.arr (histogram_add edges a b)) d ds
    simp only [List.map_cons, histogramReduce, List.foldl_cons, pyAdd_zero, this, histogram_add, List.flatten_cons]
    rw [histogram_comm]

/-- **histogram** with explicit edges, on at least one chunk: the same counts and edges as in memory when the edges never
decrease, the same `ValueError` when they do -/
theorem histogram_chunks (edges : List Int) (cs : List (List Int)) (h : cs ≠ []) :
    histogramStream edges cs = histogramMem edges cs.flatten := by
  unfold histogramStream histogramMem
  rw [if_neg h, histogramReduce_chunks edges cs h]

theorem histogram_chunking_independent (e : List Int) (cs cs' : List (List Int)) (h : cs.flatten = cs'.flatten)
    (h1 : cs ≠ []) (h2 : cs' ≠ []) : histogramStream e cs = histogramStream e cs' := by
  rw [histogram_chunks e cs h1, histogram_chunks e cs' h2, h]

/-- `StopIteration` at `next(...)`, whatever the edges -/
theorem histogramStream_stop_iff (e : List Int) (cs : List (List Int)) : histogramStream e cs = .error .stop ↔ cs = [] := by
  cases cs with
  | nil => simp [histogramStream]
  | cons c t =>
    rw [histogram_chunks e (c :: t) (by simp)]
    unfold histogramMem
    cases edgesMono e <;> simp

theorem edgesMono_iff (e : List Int) : edgesMono e = true ↔ ∀ i (h : i + 1 < e.length), e[i]'(by omega) ≤ e[i + 1] := by
  induction e with
  | nil => exact ⟨fun _ i h => absurd h (Nat.not_lt_zero _), fun _ => rfl⟩
  | cons a t ih =>
    cases t with
    | nil => exact ⟨fun _ i h => absurd (Nat.lt_of_succ_lt_succ h) (Nat.not_lt_zero _), fun _ => rfl⟩
    | cons b t2 =>
      rw [show edgesMono (a :: b :: t2) = (decide (a ≤ b) && edgesMono (b :: t2)) from rfl, Bool.and_eq_true, ih]
      constructor
      · rintro ⟨hab, hrest⟩ i hi
        cases i with
        | zero => exact of_decide_eq_true hab
        | succ j => exact hrest j (Nat.lt_of_succ_lt_succ hi)
      · exact fun hall => ⟨decide_eq_true (hall 0 (Nat.succ_lt_succ (Nat.succ_pos _))),
          fun i hi => hall (i + 1) (Nat.succ_lt_succ hi)⟩

/-- any number of edges is accepted: fewer than two give no bins -/
theorem histogramMem_error_iff (e : List Int) (c : List Int) :
    histogramMem e c = .error .badEdges ↔ ∃ i, ∃ h : i + 1 < e.length, e[i + 1] < e[i]'(by omega) := by
  have : histogramMem e c = .error .badEdges ↔ ¬ edgesMono e = true := by
    unfold histogramMem; split <;> simp [*]
  rw [this, edgesMono_iff]
  simp only [Classical.not_forall, Int.not_le]

/-! ### k-mer counts -/
theorem kmerCounts_add (A k : Nat) (a b : List (List Nat)) :
    List.zipWith (· + ·) (kmerCounts A k a) (kmerCounts A k b) = kmerCounts A k (a ++ b) := by
  simp [kmerCounts, kmerHashes, List.count_append]

theorem count_kmers_chunks (A k : Nat) (cs : List (List (List Nat))) (h : cs ≠ []) :
    countKmersStream A k cs = PySum.arr (kmerCounts A k cs.flatten) := by
  obtain ⟨c, rest, rfl⟩ := List.exists_cons_of_ne_nil h
  exact foldl_chunks (kmerCounts A k) (fun a => PySum.arr (kmerCounts A k a)) pyAdd
    (fun a b => congrArg PySum.arr (kmerCounts_add A k a b)) c rest

theorem windows_length (k : Nat) (hk : 0 < k) (r : List Nat) : (windows k r).length = r.length + 1 - k := by
  induction r with
  | nil => exact (Nat.sub_eq_zero_of_le hk).symm
  | cons x xs ih =>
    rw [windows]
    split
    · next h => rw [List.length_cons, ih]; exact (Nat.sub_add_comm h).symm
    · next h => exact (Nat.sub_eq_zero_of_le (Nat.lt_of_not_le h)).symm

theorem windows_getElem? (k : Nat) (hk : 0 < k) (r : List Nat) (i : Nat) :
    (windows k r)[i]? = if i + k ≤ r.length then some ((r.drop i).take k) else none := by
  induction r generalizing i with
  | nil => exact (if_neg (Nat.not_le.mpr (Nat.lt_of_lt_of_le hk (Nat.le_add_left k i)))).symm
  | cons x xs ih =>
    rw [windows, List.length_cons]
    split
    · next h =>
      cases i with
      | zero => rw [Nat.zero_add, if_pos h]; rfl
      | succ i =>
        rw [List.getElem?_cons_succ, ih, List.drop_succ_cons, Nat.add_right_comm]
        simp only [Nat.add_le_add_iff_right]
    · next h => rw [List.getElem?_nil, if_neg fun h' => h (Nat.le_trans (Nat.le_add_left k i) h')]

/-! ### mean over axis 0, row-wise maps -/

theorem colSums_getElem (w : Nat) (rows : List (List Int)) (j : Nat) (hj : j < w) :
    (colSums w rows)[j]? = some ((rows.map (fun r => r.getD j 0)).sum) := by
  simp only [colSums, List.getElem?_map, List.getElem?_range hj, Option.map_some]

theorem sumAndNCols_append (w : Nat) (a b : List (List Int)) :
    List.zipWith (· + ·) (sumAndNCols w a) (sumAndNCols w b) = sumAndNCols w (a ++ b) := by
  unfold sumAndNCols
  rw [List.zipWith_append (by simp only [colSums, List.length_map])]
  simp only [colSums, zipWith_map_map, List.map_append, List.sum_append, List.zipWith_cons_cons,
    List.zipWith_nil_left, List.length_append, Int.natCast_add]

@[simp] theorem pyAddI_zero (v : List Int) : pyAddI .zero v = .arr v := rfl
@[simp] theorem pyAddI_arr (a v : List Int) : pyAddI (.arr a) v = .arr (List.zipWith (· + ·) a v) := rfl

/-- **mean over axis 0** of 2-d chunks (empty chunks included). Partial: exact integer arithmetic, the final division
`t[:-1] / t[-1]` and float re-association are run-time behaviour. -/
theorem mean_axis0_chunks_partial (w : Nat) (cs : List (List (List Int))) (h : cs ≠ []) :
    meanColsStream w cs = PySumI.arr (sumAndNCols w cs.flatten) := by
  obtain ⟨c, rest, rfl⟩ := List.exists_cons_of_ne_nil h
  exact foldl_chunks (sumAndNCols w) (fun a => PySumI.arr (sumAndNCols w a)) pyAddI
    (fun a b => congrArg PySumI.arr (sumAndNCols_append w a b)) c rest

/-- **`streamable()` without a reduction** (e.g. `mean(axis=1)`): a row-wise function applied chunk by chunk -/
theorem map_chunks {α β} (g : α → β) (cs : List (List α)) :
    (mapStream (List.map g) cs).flatten = cs.flatten.map g := by
  simp [mapStream, List.map_flatten]

/-! ### quantiles -/

/-- **quantiles** come from the streamed bincount. Partial: `q * total` is a float product at run time. -/
theorem quantile_chunks_partial (cs : List (List Nat)) (p d : Nat) (h : cs ≠ []) :
    quantileStream cs p d = quantileMem cs.flatten p d := by
  simp [quantileStream, quantileMem, bincount_chunks 0 cs h]

theorem bincount_zero_eq_nil (c : List Nat) : bincount 0 c = [] ↔ c = [] := by
  cases c with
  | nil => exact ⟨fun _ => rfl, fun _ => rfl⟩
  | cons a t => exact ⟨fun h => by simpa [bincount_length] using congrArg List.length h, fun h => nomatch h⟩

/-- `TypeError`: `reduce` of nothing -/
theorem quantileStream_emptyStream_iff (cs : List (List Nat)) (p d : Nat) :
    quantileStream cs p d = .error .emptyStream ↔ cs = [] := by
  cases cs with
  | nil => simp [quantileStream, bincountStream, reduce1]
  | cons c t =>
    rw [quantile_chunks_partial (c :: t) p d (by simp)]
    unfold quantileMem quantileHist
    split <;> simp

/-- `IndexError` (`cumulative[-1]`); by `quantile_chunks_partial` also the streamed call on chunks without data -/
theorem quantileMem_noData_iff (c : List Nat) (p d : Nat) : quantileMem c p d = .error .noData ↔ c = [] := by
  unfold quantileMem quantileHist
  rw [← bincount_zero_eq_nil c]
  split <;> simp_all

theorem cumsumFrom_length (acc : Nat) (l : List Nat) : (cumsumFrom acc l).length = l.length := by
  induction l generalizing acc with
  | nil => rfl
  | cons x xs ih => simp [cumsumFrom, ih]

theorem cumsumFrom_getElem (acc : Nat) (l : List Nat) (i : Nat) (h : i < l.length) :
    (cumsumFrom acc l)[i]? = some (acc + (l.take (i + 1)).sum) := by
  induction l generalizing acc i with
  | nil => simp at h
  | cons x xs ih =>
    cases i with
    | zero => simp [cumsumFrom]
    | succ i =>
      rw [cumsumFrom, List.getElem?_cons_succ, ih (acc + x) i (Nat.lt_of_succ_lt_succ h), List.take_succ_cons,
        List.sum_cons, Nat.add_assoc]

end C11
