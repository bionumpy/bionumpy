import BnpVerif.Model.C13
import BnpVerif.Base.Lists
import BnpVerif.Lemmas.C13Packed
/-! C13: every sliding-window function of the package is one mechanism (flatten, convolve, re-wrap by the row
lengths, trim), proved row-local once (`rewrapSlice_windows`) and instantiated. (`Lemmas/C13Packed.lean`: `hashLE`
cut at a position and the packed path.) -/
namespace C13
variable {α β : Type}

theorem windows_length (w : Nat) (f : List α → β) (xs : List α) : (windows w f xs).length = xs.length + 1 - w := by
  simp only [windows, List.length_map, List.length_range]

theorem window_fits_iff (i w n : Nat) : i < n + 1 - w ↔ i + w ≤ n :=
  ⟨fun h => Nat.le_of_lt_succ (Nat.add_lt_of_lt_sub h), fun h => Nat.lt_sub_of_add_lt (Nat.lt_succ_of_le h)⟩

theorem window_count_le (n w : Nat) (hw : 1 ≤ w) : n + 1 - w ≤ n :=
  Nat.sub_le_of_le_add (Nat.add_le_add_left hw n)

theorem window_count_append (w : Nat) (r rest : List α) : r.length + 1 - w ≤ (r ++ rest).length + 1 - w :=
  Nat.sub_le_sub_right (Nat.add_le_add_right (List.length_append ▸ Nat.le_add_right ..) 1) w

theorem windows_getElem (w : Nat) (f : List α → β) (xs : List α) (i : Nat) (h : i < (windows w f xs).length) :
    (windows w f xs)[i] = f ((xs.drop i).take w) := by
  simp only [windows, List.getElem_map, List.getElem_range]

theorem windows_getElem? (w : Nat) (f : List α → β) (xs : List α) (i : Nat) (hi : i + w ≤ xs.length) :
    (windows w f xs)[i]? = some (f ((xs.drop i).take w)) := by
  rw [windows, List.getElem?_map, List.getElem?_range ((window_fits_iff ..).mpr hi)]
  rfl

theorem windows_eq_nil_iff (w : Nat) (hw : 1 ≤ w) (f : List α → β) (xs : List α) :
    windows w f xs = [] ↔ xs.length < w := by
  rw [← List.length_eq_zero_iff, windows_length, Nat.sub_eq_zero_iff_le]
  exact Iff.rfl

theorem windows_one (f : List α → β) (xs : List α) : windows 1 f xs = xs.map (fun x => f [x]) := by
  apply List.ext_getElem
  · rw [windows_length, List.length_map]
    rfl
  · intro i _ h
    rw [List.length_map] at h
    rw [windows_getElem, List.getElem_map, List.take_one, List.head?_drop, List.getElem?_eq_getElem h]
    rfl

theorem windows_map {γ : Type} (w : Nat) (f : List α → β) (g : β → γ) (xs : List α) :
    (windows w f xs).map g = windows w (fun win => g (f win)) xs := by
  rw [windows, List.map_map]; rfl

theorem windows_congr (w : Nat) (f g : List α → β) (xs : List α)
    (h : ∀ win : List α, (∀ x ∈ win, x ∈ xs) → win.length = w → f win = g win) :
    windows w f xs = windows w g xs := by
  apply List.map_congr_left
  intro i hi
  rw [List.mem_range] at hi
  exact h _ (fun x hx => List.mem_of_mem_drop (List.mem_of_mem_take hx))
    (by rw [List.length_take, List.length_drop]
        exact Nat.min_eq_left (Nat.le_sub_of_add_le' ((window_fits_iff ..).mp hi)))

theorem windows_append_take (w : Nat) (f : List α → β) (r rest : List α) :
    (windows w f (r ++ rest)).take (r.length + 1 - w) = windows w f r := by
  apply List.ext_getElem
  · rw [List.length_take, windows_length, windows_length]
    exact Nat.min_eq_left (window_count_append w r rest)
  · intro i _ h
    rw [windows_length] at h
    have hi := (window_fits_iff ..).mp h
    rw [List.getElem_take, windows_getElem, windows_getElem, Base.take_drop_append r rest i w hi]

theorem windows_append_drop (w : Nat) (f : List α → β) (r rest : List α) :
    (windows w f (r ++ rest)).drop r.length = windows w f rest := by
  apply List.ext_getElem
  · rw [List.length_drop, windows_length, windows_length, List.length_append, Nat.sub_right_comm, Nat.add_assoc,
      Nat.add_sub_cancel_left]
  · intro i _ _
    rw [List.getElem_drop, windows_getElem, windows_getElem, ← List.drop_drop, List.drop_left]

/-- the core induction. `he`: the slice end keeps `l + 1 - w` entries of a row of declared length `l`. Then re-wrapping the
flat windows, with whatever trails them (`extra`), hands every row exactly its own windows. -/
theorem rewrapSlice_windows (w : Nat) (e : Option Int) (he : ∀ l, endLen l e = l + 1 - w)
    (f : List α → β) (rows : List (List α)) (extra : List β) :
    rewrapSlice e (rows.map List.length) (windows w f rows.flatten ++ extra) = rows.map (windows w f) := by
  induction rows generalizing extra with
  | nil => rfl
  | cons r rs ih =>
    rw [List.map_cons, List.flatten_cons, rewrapSlice, he, List.drop_append, windows_append_drop, ih,
      List.take_append_of_le_length, windows_append_take, List.map_cons]
    rw [windows_length]
    exact window_count_append w r _

theorem endLen_some_neg (l w : Nat) (hw : 2 ≤ w) : endLen l (some (-(w : Int) + 1)) = l + 1 - w := by
  obtain ⟨v, rfl⟩ := Nat.exists_eq_add_of_le' hw
  -- `-(v + 2) + 1` computes to `Int.negSucc v`, whose `natAbs` is `v + 1`
  show endLen l (some (Int.negSucc v)) = _
  rw [endLen, if_pos (Int.negSucc_lt_zero v)]
  exact (Nat.add_sub_add_right l 1 (v + 1)).symm

theorem endLen_trimNew (w : Nat) (hw : 1 ≤ w) (l : Nat) : endLen l (trimNew w) = l + 1 - w := by
  rcases Nat.eq_or_lt_of_le hw with rfl | h
  · rfl
  · rw [trimNew, if_neg (by omega)]
    exact endLen_some_neg l w h

/-- every ragged `rows`, every `w ≥ 1`, every `f`, whatever trails the valid flat windows: flatten → convolve →
re-wrap → trim returns for each row exactly the values defined on that row alone (no window spans two rows) -/
theorem rolling_rowlocal_extra (w : Nat) (hw : 1 ≤ w) (f : List α → β) (extra : List β) (rows : List (List α)) :
    rollingWith trimNew w f extra rows = spec w f rows :=
  rewrapSlice_windows w _ (endLen_trimNew w hw) f rows extra

/-- `rolling_window` itself (`sliding_window_view`: nothing trails) -/
theorem rolling_rowlocal (w : Nat) (hw : 1 ≤ w) (f : List α → β) (rows : List (List α)) :
    rolling w f rows = spec w f rows := rolling_rowlocal_extra w hw f [] rows

/-- the shipped slice `[..., :(-w+1)]` is row-local only for `w ≥ 2` -/
theorem rollingOld_rowlocal_partial (w : Nat) (hw : 2 ≤ w) (f : List α → β) (rows : List (List α)) :
    rollingOld w f rows = spec w f rows :=
  rewrapSlice_windows w _ (endLen_some_neg · w hw) f rows []

/-- for `w = 1` the shipped slice is `[..., :0]`: EVERY row empty, whatever the input -/
theorem rollingOld_w1_empty (f : List α → β) (rows : List (List α)) :
    rollingOld 1 f rows = rows.map (fun _ => []) := by
  unfold rollingOld rollingWith
  generalize windows 1 f rows.flatten ++ [] = c
  induction rows generalizing c with
  | nil => rfl
  | cons r rs ih =>
    rw [List.map_cons, rewrapSlice, ih, show endLen r.length (trimOld 1) = 0 from Nat.min_zero _]
    rfl

theorem rollingOld_w1_unsound :
    rollingOld 1 (fun (w : List Nat) => w) [[7], [8, 9]] = [[], []] ∧
    spec 1 (fun (w : List Nat) => w) [[7], [8, 9]] = [[[7]], [[8], [9]]] :=
  ⟨rollingOld_w1_empty _ _, rfl⟩

theorem rolling_lengths (w : Nat) (hw : 1 ≤ w) (f : List α → β) (rows : List (List α)) :
    (rolling w f rows).map List.length = rows.map (fun r => r.length + 1 - w) := by
  simp only [rolling_rowlocal w hw, spec, List.map_map, Function.comp_def, windows_length]

theorem rolling_mem_row (w : Nat) (hw : 1 ≤ w) (f : List α → β) (rows : List (List α)) (i j : Nat)
    (hi : i < rows.length) (hj : j + w ≤ rows[i].length) :
    ((rolling w f rows)[i]?.bind (·[j]?)) = some (f ((rows[i].drop j).take w)) := by
  rw [rolling_rowlocal w hw, spec, List.getElem?_map, List.getElem?_eq_getElem hi]
  exact windows_getElem? w f _ j hj

/-- no value depends on a neighbouring row or chunk -/
theorem rolling_chunks (w : Nat) (hw : 1 ≤ w) (f : List α → β) (rows1 rows2 : List (List α)) :
    rolling w f (rows1 ++ rows2) = rolling w f rows1 ++ rolling w f rows2 := by
  simp only [rolling_rowlocal w hw, spec, List.map_append]

theorem rolling_order (w : Nat) (hw : 1 ≤ w) (f : List α → β) (rows : List (List α)) :
    rolling w f rows.reverse = (rolling w f rows).reverse := by
  simp only [rolling_rowlocal w hw, spec, List.map_reverse]

theorem endLen_le (l : Nat) (e : Option Int) : endLen l e ≤ l := by
  cases e with
  | none => exact Nat.le_refl l
  | some e =>
    rw [endLen]
    split
    · exact Nat.sub_le ..
    · exact Nat.min_le_left ..

theorem zeroFrom_eq (zero : β) (s : Option Int) (row : List β) :
    zeroFrom zero s row = row.take (endLen row.length s) ++ List.replicate (row.length - endLen row.length s) zero := by
  cases s with
  | none => simp [zeroFrom, endLen]
  -- the model's `startIdx` (`row[s:]`) and `endLen · (some ·)` (`row[:e]`) are the same expression
  | some s => rfl

/-- `mode="same"` is `mode="valid"` padded with zeros, when the flat result fills every row -/
theorem rewrapFull_zeroFrom (zero : β) (s : Option Int) (ls : List Nat) (c : List β) (h : ls.sum ≤ c.length) :
    (rewrapFull ls c).map (zeroFrom zero s) =
      List.zipWith (fun l row => row ++ List.replicate (l - endLen l s) zero) ls (rewrapSlice s ls c) := by
  induction ls generalizing c with
  | nil => rfl
  | cons l ls ih =>
    rw [List.sum_cons] at h
    have hl : (c.take l).length = l := by rw [List.length_take]; exact Nat.min_eq_left (Nat.le_of_add_right_le h)
    rw [rewrapFull, rewrapSlice, List.map_cons, List.zipWith_cons_cons,
      ih _ (by rw [List.length_drop]; exact Nat.le_sub_of_add_le' h),
      zeroFrom_eq, hl, List.take_take, Nat.min_eq_left (endLen_le l s)]

/-- the two repaired rules differ at `w = 0` only -/
theorem sameStartNew_eq_trimNew (w : Nat) (hw : 1 ≤ w) : sameStartNew w = trimNew w := by
  rcases Nat.eq_or_lt_of_le hw with rfl | h
  · rfl
  · rw [sameStartNew, trimNew, if_neg (by omega), if_neg (by omega)]

/-- `rolling_window(..., mode="same")`: WHATEVER the function returns on the `w-1` trailing windows that run past the
buffer (`htail`: one value per flat position), every row gets the values of its own windows, then zeros -/
theorem rolling_same (w : Nat) (hw : 1 ≤ w) (f : List α → β) (zero : β) (tail : List β) (rows : List (List α))
    (htail : (windows w f rows.flatten ++ tail).length = rows.flatten.length) :
    rollingSame w f zero tail rows = specSame w f zero rows := by
  unfold rollingSame rollingSameWith
  rw [sameStartNew_eq_trimNew w hw, rewrapFull_zeroFrom _ _ _ _ (Nat.le_of_eq (by rw [htail, List.length_flatten])),
    rewrapSlice_windows w _ (endLen_trimNew w hw), List.zipWith_map, List.zipWith_self]
  simp only [endLen_trimNew w hw]
  rfl

/-- the shipped `out[..., (-w+1):] = 0` zeroes EVERYTHING for `w = 1` -/
theorem rollingSameOld_w1_unsound :
    rollingSameOld 1 (fun (win : List Nat) => win == [2]) false [] [[1, 1, 2, 1], [2, 2]] =
      [[false, false, false, false], [false, false]] ∧
    specSame 1 (fun (win : List Nat) => win == [2]) false [[1, 1, 2, 1], [2, 2]] =
      [[false, false, true, false], [true, true]] := by decide +kernel

theorem any_congr_mem {γ : Type} (l : List γ) (p q : γ → Bool) (h : ∀ a ∈ l, p a = q a) : l.any p = l.any q := by
  induction l with
  | nil => rfl
  | cons x xs ih => rw [List.any_cons, List.any_cons, h x List.mem_cons_self, ih fun a ha => h a (List.mem_cons_of_mem x ha)]

/-- `maskedMatch` and `matchFixed` have this shape: equal lengths and a position-wise test -/
theorem lenAll_cons {γ : Type} (p : γ → Nat → Bool) (x : γ) (xs : List γ) (c : Nat) (ws : List Nat) :
    ((c :: ws).length == (x :: xs).length && (List.zipWith p (x :: xs) (c :: ws)).all id) =
      (p x c && (ws.length == xs.length && (List.zipWith p xs ws).all id)) := by
  -- `Nat.reduceBeqDiff` cancels the `+ 1` in the length test
  simp only [List.zipWith_cons_cons, List.all_cons, Bool.and_left_comm, List.length_cons, Nat.reduceBeqDiff, id]

theorem maskedMatch_cons (a : Option Nat) (alt : List (Option Nat)) (c : Nat) (ws : List Nat) :
    maskedMatch (a :: alt) (c :: ws) = ((a.isNone || a == some c) && maskedMatch alt ws) :=
  lenAll_cons _ a alt c ws

theorem matchFixed_cons (e : Elem) (pat : List Elem) (c : Nat) (ws : List Nat) :
    matchFixed (e :: pat) (c :: ws) = (e.ok c && matchFixed pat ws) :=
  lenAll_cons _ e pat c ws

theorem expandClasses_length (pat : List Elem) : ∀ alt ∈ expandClasses pat, alt.length = pat.length := by
  induction pat with
  | nil => simp [expandClasses]
  | cons e rest ih =>
    intro alt halt
    cases e with
    | any =>
      obtain ⟨a, ha, rfl⟩ := List.mem_map.mp halt
      rw [List.length_cons, ih a ha, List.length_cons]
    | oneOf cs =>
      obtain ⟨c, _, hc⟩ := List.mem_flatMap.mp halt
      obtain ⟨a, ha, rfl⟩ := List.mem_map.mp hc
      rw [List.length_cons, ih a ha, List.length_cons]

/-- the code's expansion of character classes into masked exact matchers,
and the union it takes, accept exactly the windows that match the pattern position by position -/
theorem expandClasses_sound (pat : List Elem) (win : List Nat) : fixedMatch pat win = matchFixed pat win := by
  unfold fixedMatch
  induction pat generalizing win with
  | nil => cases win <;> rfl
  | cons e rest ih =>
    cases win with
    | nil =>
      refine List.any_eq_false.mpr fun alt halt => ?_
      cases alt with
      | nil => cases expandClasses_length _ _ halt
      | cons a alt => exact Bool.false_ne_true
    | cons c ws =>
      rw [matchFixed_cons, ← ih]
      cases e with
      | any => simp only [expandClasses, List.any_map, Function.comp_def, maskedMatch_cons, Elem.ok]; rfl
      | oneOf cs =>
        simp only [expandClasses, List.any_flatMap, List.any_map, Function.comp_def, maskedMatch_cons, Elem.ok,
          Option.isNone_some, Bool.false_or, Option.some_beq_some, ← List.and_any_distrib_left]
        -- the common factor comes out of the `any` over `cs`
        rw [← List.any_beq', List.and_any_distrib_right]

/-- `FixedLenRegexMatcher(...).rolling_window(seqs)` -/
theorem fixedRegex_rowlocal (pat : List Elem) (hp : 1 ≤ pat.length) (rows : List (List Nat)) :
    fixedRegex pat rows = spec pat.length (matchFixed pat) rows := by
  rw [fixedRegex, rolling_rowlocal pat.length hp, funext (expandClasses_sound pat)]

theorem specSame_pointwise (w : Nat) (hw : 1 ≤ w) (f : List Nat → Bool) (rows : List (List Nat)) :
    specSame w f false rows =
      rows.map (fun r => (List.range r.length).map (fun i => decide (i + w ≤ r.length) && f ((r.drop i).take w))) := by
  apply List.map_congr_left
  intro r _
  apply List.ext_getElem
  · rw [List.length_append, windows_length, List.length_replicate, List.length_map, List.length_range]
    exact Nat.add_sub_cancel' (window_count_le _ w hw)
  · intro i _ _
    rw [List.getElem_map, List.getElem_range, List.getElem_append]
    simp only [windows_length, window_fits_iff]
    split
    · next h => rw [windows_getElem, decide_eq_true h, Bool.true_and]
    · next h => rw [List.getElem_replicate, decide_eq_false h, Bool.false_and]

/-- `F a`: the table alternative `a` contributes as the code computes it; `G a`: its reading per row and position;
`H`: what is accumulated so far -/
theorem foldl_orRows {γ : Type} (rows : List (List Nat)) (alts : List γ) (G : γ → List Nat → Nat → Bool)
    (F : γ → List (List Bool)) (hF : ∀ a ∈ alts, F a = rows.map (fun r => (List.range r.length).map (G a r)))
    (H : List Nat → Nat → Bool) :
    alts.foldl (fun out a => orRows out (F a)) (rows.map (fun r => (List.range r.length).map (H r))) =
      rows.map (fun r => (List.range r.length).map (fun i => H r i || alts.any (fun a => G a r i))) := by
  unfold orRows
  induction alts generalizing H with
  | nil => simp only [List.foldl_nil, List.any_nil, Bool.or_false]
  | cons a as ih =>
    rw [List.foldl_cons, hF a List.mem_cons_self]
    simp only [List.zipWith_map, List.zipWith_self]
    rw [ih fun b hb => hF b (List.mem_cons_of_mem a hb)]
    simp only [List.any_cons, Bool.or_assoc]

/-- `RegexMatcher(...).rolling_window(seqs)`: position `i` of a row is marked iff some expansion of the pattern (gaps
unrolled) FITS IN THE ROW at `i` and matches there; no match continues into the next row -/
theorem regex_rowlocal (items : List Item) (hlen : ∀ p ∈ expandGaps items, 1 ≤ p.length) (rows : List (List Nat)) :
    regexMatch items rows = specRegex items rows := by
  unfold regexMatch regexWith specRegex
  rw [show rows.map (fun r => List.replicate r.length false) =
      rows.map (fun r => (List.range r.length).map (fun _ => false)) by simp only [List.map_const', List.length_range],
    foldl_orRows rows _ (fun alt r i => decide (i + alt.length ≤ r.length) && maskedMatch alt ((r.drop i).take alt.length))
      _ ?_ (fun _ _ => false)]
  · apply List.map_congr_left
    intro r _
    apply List.map_congr_left
    intro i _
    rw [Bool.false_or, List.any_flatMap]
    refine List.any_congr rfl fun p => ?_
    -- all alternatives of one expansion have its length
    rw [← expandClasses_sound, fixedMatch, List.and_any_distrib_left]
    apply any_congr_mem
    intro alt halt
    rw [expandClasses_length p alt halt]
  · intro alt halt
    obtain ⟨p, hp, hap⟩ := List.mem_flatMap.mp halt
    have hw : 1 ≤ alt.length := by rw [expandClasses_length p alt hap]; exact hlen p hp
    rw [← specSame_pointwise alt.length hw]
    exact rolling_same alt.length hw (maskedMatch alt) false _ rows
      (by rw [List.length_append, windows_length, List.length_replicate, Nat.add_sub_cancel' (window_count_le _ _ hw)])

theorem expandGaps_length_pos (items : List Item) (h : ∃ e, Item.elem e ∈ items) :
    ∀ p ∈ expandGaps items, 1 ≤ p.length := by
  induction items with
  | nil => obtain ⟨e, he⟩ := h; cases he
  | cons it rest ih =>
    intro p hp
    cases it with
    | elem e =>
      obtain ⟨q, _, rfl⟩ := List.mem_map.mp hp
      exact Nat.le_add_left 1 _
    | gap a b =>
      obtain ⟨d, _, hd⟩ := List.mem_flatMap.mp hp
      obtain ⟨q, hq, rfl⟩ := List.mem_map.mp hd
      obtain ⟨e, he⟩ := h
      rw [List.length_append]
      exact Nat.le_trans (ih ⟨e, (List.mem_cons.mp he).resolve_left Item.noConfusion⟩ q hq) (Nat.le_add_left ..)

/-- the hypothesis read off the pattern: at least one position that is not a gap -/
theorem regex_rowlocal_of_elem (items : List Item) (h : ∃ e, Item.elem e ∈ items) (rows : List (List Nat)) :
    regexMatch items rows = specRegex items rows :=
  regex_rowlocal items (expandGaps_length_pos items h) rows

/-- the shipped `RegexMatcher` let a match run into the NEXT row: `CG` "found" at the end of `AC` because the
following row starts with `G` -/
theorem regexOld_leaks :
    regexMatchOld [.elem (.oneOf [1]), .elem (.oneOf [2])] [[0, 1], [2, 3]] = [[false, true], [false, false]] ∧
    specRegex [.elem (.oneOf [1]), .elem (.oneOf [2])] [[0, 1], [2, 3]] = [[false, false], [false, false]] := by
  decide +kernel

theorem powers_succ (n k : Nat) : powers n (k + 1) = 1 :: (powers n k).map (n * ·) := by
  unfold powers
  rw [List.range_succ_eq_map]
  simp [List.map_map, Function.comp_def, Nat.pow_succ, Nat.mul_comm]

theorem dot_map_mul (n : Nat) (xs ps : List Nat) : dot xs (ps.map (n * ·)) = n * dot xs ps := by
  induction xs generalizing ps with
  | nil => simp [dot]
  | cons x xs ih =>
    cases ps with
    | nil => simp [dot]
    | cons p ps =>
      simp only [List.map_cons, dot, ih, Nat.mul_add]
      rw [← Nat.mul_assoc, Nat.mul_comm x n, Nat.mul_assoc]

theorem mul_sum_map (n : Nat) (l : List Nat) (g : Nat → Nat) : n * (l.map g).sum = (l.map (fun i => n * g i)).sum := by
  induction l with
  | nil => rfl
  | cons a as ih => rw [List.map_cons, List.sum_cons, Nat.mul_add, ih, List.map_cons, List.sum_cons]

theorem hashLE_eq_sum (n : Nat) (letters : List Nat) :
    hashLE n letters = ((List.range letters.length).map (fun i => letters.getD i 0 * n ^ i)).sum := by
  induction letters with
  | nil => rfl
  | cons x xs ih =>
    rw [List.length_cons, List.range_succ_eq_map, List.map_cons, List.sum_cons, List.map_map, hashLE, ih, mul_sum_map]
    simp only [List.getD_cons_zero, Nat.pow_zero, Nat.mul_one, Function.comp_def, List.getD_cons_succ, Nat.pow_succ,
      Nat.mul_left_comm n, Nat.mul_comm n]

theorem dot_range (xs : List Nat) (g : Nat → Nat) :
    dot xs ((List.range xs.length).map g) = ((List.range xs.length).map (fun i => xs.getD i 0 * g i)).sum := by
  induction xs generalizing g with
  | nil => rfl
  | cons x xs ih =>
    rw [List.length_cons, List.range_succ_eq_map, List.map_cons, List.map_map, dot, ih, List.map_cons, List.map_map,
      List.sum_cons]
    rfl

/-- `letters.dot(|A| ** arange(k))` is the little-endian base-`|A|` number -/
theorem kmer_code (n : Nat) (letters : List Nat) : dot letters (powers n letters.length) = hashLE n letters := by
  rw [hashLE_eq_sum, powers, dot_range]

/-- `…808 = 2^63` (int64 range), `…616 = 2^64` (the modulus of `wrap64`) -/
theorem wrap64_id (x : Nat) (h : x < 9223372036854775808) : wrap64 (x : Int) = x := by
  have h1 : (x : Int) < 18446744073709551616 := Int.ofNat_lt.mpr (Nat.lt_trans h (by decide))
  have h2 : (x : Int) < 9223372036854775808 := Int.ofNat_lt.mpr h
  rw [wrap64, Int.emod_eq_of_lt (Int.natCast_nonneg x) h1, if_pos h2]

/-- no int64 wrap while `n ^ k ≤ 2^63` -/
theorem kmerHash_exact (n : Nat) (letters : List Nat) (hl : ∀ x ∈ letters, x < n)
    (hr : n ^ letters.length ≤ 9223372036854775808) : kmerHash n letters = (hashLE n letters : Int) := by
  rw [kmerHash, kmer_code]
  exact wrap64_id _ (Nat.lt_of_lt_of_le (hashLE_lt n letters hl) hr)

/-- the range hypothesis is needed: the largest 28-mer over `ACGTN` wraps to a different number -/
theorem kmerHash_wraps_witness :
    kmerHash 5 (List.replicate 28 4) ≠ (hashLE 5 (List.replicate 28 4) : Int) ∧ 5 ^ 28 > 9223372036854775808 := by
  decide +kernel

/-- `KmerEncoder.inverse`: digit `i` of the code is letter `i` -/
theorem kmer_inverse (n : Nat) (letters : List Nat) (hl : ∀ x ∈ letters, x < n) :
    kmerInverse n letters.length (hashLE n letters) = letters := by
  apply List.ext_getElem
  · rw [kmerInverse, kmerDigits, List.length_map, List.length_range]
  · intro i _ h
    simp only [kmerInverse, kmerDigits, List.getElem_map, List.getElem_range]
    rw [← hashLE_drop n letters hl i (Nat.le_of_lt h), List.drop_eq_getElem_cons h, hashLE, Nat.add_mul_mod_self_left]
    exact Nat.mod_eq_of_lt (hl _ (List.getElem_mem h))

/-- `to_string` renders a code back to the window's text -/
theorem kmer_render (alphabet : List Nat) (letters : List Nat) (hl : ∀ x ∈ letters, x < alphabet.length) :
    render alphabet letters.length (hashLE alphabet.length letters) = letters.map (fun d => alphabet.getD d 0) := by
  exact congrArg (List.map _) (kmer_inverse _ letters hl)

/-- `to_string` of the code the implementation computes -/
theorem kmerHash_render (alphabet : List Nat) (letters : List Nat) (hl : ∀ x ∈ letters, x < alphabet.length)
    (hr : alphabet.length ^ letters.length ≤ 9223372036854775808) :
    render alphabet letters.length (kmerHash alphabet.length letters).toNat = letters.map (fun d => alphabet.getD d 0) := by
  rw [kmerHash_exact _ _ hl hr]
  exact kmer_render alphabet letters hl

theorem hashLE_inj (n : Nat) (a b : List Nat) (hlen : a.length = b.length) (ha : ∀ x ∈ a, x < n) (hb : ∀ x ∈ b, x < n)
    (h : hashLE n a = hashLE n b) : a = b := by
  rw [← kmer_inverse n a ha, ← kmer_inverse n b hb, hlen, h]

theorem kmers_rowlocal (n k : Nat) (hk : 1 ≤ k) (rows : List (List Nat)) :
    getKmers n k rows = spec k (kmerHash n) rows := rolling_rowlocal k hk _ rows

theorem windows_kmerHash (n k : Nat) (hr : n ^ k ≤ 9223372036854775808) (xs : List Nat) (hl : ∀ x ∈ xs, x < n) :
    windows k (kmerHash n) xs = windows k (fun win => (hashLE n win : Int)) xs :=
  windows_congr k _ _ xs fun win hmem hlen => kmerHash_exact n win (fun x hx => hl x (hmem x hx)) (hlen ▸ hr)

/-- `get_kmers` on the generic path: exact numbers, row by row -/
theorem kmers (n k : Nat) (hk : 1 ≤ k) (hr : n ^ k ≤ 9223372036854775808) (rows : List (List Nat))
    (hl : ∀ r ∈ rows, ∀ x ∈ r, x < n) :
    getKmers n k rows = spec k (fun win => (hashLE n win : Int)) rows := by
  rw [kmers_rowlocal n k hk]
  exact List.map_congr_left fun r hr' => windows_kmerHash n k hr r (hl r hr')

/-- the path `get_kmers` takes for 4-letter alphabets (2-bit packing into uint64 registers, shift/or/mask) returns
what the generic dot-product path returns -/
theorem packed_eq_generic (k : Nat) (hk1 : 1 ≤ k) (hk : k ≤ 31) (rows : List (List Nat))
    (hl : ∀ r ∈ rows, ∀ x ∈ r, x < 4) : getKmersPacked k rows = getKmers 4 k rows := by
  have hflat : ∀ x ∈ rows.flatten, x < 4 := fun x hx =>
    let ⟨r, hr, hxr⟩ := List.mem_flatten.mp hx
    hl r hr x hxr
  unfold getKmersPacked getKmersPackedWith getKmers rolling rollingWith
  rw [packedKmers_eq _ hflat k hk1 hk, windows_map, List.append_nil,
    windows_kmerHash 4 k (Nat.le_trans (Nat.pow_le_pow_right (by decide) hk) (by decide)) _ hflat]
  rfl

/-- whichever path `get_kmers` takes (`n^k ≤ 2^63`; for `n = 4` that is `k ≤ 31`) -/
theorem kmers_dispatch (n k : Nat) (hk : 1 ≤ k) (hr : n ^ k ≤ 9223372036854775808) (rows : List (List Nat))
    (hl : ∀ r ∈ rows, ∀ x ∈ r, x < n) :
    getKmersDispatch n k rows = spec k (fun win => (hashLE n win : Int)) rows := by
  unfold getKmersDispatch
  split
  · next h4 =>
    subst h4
    have hk31 : k < 32 := (Nat.pow_lt_pow_iff_right (by decide)).mp (Nat.lt_of_le_of_lt hr (by decide))
    rw [packed_eq_generic k hk (Nat.le_of_lt_succ hk31) rows hl]
    exact kmers 4 k hk hr rows hl
  · exact kmers n k hk hr rows hl

theorem mapM_eq_some {γ δ : Type} (f : γ → Option δ) (l : List γ) (ys : List δ) (h : l.map f = ys.map some) :
    l.mapM f = some ys := by
  induction l generalizing ys with
  | nil => cases ys with
    | nil => rfl
    | cons _ _ => cases h
  | cons x xs ih => cases ys with
    | nil => cases h
    | cons y ys =>
      rw [List.map_cons, List.map_cons, List.cons.injEq] at h
      rw [List.mapM_cons, h.1, ih ys h.2]
      rfl

theorem mapM_none_of_mem {γ δ : Type} (f : γ → Option δ) (l : List γ) (x : γ) (hx : x ∈ l) (hf : f x = none) :
    l.mapM f = none := by
  induction l with
  | nil => cases hx
  | cons a as ih =>
    rw [List.mapM_cons]
    rcases List.mem_cons.mp hx with rfl | e
    · rw [hf]; rfl
    · rw [ih e]; cases f a <;> rfl

/-- for `1 ≤ k ≤ w` the nested flat computation succeeds and returns, per row, the minimum k-mer code of each of its
windows of length `w` (the specification has an `Option` per window, the code fails as a whole: hence `some`) -/
theorem minimizer (n k w : Nat) (hk : 1 ≤ k) (hkw : k ≤ w) (rows : List (List Nat)) :
    (minimizers n k w rows).map (·.map (·.map some)) = some (specMinimizers n k w rows) := by
  -- a window of length `w ≥ k` has a k-mer, so the minimum of its k-mer codes exists
  have key : ∀ xs : List Nat, windows w (fun win => minInt (windows k (kmerHash n) win)) xs =
      (windows w (fun win => (minInt (windows k (kmerHash n) win)).getD 0) xs).map some := by
    intro xs
    rw [windows_map]
    apply windows_congr
    intro win _ hlen
    cases hm : windows k (kmerHash n) win with
    | nil => rw [windows_eq_nil_iff k hk, hlen] at hm; exact absurd hm (Nat.not_lt.mpr hkw)
    | cons a as => rfl
  unfold minimizers minimizersWith specMinimizers
  simp only [rolling_rowlocal_extra k hk, spec, windows_map, id]
  -- nothing trails the flat minima: `… ++ []`
  rw [mapM_eq_some minInt _ _ ((windows_map w _ minInt _).trans (key _)), Option.map_some,
    ← List.append_nil (windows w _ _), rewrapSlice_windows w _ (endLen_trimNew w (Nat.le_trans hk hkw)), List.map_map]
  exact congrArg some (List.map_congr_left fun r _ => (key r).symm)

/-- the same in exact numbers (no int64 wrap) -/
theorem minimizer_exact (n k w : Nat) (hk : 1 ≤ k) (hkw : k ≤ w) (hr : n ^ k ≤ 9223372036854775808)
    (rows : List (List Nat)) (hl : ∀ r ∈ rows, ∀ x ∈ r, x < n) :
    (minimizers n k w rows).map (·.map (·.map some)) =
      some (spec w (fun win => minInt (windows k (fun km => (hashLE n km : Int)) win)) rows) := by
  rw [minimizer n k w hk hkw rows]
  refine congrArg some (List.map_congr_left fun r hrow => windows_congr w _ _ r fun win hwin _ => congrArg minInt ?_)
  exact windows_kmerHash n k hr win fun x hx => hl r hrow x (hwin x hx)

/-- completeness: the nested computation fails (numpy raises on an empty
axis) exactly when the k-mer is longer than the window while at least one window exists -/
theorem minimizers_isSome_iff (n k w : Nat) (hk : 1 ≤ k) (hw : 1 ≤ w) (rows : List (List Nat)) :
    (minimizers n k w rows).isSome ↔ (k ≤ w ∨ rows.flatten.length < w) := by
  constructor
  · intro h
    rcases Nat.lt_or_ge w k with hlt | hge
    · refine Or.inr (Nat.lt_of_not_le fun h' => ?_)
      -- the first flat window is shorter than `k`: no k-mer, `min` raises
      have hmem : windows k (kmerHash n) ((rows.flatten.drop 0).take w) ∈ spec k (kmerHash n) (windows w id rows.flatten) :=
        List.mem_map_of_mem (List.mem_of_getElem? (windows_getElem? w id _ 0 (by rwa [Nat.zero_add])))
      have hnil : minInt (windows k (kmerHash n) ((rows.flatten.drop 0).take w)) = none := by
        rw [(windows_eq_nil_iff k hk _ _).mpr (Nat.lt_of_le_of_lt (List.length_take_le ..) hlt)]
        rfl
      unfold minimizers minimizersWith at h
      simp only [rolling_rowlocal_extra k hk, mapM_none_of_mem minInt _ _ hmem hnil] at h
      cases h
    · exact Or.inl hge
  · rintro (hkw | hshort)
    · rw [← Option.isSome_map, minimizer n k w hk hkw rows]
      rfl
    · unfold minimizers minimizersWith
      rw [(windows_eq_nil_iff w hw id _).mpr hshort]
      rfl

/-- `match_string`: exactly the positions where the pattern occurs inside a row -/
theorem «match» (pat : List Nat) (hp : 1 ≤ pat.length) (rows : List (List Nat)) :
    matchString pat rows = spec pat.length (fun win => win == pat) rows :=
  rolling_rowlocal pat.length hp _ rows

/-- `count_kmers` counts, per code, the windows inside rows only -/
theorem count (n k : Nat) (hk : 1 ≤ k) (hr : n ^ k ≤ 9223372036854775808) (rows : List (List Nat))
    (hl : ∀ r ∈ rows, ∀ x ∈ r, x < n) :
    countKmers n k rows = specCountKmers n k rows ∧
    countKmersRows n k rows = (spec k (fun win => (hashLE n win : Int)) rows).map (bincount (n ^ k)) := by
  rw [countKmers, countKmersRows, kmers n k hk hr rows hl]
  exact ⟨rfl, rfl⟩

theorem bincount_getElem? (size : Nat) (vals : List Int) (c : Nat) (hc : c < size) :
    (bincount size vals)[c]? = some (vals.count (c : Int)) := by
  rw [bincount, List.getElem?_map, List.getElem?_range hc, List.count_eq_countP, List.countP_eq_length_filter]
  rfl

/-- the label `get_labels` puts at position `code(kmer)` is that k-mer's text -/
theorem label_of_code (alphabet : List Nat) (letters : List Nat) (hl : ∀ x ∈ letters, x < alphabet.length) :
    (getLabels alphabet letters.length)[hashLE alphabet.length letters]? =
      some (letters.map (fun d => alphabet.getD d 0)) := by
  rw [getLabels, List.getElem?_map, List.getElem?_range (hashLE_lt _ _ hl)]
  exact congrArg some (kmer_render alphabet letters hl)

/-- what the caller of `count_kmers` reads off under the label of a k-mer: the number of windows, inside rows only, that
spell it (`get_kmers` on its real path) -/
theorem count_labeled (alphabet : List Nat) (k : Nat) (hk : 1 ≤ k)
    (hr : alphabet.length ^ k ≤ 9223372036854775808) (rows : List (List Nat))
    (hl : ∀ r ∈ rows, ∀ x ∈ r, x < alphabet.length)
    (kmer : List Nat) (hkl : kmer.length = k) (hkm : ∀ x ∈ kmer, x < alphabet.length) :
    let lc := countKmersLabeled alphabet k rows
    lc.1[hashLE alphabet.length kmer]? = some (kmer.map (fun d => alphabet.getD d 0)) ∧
    lc.2[hashLE alphabet.length kmer]? =
      some ((spec k (fun win => (hashLE alphabet.length win : Int)) rows).flatten.count
        (hashLE alphabet.length kmer : Int)) := by
  subst hkl
  simp only [countKmersLabeled, kmers_dispatch alphabet.length _ hk hr rows hl]
  exact ⟨label_of_code alphabet kmer hkm, bincount_getElem? _ _ _ (hashLE_lt _ _ hkm)⟩

theorem bincount_append (size : Nat) (a b : List Int) :
    bincount size (a ++ b) = addCounts (bincount size a) (bincount size b) := by
  simp only [bincount, addCounts, List.zipWith_map, List.zipWith_self, List.filter_append, List.length_append]

/-- `count_kmers` is additive over chunks (`EncodedCounts.__add__`, `sum` in the streamed form): no k-mer is gained or
lost at a chunk border -/
theorem count_chunks (n k : Nat) (hk : 1 ≤ k) (rows1 rows2 : List (List Nat)) :
    countKmers n k (rows1 ++ rows2) = addCounts (countKmers n k rows1) (countKmers n k rows2) := by
  simp only [countKmers, kmers_rowlocal n k hk, spec, List.map_append, List.flatten_append, bincount_append]

/-- `count_kmers(seqs, k, axis=-1)` as the driver's per-row op runs it: row `i` of the counts is the histogram of the
k-mers of row `i` ALONE -/
theorem count_rows_labeled (alphabet : List Nat) (k : Nat) (hk : 1 ≤ k)
    (hr : alphabet.length ^ k ≤ 9223372036854775808) (rows : List (List Nat))
    (hl : ∀ r ∈ rows, ∀ x ∈ r, x < alphabet.length) :
    (countKmersRowsLabeled alphabet k rows).1 = getLabels alphabet k ∧
    (countKmersRowsLabeled alphabet k rows).2 =
      rows.map (fun r => bincount (alphabet.length ^ k) (windows k (fun win => (hashLE alphabet.length win : Int)) r)) := by
  simp only [countKmersRowsLabeled, kmers_dispatch alphabet.length k hk hr rows hl, spec, List.map_map, true_and]
  rfl

/-- `count_rows_labeled`, read per label -/
theorem count_rows_labeled_entry (alphabet : List Nat) (k : Nat) (hk : 1 ≤ k)
    (hr : alphabet.length ^ k ≤ 9223372036854775808) (rows : List (List Nat))
    (hl : ∀ r ∈ rows, ∀ x ∈ r, x < alphabet.length) (i : Nat) (hi : i < rows.length)
    (kmer : List Nat) (hkl : kmer.length = k) (hkm : ∀ x ∈ kmer, x < alphabet.length) :
    ((countKmersRowsLabeled alphabet k rows).2[i]?.bind (·[hashLE alphabet.length kmer]?)) =
      some ((windows k (fun win => (hashLE alphabet.length win : Int)) rows[i]).count (hashLE alphabet.length kmer : Int)) := by
  subst hkl
  rw [(count_rows_labeled alphabet _ hk hr rows hl).2, List.getElem?_map, List.getElem?_eq_getElem hi]
  exact bincount_getElem? _ _ _ (hashLE_lt _ _ hkm)

/-- additivity for the counts the caller gets: sum of the parts, and per row their concatenation -/
theorem count_labeled_chunks (alphabet : List Nat) (k : Nat) (hk : 1 ≤ k)
    (hr : alphabet.length ^ k ≤ 9223372036854775808) (rows1 rows2 : List (List Nat))
    (hl1 : ∀ r ∈ rows1, ∀ x ∈ r, x < alphabet.length) (hl2 : ∀ r ∈ rows2, ∀ x ∈ r, x < alphabet.length) :
    (countKmersLabeled alphabet k (rows1 ++ rows2)).2 =
      addCounts (countKmersLabeled alphabet k rows1).2 (countKmersLabeled alphabet k rows2).2 ∧
    (countKmersRowsLabeled alphabet k (rows1 ++ rows2)).2 =
      (countKmersRowsLabeled alphabet k rows1).2 ++ (countKmersRowsLabeled alphabet k rows2).2 := by
  have hl : ∀ r ∈ rows1 ++ rows2, ∀ x ∈ r, x < alphabet.length := fun r hr' =>
    (List.mem_append.mp hr').elim (hl1 r) (hl2 r)
  simp only [countKmersLabeled, countKmersRowsLabeled, kmers_dispatch _ k hk hr _ hl, kmers_dispatch _ k hk hr _ hl1,
    kmers_dispatch _ k hk hr _ hl2, spec, List.map_append, List.flatten_append, bincount_append, and_self]

/-- the shipped code counted nothing at `k = 1` -/
theorem countOld_k1_unsound : countKmersOld 4 1 [[0, 1], [1]] = [0, 0, 0, 0] ∧
    specCountKmers 4 1 [[0, 1], [1]] = [1, 2, 0, 0] := by decide +kernel

section pwm
variable (add : β → β → β) (zero : β)

theorem accumUpTo_length (m : List (List β)) (seq : List Nat) (t : Nat) :
    (accumUpTo add zero m seq t).length = seq.length := by
  induction t with
  | zero => exact List.length_replicate ..
  | succ t ih => rw [accumUpTo, accumStep, List.length_map, List.length_range, ih]

theorem windowScore_succ (m : List (List β)) (c : Nat) (win : List Nat) :
    windowScore add zero m (c + 1) win = add (windowScore add zero m c win) (entry zero m c (win.getD c 0)) := by
  rw [windowScore, List.range_succ, List.foldl_append]
  rfl

theorem windowScore_take (m : List (List β)) (c d : Nat) (win : List Nat) (h : c ≤ d) :
    windowScore add zero m c (win.take d) = windowScore add zero m c win := by
  induction c with
  | zero => rfl
  | succ c ih =>
    rw [windowScore_succ, windowScore_succ, ih (Nat.le_of_succ_le h), List.getD_eq_getElem?_getD,
      List.getElem?_take_of_lt h, ← List.getD_eq_getElem?_getD]

/-- loop invariant: while the offsets stay inside the flat sequence, position `j` holds the sum over
the first `t` offsets of the text from `j` on -/
theorem accumUpTo_getElem? (m : List (List β)) (seq : List Nat) (t j : Nat) (h : j + t ≤ seq.length) (hj : j < seq.length) :
    (accumUpTo add zero m seq t)[j]? = some (windowScore add zero m t (seq.drop j)) := by
  induction t with
  | zero => rw [accumUpTo, List.getElem?_replicate, if_pos hj]; rfl
  | succ t ih =>
    rw [accumUpTo, accumStep, accumUpTo_length, List.getElem?_map, List.getElem?_range hj, Option.map_some,
      if_pos (show j + t < seq.length from h), List.getD_eq_getElem?_getD, ih (Nat.le_of_succ_le h), windowScore_succ,
      List.getD_eq_getElem?_getD (l := seq.drop j), List.getElem?_drop, ← List.getD_eq_getElem?_getD]
    rfl

/-- the shifted accumulation holds, at every position whose window fits, the window's score summed in offset order;
what trails are partial sums -/
theorem pwm_shifted (m : List (List β)) (hm : 1 ≤ m.length) (seq : List Nat) :
    ∃ extra, calculateScores add zero m seq = windows m.length (windowScore add zero m m.length) seq ++ extra := by
  refine ⟨(calculateScores add zero m seq).drop (seq.length + 1 - m.length),
    (List.take_append_drop (seq.length + 1 - m.length) _).symm.trans (congrArg (· ++ _) ?_)⟩
  have hL := window_count_le seq.length m.length hm
  apply List.ext_getElem
  · rw [List.length_take, calculateScores, accumUpTo_length, windows_length]
    exact Nat.min_eq_left hL
  · intro i _ h
    rw [windows_length] at h
    rw [List.getElem_take, List.getElem_eq_iff, windows_getElem, windowScore_take add zero m _ _ _ (Nat.le_refl _)]
    exact accumUpTo_getElem? add zero m seq m.length i ((window_fits_iff ..).mp h) (Nat.lt_of_lt_of_le h hL)

/-- `get_motif_scores` returns for every row the scores of its own windows -/
theorem motif_scores (m : List (List β)) (hm : 1 ≤ m.length) (rows : List (List Nat)) :
    motifScores add zero m rows = specMotifScores add zero m rows := by
  obtain ⟨extra, he⟩ := pwm_shifted add zero m hm rows.flatten
  rw [motifScores, motifScoresWith, he]
  exact rewrapSlice_windows m.length _ (endLen_trimNew m.length hm) _ rows extra

/-- the older entry (`get_motif_scores_old`, `PositionWeightMatrix.rolling_window`) -/
theorem motif_scores_rolling (m : List (List β)) (hm : 1 ≤ m.length) (rows : List (List Nat)) :
    motifScoresRolling add zero m rows = specMotifScores add zero m rows :=
  rolling_rowlocal m.length hm _ rows
end pwm

/-! ### non-vacuity -/
example : rolling 2 (fun (w : List Nat) => w) [[1, 2, 3], [], [4], [5, 6]] = [[[1, 2], [2, 3]], [], [], [[5, 6]]] := by decide +kernel
example : rollingSame 2 (fun (win : List Nat) => win == [1, 2]) false [false] [[0, 1, 2], [1], [1, 2]] =
    [[false, true, false], [false], [true, false]] := by decide +kernel
example : expandGaps [.elem (.oneOf [0]), .gap 0 1, .elem (.oneOf [2, 3])] =
    [[.oneOf [0], .oneOf [2, 3]], [.oneOf [0], .any, .oneOf [2, 3]]] := by decide +kernel
example : regexMatch [.elem (.oneOf [0]), .gap 0 1, .elem (.oneOf [2, 3])] [[0, 1, 2], [0], [3, 0, 3]] =
    [[true, false, false], [false], [false, true, false]] := by decide +kernel
example : fixedRegex [.oneOf [0, 2], .any, .oneOf [3]] [[0, 1, 3, 3], [2, 3]] = [[true, false], []] := by decide +kernel
example : getKmers 4 1 [[0, 3], [2]] = [[0, 3], [2]] := by decide +kernel
example : getKmersOld 4 1 [[0, 3], [2]] = [[], []] := by decide +kernel
example : getKmersPacked 2 [[0, 1, 2, 3], [3], [1, 0]] = [[4, 9, 14], [], [1]] := by decide +kernel
example : (countKmersLabeled [65, 67] 2 [[0, 1, 1], [1]]).2 = [0, 0, 1, 1] := by decide +kernel
example : minimizers 4 2 3 [[0, 1, 2, 3], [1]] = some [[4, 9], []] := by decide +kernel
example : minimizersOld 4 1 2 [[0, 1, 2, 3], [1]] = none := by decide +kernel
example : (countKmersRowsLabeled [65, 67, 71, 84] 1 [[0, 3, 3], [2]]).2 = [[1, 0, 0, 2], [0, 0, 1, 0]] := by decide +kernel
-- the side conditions of the count theorems on the rows above: a range bound (here for `k = 2`) and letters `< 4`
example : (4 : Nat) ^ 2 ≤ 9223372036854775808 ∧ (∀ r ∈ [[0, 3, 3], [2]], ∀ x ∈ r, x < 4) := by decide +kernel
-- the largest `k` within int64 for 5 (ACGTN), 21 (amino acids) and 4 letters
example : (5 : Nat) ^ 27 ≤ 9223372036854775808 ∧ (21 : Nat) ^ 14 ≤ 9223372036854775808 ∧ (4 : Nat) ^ 31 ≤ 9223372036854775808 := by decide +kernel
example : motifScores (· + ·) (0 : Int) [[1, 2], [10, 20]] [[0, 1, 1], [0]] = [[21, 22], []] := by decide +kernel

end C13
