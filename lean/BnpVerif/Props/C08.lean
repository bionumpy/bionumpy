import BnpVerif.Props.C08Core
import BnpVerif.Props.C08Mask
import BnpVerif.Gen.C08
/-! C08 — the theorems about code re-generated on every run: the `clip` / `extend_to_size` kernels traced from the source
into `Gen/C08.lean`. Everything else is in `Props/C08Core.lean` and `Props/C08Mask.lean` (which comes after C09).
What one call of a kernel does is stated on the traced expressions `Gen.C08.*`; the row-wise `geoClip` / `geoExtend`, idempotence,
the counterexample and the comparison with the kernel shipped before are stated on the hand model (`clipK`, `extendK`), which is
the traced code by `kernels_traced` (`rfl`). -/
namespace C08

/-- the hand model used by the driver is the traced code -/
theorem kernels_traced (fwd : Bool) (start stop len size : Int) :
    clipK start stop size = (Gen.C08.clipStart start stop size, Gen.C08.clipStop start stop size) ∧
    clipK start stop size = (Gen.C08.geoClipStart start stop size, Gen.C08.geoClipStop start stop size) ∧
    extendK fwd start stop len size = (Gen.C08.extStart fwd start stop len size, Gen.C08.extStop fwd start stop len size) ∧
    extendK fwd start stop len size = (Gen.C08.geoExtStart fwd start stop len size, Gen.C08.geoExtStop fwd start stop len size) :=
  ⟨rfl, rfl, rfl, rfl⟩

/-- clipping is intersection with the contig -/
theorem clip_perbase (start stop size p : Int) :
    (Gen.C08.clipStart start stop size ≤ p ∧ p < Gen.C08.clipStop start stop size) ↔
      (start ≤ p ∧ p < stop) ∧ (0 ≤ p ∧ p < size) := by
  rw [Gen.C08.clipStart, Gen.C08.clipStop, Int.max_le, Int.lt_min]
  exact ⟨fun ⟨⟨a, b⟩, c, d⟩ => ⟨⟨b, d⟩, a, c⟩, fun ⟨⟨b, d⟩, a, c⟩ => ⟨⟨a, b⟩, c, d⟩⟩

/-- the clipped interval is a well-formed interval inside the contig exactly when the input meets the contig -/
theorem clip_inside_iff (start stop size : Int) (h0 : 0 ≤ size) :
    (0 ≤ Gen.C08.clipStart start stop size ∧ Gen.C08.clipStart start stop size ≤ Gen.C08.clipStop start stop size ∧
      Gen.C08.clipStop start stop size ≤ size) ↔ (start ≤ stop ∧ start ≤ size ∧ 0 ≤ stop) := by
  rw [Gen.C08.clipStart, Gen.C08.clipStop, Int.max_le, Int.le_min, Int.le_min]
  exact ⟨fun ⟨_, ⟨⟨_, a⟩, b, c⟩, _⟩ => ⟨c, b, a⟩,
    fun ⟨c, b, a⟩ => ⟨Int.le_max_left _ _, ⟨⟨h0, a⟩, b, c⟩, Int.min_le_left _ _⟩⟩

/-- the direction of `clip_inside_iff` that the check relies on -/
theorem clip_inside (start stop size : Int) (h0 : 0 ≤ size) (h1 : start ≤ stop) (h2 : start ≤ size) (h3 : 0 ≤ stop) :
    0 ≤ Gen.C08.clipStart start stop size ∧ Gen.C08.clipStart start stop size ≤ Gen.C08.clipStop start stop size ∧
      Gen.C08.clipStop start stop size ≤ size :=
  (clip_inside_iff start stop size h0).2 ⟨h1, h2, h3⟩

example : (0 : Int) ≤ 10 ∧ (-3 : Int) ≤ 12 ∧ (-3 : Int) ≤ 10 ∧ (0 : Int) ≤ 12 := by decide

/-- the excluded region is real: an interval beyond the contig end is NOT brought inside (the real code: `clip((7,9), 5)`
gives `(7,5)`); the check's domain for `clip` is "the interval meets the contig" -/
theorem clip_outside_not_inside : clipK 12 15 10 = (12, 10) ∧ clipK (-5) (-2) 10 = (0, -2) := by decide

/-- extension keeps the interval inside the contig -/
theorem extend_inside (fwd : Bool) (start stop len size : Int) (h1 : 0 ≤ start) (h2 : start ≤ stop) (h3 : stop ≤ size)
    (h4 : 0 ≤ len) :
    0 ≤ Gen.C08.extStart fwd start stop len size ∧
      Gen.C08.extStart fwd start stop len size ≤ Gen.C08.extStop fwd start stop len size ∧
      Gen.C08.extStop fwd start stop len size ≤ size := by
  cases fwd
  · exact ⟨Int.sub_nonneg_of_le (Int.min_le_right _ _), Int.sub_le_self _ (Int.le_min.2 ⟨h4, Int.le_trans h1 h2⟩), h3⟩
  · exact ⟨h1, Int.le_min.2 ⟨Int.le_add_of_nonneg_right h4, Int.le_trans h2 h3⟩, Int.min_le_right _ _⟩

/-- `+` keeps the start, `-` keeps the stop -/
theorem extend_keeps (start stop len size : Int) :
    Gen.C08.extStart true start stop len size = start ∧ Gen.C08.extStop false start stop len size = stop :=
  ⟨rfl, rfl⟩

/-- the extended interval has the requested length, cut at the contig boundary -/
theorem extend_length (start stop len size : Int) :
    Gen.C08.extStop true start stop len size - Gen.C08.extStart true start stop len size = min len (size - start) ∧
    Gen.C08.extStop false start stop len size - Gen.C08.extStart false start stop len size = min len stop := by
  refine ⟨show min (start + len) size - start = min len (size - start) by omega,
    Int.sub_sub_self stop _⟩

/-- the repaired `-` strand start `stop - min len stop` is, over the integers, the shipped `max (stop - len) 0`; on an
unsigned column `stop - len` wraps around before the maximum is taken -/
theorem extendK_eq_old (fwd : Bool) (start stop len size : Int) :
    extendK fwd start stop len size = extendKOld fwd start stop len size := by
  cases fwd
  · refine congrArg (·, stop) (show stop - min len stop = max (stop - len) 0 from ?_)
    rcases Int.le_total len stop with h | h
    · rw [Int.min_eq_left h, Int.max_eq_left (Int.sub_nonneg_of_le h)]
    · rw [Int.min_eq_right h, Int.sub_self, Int.max_eq_right (Int.sub_nonpos_of_le h)]
  · rfl

/-- `extend_inside` and `clip_inside` for the traced kernels of `Geometry.extend_to_size` / `Geometry.clip` -/
theorem geo_kernels_inside (fwd : Bool) (start stop len size : Int) (h1 : 0 ≤ start) (h2 : start ≤ stop) (h3 : stop ≤ size)
    (h4 : 0 ≤ len) :
    (0 ≤ Gen.C08.geoExtStart fwd start stop len size ∧
      Gen.C08.geoExtStart fwd start stop len size ≤ Gen.C08.geoExtStop fwd start stop len size ∧
      Gen.C08.geoExtStop fwd start stop len size ≤ size) ∧
    (0 ≤ Gen.C08.geoClipStart start stop size ∧ Gen.C08.geoClipStart start stop size ≤ Gen.C08.geoClipStop start stop size ∧
      Gen.C08.geoClipStop start stop size ≤ size) :=
  ⟨extend_inside fwd start stop len size h1 h2 h3 h4,
    clip_inside start stop size (Int.le_trans h1 (Int.le_trans h2 h3)) h2 (Int.le_trans h2 h3) (Int.le_trans h1 h2)⟩

/-- `Geometry.extend_to_size` on several chromosomes: row `i` of the result stays inside the chromosome of row `i` -/
theorem geoExtend_inside (chromSizes : List Int) (len : Int) (hlen : 0 ≤ len) (rows : List (Nat × Bool × Int × Int))
    (h : ∀ r ∈ rows, 0 ≤ r.2.2.1 ∧ r.2.2.1 ≤ r.2.2.2 ∧ r.2.2.2 ≤ chromSizes.getD r.1 0)
    (i : Nat) (hi : i < rows.length) :
    let o := (geoExtend chromSizes len rows)[i]'(by simpa [geoExtend] using hi)
    0 ≤ o.1 ∧ o.1 ≤ o.2 ∧ o.2 ≤ chromSizes.getD (rows[i]).1 0 := by
  have hr := h rows[i] (List.getElem_mem hi)
  simp only [geoExtend, List.getElem_map]
  -- `extendK` is the traced kernel by definition (cf. `kernels_traced`)
  exact extend_inside _ _ _ len _ hr.1 hr.2.1 hr.2.2 hlen

/-- `Geometry.clip` on several chromosomes: row `i` is clipped to the chromosome of row `i` -/
theorem geoClip_inside (chromSizes : List Int) (rows : List (Nat × Int × Int))
    (h : ∀ r ∈ rows, 0 ≤ chromSizes.getD r.1 0 ∧ r.2.1 ≤ r.2.2 ∧ r.2.1 ≤ chromSizes.getD r.1 0 ∧ 0 ≤ r.2.2)
    (i : Nat) (hi : i < rows.length) :
    let o := (geoClip chromSizes rows)[i]'(by simpa [geoClip] using hi)
    0 ≤ o.1 ∧ o.1 ≤ o.2 ∧ o.2 ≤ chromSizes.getD (rows[i]).1 0 := by
  have hr := h rows[i] (List.getElem_mem hi)
  simp only [geoClip, List.getElem_map]
  -- `clipK` is the traced kernel by definition (cf. `kernels_traced`)
  exact clip_inside _ _ _ hr.1 hr.2.1 hr.2.2.1 hr.2.2.2

/-- clipping and extension are idempotent -/
theorem clip_extend_idem (fwd : Bool) (start stop len size : Int) (h0 : 0 ≤ size) :
    (clipK (clipK start stop size).1 (clipK start stop size).2 size = clipK start stop size) ∧
    (extendK fwd (extendK fwd start stop len size).1 (extendK fwd start stop len size).2 len size = extendK fwd start stop len size) :=
  ⟨Prod.ext (Int.max_eq_right (Int.le_max_left _ _)) (Int.min_eq_right (Int.min_le_left _ _)), by cases fwd <;> rfl⟩

/-- every kernel in `Gen/C08.lean` was obtained by tracing the real function: when the tracer fails, `regenerate()`
writes the hand-written expression with the flag `false`, and this obligation breaks -/
theorem all_traced : Gen.C08.clipTraced = true ∧ Gen.C08.geoClipTraced = true ∧ Gen.C08.extTraced = true ∧
    Gen.C08.geoExtTraced = true := by decide

end C08
