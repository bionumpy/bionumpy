import BnpVerif.Model.C17
import BnpVerif.Props.C18
import BnpVerif.Props.C01
import BnpVerif.Gen.C17
/-! C17 — indexed FASTA random access agrees with the file.

The wrapped block is taken apart line by line (`Base.drop_induction`). The interval read is the difference of two
prefix reads (`delete_prefix`, `delete_window`). Both reads are proved once, for any line width, on a file
`pre ++ (wrapBytes V seq).dropLast ++ tail`: the record followed by its newline, or the end of a file without one.
`W` is the width a record is wrapped at, `V` the width its index row holds (`min W L`; the same block by `wrap_min`).
A file is its lines, each followed by a newline, so `lines_join` parses it. -/
namespace C17

theorem wrap_nil (W : Nat) : wrapBytes W [] = [] := by
  rw [wrapBytes]; simp

theorem wrap_cons (W : Nat) (hW : 0 < W) (seq : Bytes) (hs : seq ≠ []) :
    wrapBytes W seq = seq.take W ++ 10 :: wrapBytes W (seq.drop W) := by
  rw [wrapBytes, dif_neg (not_or.mpr ⟨hs, Nat.ne_of_gt hW⟩)]

theorem posOf_lt (W i : Nat) (h : i < W) : posOf W i = i := by
  rw [posOf, Nat.div_eq_of_lt h, Nat.mod_eq_of_lt h, Nat.zero_mul, Nat.zero_add]

theorem posOf_add (W i : Nat) (hW : 0 < W) : posOf W (i + W) = W + 1 + posOf W i := by
  unfold posOf
  rw [Nat.add_div_right _ hW, Nat.add_mod_right, Nat.succ_mul, Nat.add_comm _ (W + 1), Nat.add_assoc]

theorem posOf_eq (W i : Nat) : posOf W i = i + i / W := by
  rw [posOf, Nat.mul_succ, Nat.add_right_comm, Nat.div_add_mod']

theorem posOf_mono (W i j : Nat) (h : i ≤ j) : posOf W i ≤ posOf W j := by
  rw [posOf_eq, posOf_eq]
  exact Nat.add_le_add h (Nat.div_le_div_right h)

theorem posOf_succ (W i : Nat) : posOf W (i + 1) = posOf W i + if W ∣ i + 1 then 2 else 1 := by
  rw [posOf_eq, posOf_eq, Nat.succ_div]
  split <;> omega

theorem posOf_ge (V b : Nat) : (V + 1) * (b / V) ≤ posOf V b :=
  Nat.mul_comm _ _ ▸ Nat.le_add_right _ _

theorem posOf_lt_next (V b : Nat) (hV : 0 < V) : posOf V b < (V + 1) * (b / V + 1) := by
  rw [Nat.mul_succ, Nat.mul_comm]
  exact Nat.add_lt_add_left (Nat.lt_succ_of_lt (Nat.mod_lt b hV)) _

/-- **C17.layout**: base `i` of a sequence wrapped at `W` bases per line sits at byte `posOf W i` of the block -/
theorem layout (W : Nat) (hW : 0 < W) (seq : Bytes) (i : Nat) (hi : i < seq.length) :
    (wrapBytes W seq)[posOf W i]? = seq[i]? := by
  induction seq using Base.drop_induction W hW generalizing i with
  | nil => exact absurd hi (Nat.not_lt_zero i)
  | step seq hs ih =>
    rw [wrap_cons W hW seq hs]
    by_cases hlt : i < W
    · rw [posOf_lt W i hlt, List.getElem?_append_left (by rw [List.length_take]; exact Nat.lt_min.mpr ⟨hlt, hi⟩),
        List.getElem?_take_of_lt hlt]
    · obtain ⟨i, rfl⟩ : ∃ i', i = i' + W := ⟨i - W, (Nat.sub_add_cancel (Nat.le_of_not_lt hlt)).symm⟩
      have hl : (seq.take W).length = W := List.length_take_of_le (Nat.le_trans (Nat.le_add_left W i) (Nat.le_of_lt hi))
      rw [posOf_add W i hW, List.getElem?_append_right (by rw [hl, Nat.add_assoc]; exact Nat.le_add_right _ _), hl,
        Nat.add_assoc, Nat.add_sub_cancel_left, Nat.add_comm 1, List.getElem?_cons_succ,
        ih i (by rw [List.length_drop]; exact Nat.lt_sub_of_add_lt hi), List.getElem?_drop, Nat.add_comm W]

/-- **C17.layout_newline**: the newline that ends line `j` sits right after its bases, at
`(j+1)(W+1) − 1` for a full line -/
theorem layout_newline (W : Nat) (hW : 0 < W) (seq : Bytes) (j : Nat) (hj : j * W < seq.length) :
    (wrapBytes W seq)[min ((j + 1) * W) seq.length + j]? = some 10 := by
  induction j generalizing seq with
  | zero =>
    rw [wrap_cons W hW seq (List.ne_nil_of_length_pos (Nat.zero_mul W ▸ hj)), Nat.one_mul, Nat.add_zero,
      ← List.length_take, List.getElem?_append_right (Nat.le_refl _), Nat.sub_self, List.getElem?_cons_zero]
  | succ k ih =>
    rw [Nat.succ_mul] at hj
    have hWL : W ≤ seq.length := Nat.le_of_lt (Nat.lt_of_le_of_lt (Nat.le_add_left W _) hj)
    have hl : (seq.take W).length = W := List.length_take_of_le hWL
    have hlen : seq.length = (seq.drop W).length + W := by rw [List.length_drop, Nat.sub_add_cancel hWL]
    have e : min ((k + 1 + 1) * W) seq.length + (k + 1) - W = min ((k + 1) * W) (seq.drop W).length + k + 1 := by
      rw [Nat.succ_mul (k + 1), hlen, Nat.add_min_add_right, Nat.add_right_comm _ W, Nat.add_sub_cancel]; rfl
    rw [wrap_cons W hW seq (List.ne_nil_of_length_pos (Nat.lt_of_lt_of_le hW hWL)),
      List.getElem?_append_right (by
        rw [hl]
        exact Nat.le_trans (Nat.le_min.mpr ⟨Nat.le_mul_of_pos_left W (Nat.succ_pos _), hWL⟩) (Nat.le_add_right _ _)),
      hl, e, List.getElem?_cons_succ, ih (seq.drop W) (by rw [List.length_drop]; exact Nat.lt_sub_of_add_lt hj)]

theorem min_pos (W : Nat) (seq : Bytes) (hW : 0 < W) (hs : seq ≠ []) : 0 < min W seq.length :=
  Nat.lt_min.mpr ⟨hW, List.length_pos_iff.mpr hs⟩

/-- the index row stores `min W L` as `lenc`, and the block lemmas are stated for the row's own width -/
theorem wrap_min (W : Nat) (hW : 0 < W) (seq : Bytes) (hs : seq ≠ []) :
    wrapBytes W seq = wrapBytes (min W seq.length) seq := by
  rw [wrap_cons W hW seq hs, wrap_cons _ (min_pos W seq hW hs) seq hs]
  by_cases h : seq.length ≤ W
  · rw [Nat.min_eq_right h, List.take_of_length_le h, List.take_length, List.drop_of_length_le h,
      List.drop_length, wrap_nil, wrap_nil]
  · rw [Nat.min_eq_left (Nat.le_of_not_le h)]

theorem deleteFrom_append (idxs : List Nat) (i : Nat) (x y : Bytes) :
    deleteIdxFrom idxs i (x ++ y) = deleteIdxFrom idxs i x ++ deleteIdxFrom idxs (i + x.length) y := by
  induction x generalizing i with
  | nil => rfl
  | cons c cs ih =>
    simp only [List.cons_append, deleteIdxFrom, ih, List.length_cons, Nat.add_comm cs.length, Nat.add_assoc]
    split <;> rfl

theorem deleteFrom_congr (idxs idxs' : List Nat) (i i' : Nat) (l : Bytes)
    (h : ∀ k, k < l.length → (i + k ∈ idxs ↔ i' + k ∈ idxs')) :
    deleteIdxFrom idxs i l = deleteIdxFrom idxs' i' l := by
  induction l generalizing i i' with
  | nil => rfl
  | cons c cs ih =>
    have hc : idxs.contains i = idxs'.contains i' :=
      Bool.eq_iff_iff.mpr (by simpa using h 0 (Nat.succ_pos _))
    simp only [deleteIdxFrom, hc]
    rw [ih (i + 1) (i' + 1) fun k hk => by simpa [Nat.add_assoc, Nat.add_comm 1] using h (k + 1) (Nat.succ_lt_succ hk)]

theorem deleteFrom_keep (idxs : List Nat) (i : Nat) (l : Bytes) (h : ∀ k, k < l.length → i + k ∉ idxs) :
    deleteIdxFrom idxs i l = l := by
  induction l generalizing i with
  | nil => rfl
  | cons c cs ih =>
    have hc : idxs.contains i = false := by simpa using h 0 (Nat.succ_pos _)
    simp only [deleteIdxFrom, hc]
    rw [ih (i + 1) fun k hk => by simpa [Nat.add_assoc, Nat.add_comm 1] using h (k + 1) (Nat.succ_lt_succ hk)]
    rfl

theorem deleteFrom_drop (idxs : List Nat) (i : Nat) (c : Nat) (y : Bytes) (h : i ∈ idxs) :
    deleteIdxFrom idxs i (c :: y) = deleteIdxFrom idxs (i + 1) y := by
  rw [deleteIdxFrom, if_pos (List.contains_iff_mem.mpr h)]

theorem newline_eq (V r j : Nat) (hr : r ≤ V) : (V + 1) * (j + 1) - 1 - r = (V + 1) * j + (V - r) := by
  rw [Nat.mul_succ, ← Nat.add_assoc, Nat.add_sub_cancel, Nat.add_sub_assoc hr]

/-- counted in the block, the `j`-th position the code lists for a read from base `a` is the end of line `a / V + j` -/
theorem newline_abs (V a j : Nat) (hV : 0 < V) :
    posOf V a + ((V + 1) * (j + 1) - 1 - a % V) + 1 = (V + 1) * (a / V + j + 1) := by
  have hr := Nat.le_of_lt (Nat.mod_lt a hV)
  rw [newline_eq V _ j hr, posOf, Nat.add_add_add_comm, Nat.add_sub_cancel' hr, Nat.add_assoc, Nat.mul_comm (a / V),
    ← Nat.mul_add, ← Nat.mul_succ]

theorem newline_lt (V a b j : Nat) (hV : 0 < V) (hj : j < b / V - a / V) :
    (V + 1) * (j + 1) - 1 - a % V < posOf V b - posOf V a :=
  Nat.lt_sub_iff_add_lt'.mpr <| show _ + 1 ≤ _ from newline_abs V a j hV ▸
    Nat.le_trans (Nat.mul_le_mul_left _ (Nat.add_lt_of_lt_sub' hj)) (posOf_ge V b)

/-- among the bytes read, the code lists exactly the line ends of the block -/
theorem mem_newlines (V a b p : Nat) (hV : 0 < V) (hp : p < posOf V b - posOf V a) :
    p ∈ (List.range (b / V - a / V)).map (fun j => (V + 1) * (j + 1) - 1 - a % V)
      ↔ (V + 1) ∣ posOf V a + p + 1 := by
  simp only [List.mem_map, List.mem_range]
  constructor
  · rintro ⟨j, _, rfl⟩
    exact newline_abs V a j hV ▸ Nat.dvd_mul_right _ _
  · rintro ⟨q, hq⟩
    -- `posOf V a + p + 1 = (V + 1) * q` is the end of line `q - 1`, and `a / V < q ≤ b / V`
    have hlo : a / V < q := Nat.lt_of_mul_lt_mul_left (a := V + 1) <|
      Nat.lt_of_le_of_lt (posOf_ge V a) (hq ▸ Nat.lt_succ_of_le (Nat.le_add_right _ _))
    have hhi : q < b / V + 1 := Nat.lt_of_mul_lt_mul_left (a := V + 1) <|
      hq ▸ Nat.lt_of_le_of_lt (Nat.add_lt_of_lt_sub' hp) (posOf_lt_next V b hV)
    obtain ⟨j, rfl⟩ := Nat.exists_eq_add_of_lt hlo
    exact ⟨j, Nat.lt_sub_of_add_lt (Nat.add_comm j _ ▸ Nat.lt_of_succ_lt_succ hhi),
      Nat.add_left_cancel (Nat.succ.inj ((newline_abs V a j hV).trans hq.symm))⟩

theorem wrap_take_le (W : Nat) (hW : 0 < W) (seq : Bytes) (b : Nat) (hbW : b ≤ W) (hb : b ≤ seq.length) :
    (wrapBytes W seq).take b = seq.take b := by
  by_cases hs : seq = []
  · subst hs; rw [wrap_nil]
  · rw [wrap_cons W hW seq hs, List.take_append_of_le_length (by rw [List.length_take]; exact Nat.le_min.mpr ⟨hbW, hb⟩),
      List.take_take, Nat.min_eq_left hbW]

theorem take_line (A R : Bytes) (x : Nat) : (A ++ 10 :: R).take (A.length + 1 + x) = A ++ 10 :: R.take x := by
  rw [Nat.add_assoc, List.take_length_add_append, Nat.add_comm 1, List.take_succ_cons]

/-- `idxs` (positions counted from `i`) only has to be right on the bytes read -/
theorem delete_prefix (W : Nat) (hW : 0 < W) (seq : Bytes) (b i : Nat) (idxs : List Nat) (hb : b ≤ seq.length)
    (h : ∀ q, q < posOf W b → (i + q ∈ idxs ↔ (W + 1) ∣ q + 1)) :
    deleteIdxFrom idxs i ((wrapBytes W seq).take (posOf W b)) = seq.take b := by
  induction b using Nat.strongRecOn generalizing seq i with
  | _ b ih =>
    by_cases hbW : b < W
    · rw [posOf_lt W b hbW] at h ⊢
      rw [wrap_take_le W hW seq b (Nat.le_of_lt hbW) hb]
      refine deleteFrom_keep _ _ _ fun k hk hm => ?_
      rw [List.length_take_of_le hb] at hk
      exact Nat.not_dvd_of_pos_of_lt (Nat.succ_pos k) (Nat.succ_lt_succ (Nat.lt_trans hk hbW)) ((h k hk).mp hm)
    · obtain ⟨b, rfl⟩ : ∃ b', b = b' + W := ⟨b - W, (Nat.sub_add_cancel (Nat.le_of_not_lt hbW)).symm⟩
      have hWL := Nat.le_trans (Nat.le_add_left W b) hb
      have hl : (seq.take W).length = W := List.length_take_of_le hWL
      have := take_line (seq.take W) (wrapBytes W (seq.drop W)) (posOf W b)
      rw [hl] at this
      rw [posOf_add W b hW] at h ⊢
      rw [wrap_cons W hW seq (List.ne_nil_of_length_pos (Nat.lt_of_lt_of_le hW hWL)), this, deleteFrom_append, hl,
        deleteFrom_keep _ _ _ fun k hk hm => ?keep, deleteFrom_drop _ _ _ _ ?nl,
        ih b (Nat.lt_add_of_pos_right hW) (seq.drop W) (i + W + 1)
          (by rw [List.length_drop]; exact Nat.le_sub_of_add_le hb) fun q hq => ?rest,
        Nat.add_comm b W, List.take_add]
      case keep =>
        rw [hl] at hk
        exact Nat.not_dvd_of_pos_of_lt (Nat.succ_pos k) (Nat.succ_lt_succ hk)
          ((h k (Nat.lt_add_right _ (Nat.lt_succ_of_lt hk))).mp hm)
      case nl => exact (h W (Nat.lt_add_right _ (Nat.lt_succ_self W))).mpr (Nat.dvd_refl _)
      case rest =>
        rw [Nat.add_assoc i, Nat.add_assoc i, h _ (Nat.add_lt_add_left hq _), Nat.add_assoc (W + 1),
          Nat.dvd_add_right (Nat.dvd_refl _)]

theorem length_eq_succ (seq : Bytes) (hs : seq ≠ []) : ∃ n, seq.length = n + 1 :=
  ⟨seq.length - 1, (Nat.sub_add_cancel (List.length_pos_iff.mpr hs)).symm⟩

/-- the last of `n + 1` bases sits at byte `posOf W n`; one more byte for it, one for the final newline -/
theorem wrap_length (W : Nat) (hW : 0 < W) (seq : Bytes) (n : Nat) (hn : seq.length = n + 1) :
    (wrapBytes W seq).length = posOf W n + 2 := by
  induction seq using Base.drop_induction W hW generalizing n with
  | nil => exact absurd hn (Nat.succ_ne_zero n).symm
  | step seq hs ih =>
    rw [wrap_cons W hW seq hs, List.length_append, List.length_cons, List.length_take, hn]
    by_cases hnW : n < W
    · rw [List.drop_of_length_le (hn ▸ hnW), wrap_nil, posOf_lt W n hnW, Nat.min_eq_right hnW]; rfl
    · obtain ⟨n, rfl⟩ : ∃ n', n = n' + W := ⟨n - W, (Nat.sub_add_cancel (Nat.le_of_not_lt hnW)).symm⟩
      rw [ih n (by rw [List.length_drop, hn, Nat.add_right_comm, Nat.add_sub_cancel]), posOf_add W n hW,
        Nat.min_eq_left (Nat.le_succ_of_le (Nat.le_add_left W n))]
      omega

theorem length_lt_wrap (W : Nat) (hW : 0 < W) (seq : Bytes) (hs : seq ≠ []) :
    seq.length < (wrapBytes W seq).length := by
  obtain ⟨n, hn⟩ := length_eq_succ seq hs
  rw [wrap_length W hW seq n hn, hn, posOf_eq]
  exact Nat.succ_lt_succ (Nat.lt_succ_of_le (Nat.le_add_right _ _))

theorem posOf_le_wrap (W : Nat) (hW : 0 < W) (seq : Bytes) (b : Nat) (hb : b ≤ seq.length) :
    posOf W b ≤ (wrapBytes W seq).length := by
  cases b with
  | zero => rw [posOf_lt W 0 hW]; exact Nat.zero_le _
  | succ n =>
    obtain ⟨m, hm⟩ := length_eq_succ seq (List.ne_nil_of_length_pos (Nat.lt_of_lt_of_le (Nat.succ_pos n) hb))
    rw [hm] at hb
    rw [wrap_length W hW seq m hm]
    refine Nat.le_trans ?_ (Nat.add_le_add_right (posOf_mono W n m (Nat.le_of_succ_le_succ hb)) 2)
    rw [posOf_succ]
    split <;> simp

/-- an interval is the difference of two prefixes -/
theorem delete_window (V : Nat) (hV : 0 < V) (seq : Bytes) (a b : Nat) (hab : a ≤ b) (hb : b ≤ seq.length) :
    deleteIdx (((wrapBytes V seq).drop (posOf V a)).take (posOf V b - posOf V a))
      ((List.range (b / V - a / V)).map (fun j => (V + 1) * (j + 1) - 1 - a % V))
      = (seq.drop a).take (b - a) := by
  have hs := posOf_mono V a b hab
  obtain ⟨all, hall⟩ : ∃ all : List Nat, ∀ q, q < posOf V b → (0 + q ∈ all ↔ (V + 1) ∣ q + 1) :=
    ⟨(List.range (posOf V b)).filter (fun q => (V + 1) ∣ q + 1), fun q hq => by simp [hq]⟩
  have hB := delete_prefix V hV seq b 0 all hb hall
  rw [← Nat.add_sub_cancel' hs, List.take_add, deleteFrom_append,
    delete_prefix V hV seq a 0 all (Nat.le_trans hab hb) fun q hq => hall q (Nat.lt_of_lt_of_le hq hs),
    List.length_take_of_le (posOf_le_wrap V hV seq a (Nat.le_trans hab hb)),
    show seq.take b = seq.take a ++ (seq.drop a).take (b - a) by rw [← List.take_add, Nat.add_sub_cancel' hab]] at hB
  rw [← List.append_cancel_left hB]
  refine deleteFrom_congr _ _ _ _ _ fun k hk => ?_
  rw [List.length_take] at hk
  have hk' := Nat.lt_of_lt_of_le hk (Nat.min_le_left _ _)
  rw [Nat.zero_add, mem_newlines V a b k hV hk', Nat.add_assoc 0, hall _ (Nat.add_lt_of_lt_sub' hk')]

theorem wrap_ends (V : Nat) (hV : 0 < V) (seq : Bytes) (hs : seq ≠ []) :
    ∃ Y c, wrapBytes V seq = Y ++ [c, 10] ∧ c ∈ seq := by
  induction seq using Base.drop_induction V hV with
  | nil => exact absurd rfl hs
  | step seq hs ih =>
    rw [wrap_cons V hV seq hs]
    by_cases hd : seq.drop V = []
    · have hne : seq.take V ≠ [] := fun h => hs (by simpa [Nat.ne_of_gt hV] using h)
      refine ⟨(seq.take V).dropLast, (seq.take V).getLast hne, ?_, List.mem_of_mem_take (List.getLast_mem hne)⟩
      rw [hd, wrap_nil]
      exact (congrArg (· ++ [10]) (List.dropLast_concat_getLast hne).symm).trans (List.append_assoc _ _ _)
    · obtain ⟨Y, c, hY, hc⟩ := ih hd
      exact ⟨seq.take V ++ 10 :: Y, c, by rw [hY, List.append_assoc, List.cons_append], List.mem_of_mem_drop hc⟩

theorem wrap_eq_concat (V : Nat) (hV : 0 < V) (seq : Bytes) (hs : seq ≠ []) : ∃ D, wrapBytes V seq = D ++ [10] :=
  let ⟨Y, c, h, _⟩ := wrap_ends V hV seq hs
  ⟨Y ++ [c], by rw [h, List.append_assoc, List.singleton_append]⟩

theorem file_with_newline (pre post seq : Bytes) (V : Nat) (hV : 0 < V) (hs : seq ≠ []) :
    pre ++ (wrapBytes V seq).dropLast ++ 10 :: post = pre ++ wrapBytes V seq ++ post := by
  obtain ⟨D, hD⟩ := wrap_eq_concat V hV seq hs
  rw [hD, List.dropLast_concat, List.append_assoc pre D, List.append_assoc pre, List.append_assoc D]
  rfl

/-- the repaired rule on the bytes read and the newline positions -/
def ruleApply (raw : Bytes) (idxs : List Nat) : Option Bytes :=
  deleteChecked raw (if idxs.getLast? = some raw.length then idxs.dropLast else idxs)

/-! the model spells the same read with and without `let`s -/

theorem fetchIntervalChecked_eq (file : Bytes) (r : IdxRow) (a b : Nat) :
    fetchIntervalChecked file r a b = ruleApply (rawRead file r a b) (newlineIdxs r a b) := rfl

theorem fetchInterval_eq (file : Bytes) (r : IdxRow) (a b : Nat) :
    fetchInterval file r a b = deleteIdx (rawRead file r a b) (newlineIdxs r a b) := rfl

theorem deleteChecked_of_lt (l : Bytes) (idxs : List Nat) (h : ∀ i ∈ idxs, i < l.length) :
    deleteChecked l idxs = some (deleteIdx l idxs) := by
  rw [deleteChecked, if_pos (by simpa using h)]

theorem rule_complete (R : Bytes) (idxs : List Nat) (hin : ∀ i ∈ idxs, i < R.length) :
    ruleApply R idxs = some (deleteIdx R idxs) := by
  rw [ruleApply, if_neg fun hc => Nat.lt_irrefl _ (hin _ (List.mem_of_getLast? hc)), deleteChecked_of_lt R idxs hin]

theorem delete_ignore_end (l : Bytes) (init : List Nat) :
    deleteIdx l (init ++ [l.length]) = deleteIdx l init :=
  deleteFrom_congr _ _ _ _ _ fun k hk => by
    rw [List.mem_append, List.mem_singleton, Nat.zero_add]
    exact ⟨fun h => h.resolve_right (Nat.ne_of_lt hk), Or.inl⟩

/-- the read stopped one byte short and that byte was the last position listed: dropping it is deleting it -/
theorem rule_truncated (D : Bytes) (x : Nat) (init : List Nat) (hin : ∀ i ∈ init, i < D.length) :
    ruleApply D (init ++ [D.length]) = some (deleteIdx (D ++ [x]) (init ++ [D.length])) := by
  rw [ruleApply, if_pos List.getLast?_concat, List.dropLast_concat, deleteChecked_of_lt D init hin,
    ← delete_ignore_end, deleteIdx, deleteIdx, deleteFrom_append, deleteFrom_drop _ _ _ _ (by simp), deleteIdxFrom,
    List.append_nil]

theorem deleteChecked_some (l x : Bytes) (idxs : List Nat) (h : deleteChecked l idxs = some x) :
    x = deleteIdx l idxs := by
  rw [deleteChecked] at h
  split at h
  · exact (Option.some.inj h).symm
  · cases h

theorem checked_eq_of_some (file : Bytes) (r : IdxRow) (a b : Nat) (x : Bytes)
    (h : fetchIntervalChecked file r a b = some x) : x = fetchInterval file r a b := by
  rw [fetchIntervalChecked_eq] at h
  rw [fetchInterval_eq, deleteChecked_some _ _ _ h]
  split
  · rename_i hl
    obtain ⟨ys, hys⟩ := List.getLast?_eq_some_iff.mp hl
    rw [hys, List.dropLast_concat, delete_ignore_end]
  · rfl

theorem newline_mono (V r j m : Nat) (hr : r ≤ V) (hj : j < m) :
    (V + 1) * (j + 1) - 1 - r < (V + 1) * (m + 1) - 1 - r := by
  rw [newline_eq V r j hr, newline_eq V r m hr]
  exact Nat.add_lt_add_right ((Nat.mul_lt_mul_left (Nat.succ_pos V)).mpr hj) _

/-- the read ends where the block ends only if `b` is the last base and ends a full line -/
theorem dvd_of_posOf_eq_end (V n b : Nat) (hb : b ≤ n + 1) (h : posOf V b = posOf V n + 2) : V ∣ b := by
  rcases Nat.eq_or_lt_of_le hb with rfl | hlt
  · rw [posOf_succ] at h
    split at h
    · assumption
    · omega
  · have := posOf_mono V b n (Nat.le_of_lt_succ hlt)
    omega

/-- when `b` ends a full line the last position listed is the last byte of the window (the newline after base
`b − 1`): exactly one past a read that the end of the file cut short -/
theorem newlines_full_line (V a b : Nat) (hV : 0 < V) (hab : a < b) (hbV : V ∣ b) :
    ∃ m, b / V - a / V = m + 1 ∧ posOf V b - posOf V a = (V + 1) * (m + 1) - 1 - a % V + 1 := by
  obtain ⟨m, hm⟩ := Nat.exists_eq_add_of_lt
    (Nat.div_lt_of_lt_mul (by rw [Nat.mul_div_cancel' hbV]; exact hab) : a / V < b / V)
  refine ⟨m, by rw [hm, Nat.add_assoc, Nat.add_sub_cancel_left], ?_⟩
  have hb : posOf V b = (V + 1) * (b / V) := by rw [posOf, Nat.mod_eq_zero_of_dvd hbV, Nat.mul_comm]; rfl
  rw [hb, hm, ← newline_abs V a m hV, Nat.add_assoc, Nat.add_sub_cancel_left]

/-- The bytes read are compared with the window `R` of the complete block (`delete_window`, `rule_complete`). They
differ only when the file ends before the newline and the read reaches it: then `R` is the bytes read plus that
newline, the last position listed (`rule_truncated`) -/
theorem fetchChecked_block (V : Nat) (hV : 0 < V) (pre seq tail name : Bytes) (hne : seq ≠ []) (a b : Nat)
    (hab : a ≤ b) (hb : b ≤ seq.length) (htail : tail = [] ∨ ∃ post, tail = 10 :: post) :
    fetchIntervalChecked (pre ++ (wrapBytes V seq).dropLast ++ tail) ⟨name, seq.length, pre.length, V, V + 1⟩ a b
      = some ((seq.drop a).take (b - a)) := by
  obtain ⟨n, hn⟩ := length_eq_succ seq hne
  obtain ⟨D, hD⟩ := wrap_eq_concat V hV seq hne
  have hwin := delete_window V hV seq a b hab hb
  have hle := posOf_le_wrap V hV seq b hb
  have hlen := wrap_length V hV seq n hn
  have hs := posOf_mono V a b hab
  rw [hD] at hwin hle hlen
  rw [hD, List.dropLast_concat, ← hwin, fetchIntervalChecked_eq]
  -- `rawRead`, `newlineIdxs` on this row; the byte offsets are `posOf V a`, `posOf V b`
  show ruleApply (((pre ++ D ++ tail).drop (pre.length + posOf V a)).take (posOf V b - posOf V a))
    ((List.range (b / V - a / V)).map (fun j => (V + 1) * (j + 1) - 1 - a % V)) = _
  rw [List.append_assoc, List.drop_length_add_append]
  have hin : ∀ i ∈ (List.range (b / V - a / V)).map (fun j => (V + 1) * (j + 1) - 1 - a % V),
      i < (((D ++ [10]).drop (posOf V a)).take (posOf V b - posOf V a)).length := by
    intro i hi
    obtain ⟨j, hj, rfl⟩ := List.mem_map.mp hi
    rw [List.length_take_of_le (by rw [List.length_drop]; exact Nat.sub_le_sub_right hle _)]
    exact newline_lt V a b j hV (List.mem_range.mp hj)
  have hsum : posOf V a + (posOf V b - posOf V a) = posOf V b := Nat.add_sub_cancel' hs
  rcases htail with rfl | ⟨post, rfl⟩
  · by_cases hlt : posOf V b ≤ D.length
    · rw [List.append_nil, ← Base.take_drop_append D [10] _ _ (Nat.le_trans (Nat.le_of_eq hsum) hlt)]
      exact rule_complete _ _ hin
    · -- `newlines_full_line` needs `a < b`
      rcases Nat.eq_or_lt_of_le hab with rfl | hab
      · rw [Nat.sub_self, Nat.sub_self]; rfl
      · rw [List.length_append, List.length_singleton] at hle hlen
        have hend : posOf V b = D.length + 1 := Nat.le_antisymm hle (Nat.lt_of_not_le hlt)
        obtain ⟨m, hm, hlast⟩ := newlines_full_line V a b hV hab (dvd_of_posOf_eq_end V n b (hn ▸ hb) (hend.trans hlen))
        rw [hend] at hlast ⊢
        have ha : posOf V a ≤ D.length := Nat.le_of_lt_succ (Nat.lt_of_sub_pos (hlast.symm ▸ Nat.succ_pos _))
        have hX : (D.drop (posOf V a)).length = (V + 1) * (m + 1) - 1 - a % V := by
          rw [List.length_drop]; exact Nat.succ.inj ((Nat.succ_sub ha).symm.trans hlast)
        rw [List.append_nil, List.drop_append_of_le_length ha,
          List.take_of_length_le (by rw [hX, hlast]; exact Nat.le_succ _),
          List.take_of_length_le (by rw [List.length_append, hX, hlast]; exact Nat.le_refl _),
          hm, List.range_succ, List.map_append, List.map_singleton, ← hX]
        refine rule_truncated _ 10 _ fun i hi => ?_
        obtain ⟨j, hj, rfl⟩ := List.mem_map.mp hi
        rw [hX]
        exact newline_mono V _ j m (Nat.le_of_lt (Nat.mod_lt a hV)) (List.mem_range.mp hj)
  · rw [← List.singleton_append, ← List.append_assoc, Base.take_drop_append _ post _ _ (Nat.le_trans (Nat.le_of_eq hsum) hle)]
    exact rule_complete _ _ hin

/-- **C17.fetch_interval_checked**: with NumPy's bounds check on `np.delete` modelled, the repaired interval read
returns `seq[a:b]` — for a record followed by its newline, and for the last record of a file without final
newline (last line full or short) -/
theorem fetch_interval_checked (pre seq tail : Bytes) (W : Nat) (hW : 0 < W) (hs : seq ≠ []) (name : Bytes)
    (a b : Nat) (hab : a ≤ b) (hb : b ≤ seq.length) (htail : tail = [] ∨ ∃ post, tail = 10 :: post) :
    fetchIntervalChecked (pre ++ (wrapBytes W seq).dropLast ++ tail)
      ⟨name, seq.length, pre.length, min W seq.length, min W seq.length + 1⟩ a b
      = some ((seq.drop a).take (b - a)) := by
  rw [wrap_min W hW seq hs]
  exact fetchChecked_block _ (min_pos W seq hW hs) pre seq tail name hs a b hab hb htail

/-- **C17.fetch_no_final_newline_old_unsound**: the rule shipped before the repair raised IndexError on
`>a\nACGT`, interval `[0, 4)`: it deleted position 4 of the 4 bytes it had read -/
theorem fetch_no_final_newline_old_unsound :
    fetchIntervalOld (">a\nACGT".toList.map Char.toNat) ⟨"a".toList.map Char.toNat, 4, 3, 4, 5⟩ 0 4 = none ∧
    fetchIntervalChecked (">a\nACGT".toList.map Char.toNat) ⟨"a".toList.map Char.toNat, 4, 3, 4, 5⟩ 0 4
      = some ("ACGT".toList.map Char.toNat) := by
  -- the kernel would spend most of its time decoding the string literals
  rw [String.toList_ofList, String.toList_ofList, String.toList_ofList]
  decide +kernel

/-- **C17.fetch_interval**: for a record stored anywhere in a file, with the index row the property prescribes,
every interval `0 ≤ a ≤ b ≤ L` is fetched as exactly `seq[a:b]`, wherever `a` and `b` fall relative to line breaks -/
theorem fetch_interval (pre post seq : Bytes) (W : Nat) (hW : 0 < W) (hs : seq ≠ []) (name : Bytes)
    (a b : Nat) (hab : a ≤ b) (hb : b ≤ seq.length) :
    fetchInterval (pre ++ wrapBytes W seq ++ post)
      ⟨name, seq.length, pre.length, min W seq.length, min W seq.length + 1⟩ a b
      = (seq.drop a).take (b - a) := by
  have h := fetch_interval_checked pre seq (10 :: post) W hW hs name a b hab hb (Or.inr ⟨post, rfl⟩)
  rw [file_with_newline pre post seq W hW hs] at h
  exact (checked_eq_of_some _ _ _ _ _ h).symm

example : fetchInterval (">a\nACGTA\nCG\n>b\nTT\n".toList.map Char.toNat)
    ⟨"a".toList.map Char.toNat, 7, 3, 5, 6⟩ 4 6 = "AC".toList.map Char.toNat := by
  rw [String.toList_ofList, String.toList_ofList, String.toList_ofList]
  decide +kernel

theorem reshape_get (W : Nat) (hW : 0 < W) (n : Nat) (data : Bytes) (i : Nat) (hi : i < n * W)
    (hlen : n * (W + 1) ≤ data.length) : (reshapeCols (W + 1) W n data)[i]? = data[posOf W i]? := by
  induction n generalizing data i with
  | zero => rw [Nat.zero_mul] at hi; exact absurd hi (Nat.not_lt_zero i)
  | succ m ih =>
    rw [Nat.succ_mul] at hi hlen
    have hl : ((data.take (W + 1)).take W).length = W := by
      rw [List.take_take, List.length_take_of_le (Nat.le_trans (Nat.min_le_left _ _) (Nat.le_trans (Nat.le_trans (Nat.le_succ W) (Nat.le_add_left _ _)) hlen)),
        Nat.min_eq_left (Nat.le_succ W)]
    rw [reshapeCols]
    by_cases hlt : i < W
    · rw [List.getElem?_append_left (Nat.lt_of_lt_of_eq hlt hl.symm), posOf_lt W i hlt, List.take_take,
        List.getElem?_take_of_lt (Nat.lt_min.mpr ⟨hlt, Nat.lt_succ_of_lt hlt⟩)]
    · obtain ⟨i, rfl⟩ : ∃ i', i = i' + W := ⟨i - W, (Nat.sub_add_cancel (Nat.le_of_not_lt hlt)).symm⟩
      rw [List.getElem?_append_right (Nat.le_trans (Nat.le_of_eq hl) (Nat.le_add_left W i)), hl, Nat.add_sub_cancel, posOf_add W i hW,
        ih (data.drop (W + 1)) i (Nat.lt_of_add_lt_add_right hi)
          (by rw [List.length_drop]; exact Nat.le_sub_of_add_le hlen), List.getElem?_drop]

/-- `__getitem__` on `n + 1` bases: `n / V + 1` rows, and the read stops right after the last base -/
theorem contig_rows (V n : Nat) (hV : 0 < V) :
    (n + 1 + V - 1) / V = n / V + 1 ∧
    (n / V + 1 - 1) * (V + 1) + (n + 1 - (n / V + 1 - 1) * V) = posOf V n + 1 := by
  have := Nat.div_add_mod n V
  rw [Nat.add_right_comm n 1 V, Nat.add_sub_cancel, Nat.add_div_right n hV, Nat.add_sub_cancel, posOf, Nat.mul_comm (n / V) V]
  exact ⟨rfl, by omega⟩

/-- the read stops right after the last base: it reads the block without its final newline, whatever follows -/
theorem fetchContig_block (V : Nat) (hV : 0 < V) (pre seq tail name : Bytes) (hne : seq ≠ []) :
    fetchContig (pre ++ (wrapBytes V seq).dropLast ++ tail) ⟨name, seq.length, pre.length, V, V + 1⟩ = seq := by
  obtain ⟨n, hn⟩ := length_eq_succ seq hne
  obtain ⟨D, hD⟩ := wrap_eq_concat V hV seq hne
  have hlen := wrap_length V hV seq n hn
  rw [hD, List.length_append, List.length_singleton] at hlen
  have hlay := fun i hi => layout V hV seq i hi
  rw [hD] at hlay
  rw [hD, List.dropLast_concat, fetchContig, readAt]
  dsimp only
  rw [hn, (contig_rows V n hV).1, (contig_rows V n hV).2, List.append_assoc, List.drop_left,
    List.take_left' (Nat.succ.inj hlen)]
  refine List.ext_getElem? fun i => ?_
  by_cases hi : i < n + 1
  · have hp : posOf V i < D.length := Nat.succ.inj hlen ▸ Nat.lt_succ_of_le (posOf_mono V i n (Nat.le_of_lt_succ hi))
    rw [List.getElem?_take_of_lt hi, reshape_get V hV _ _ i
        (Nat.lt_of_lt_of_le hi (Nat.mul_comm V _ ▸ Nat.lt_mul_div_succ n hV))
        (by rw [List.length_append, List.length_replicate, Nat.mul_comm, Nat.add_comm D.length]
            exact Nat.le_add_of_sub_le (Nat.le_refl _)),
      List.getElem?_append_left hp, ← hlay i (hn ▸ hi), List.getElem?_append_left hp]
  · have hi := Nat.le_of_not_lt hi
    rw [List.getElem?_eq_none (Nat.le_trans (List.length_take_le _ _) hi), List.getElem?_eq_none (hn ▸ hi)]

/-- **C17.fetch_contig**: for a record stored anywhere in a file, with the index row the property prescribes,
`__getitem__` returns the whole sequence -/
theorem fetch_contig (pre post seq : Bytes) (W : Nat) (hW : 0 < W) (hs : seq ≠ []) (name : Bytes) :
    fetchContig (pre ++ wrapBytes W seq ++ post)
      ⟨name, seq.length, pre.length, min W seq.length, min W seq.length + 1⟩ = seq := by
  rw [← file_with_newline pre post seq W hW hs, wrap_min W hW seq hs]
  exact fetchContig_block _ (min_pos W seq hW hs) pre seq _ name hs

/-- **C17.fetch_contig_no_final_newline**: the same for the last record of a file without final newline -/
theorem fetch_contig_no_final_newline (pre seq : Bytes) (W : Nat) (hW : 0 < W) (hs : seq ≠ []) (name : Bytes) :
    fetchContig (pre ++ (wrapBytes W seq).dropLast)
      ⟨name, seq.length, pre.length, min W seq.length, min W seq.length + 1⟩ = seq := by
  rw [wrap_min W hW seq hs, ← List.append_nil (pre ++ _)]
  exact fetchContig_block _ (min_pos W seq hW hs) pre seq [] name hs

/-- the lines of a wrapped block -/
def chunks (W : Nat) (seq : Bytes) : List Bytes :=
  if _h : seq = [] ∨ W = 0 then [] else seq.take W :: chunks W (seq.drop W)
termination_by seq.length
decreasing_by
  have : seq.length ≠ 0 := fun hc => _h (Or.inl (List.eq_nil_of_length_eq_zero hc))
  simp only [List.length_drop]; omega

theorem chunks_nil (W : Nat) : chunks W [] = [] := by rw [chunks]; simp

theorem chunks_cons (W : Nat) (hW : 0 < W) (seq : Bytes) (hs : seq ≠ []) :
    chunks W seq = seq.take W :: chunks W (seq.drop W) := by
  rw [chunks, dif_neg (not_or.mpr ⟨hs, Nat.ne_of_gt hW⟩)]

theorem chunks_widths (W : Nat) (hW : 0 < W) (seq : Bytes) :
    (chunks W seq).flatten = seq ∧ ∀ l ∈ chunks W seq, 0 < l.length ∧ l.length ≤ W := by
  induction seq using Base.drop_induction W hW with
  | nil => rw [chunks_nil]; exact ⟨rfl, fun _ h => nomatch h⟩
  | step seq hs ih =>
    rw [chunks_cons W hW seq hs, List.flatten_cons, ih.1, List.take_append_drop]
    refine ⟨rfl, fun l hl => ?_⟩
    rcases List.mem_cons.mp hl with rfl | hl
    · rw [List.length_take]
      exact ⟨Nat.lt_min.mpr ⟨hW, List.length_pos_iff.mpr hs⟩, Nat.min_le_left _ _⟩
    · exact ih.2 l hl

theorem wrap_eq_join (W : Nat) (hW : 0 < W) (seq : Bytes) :
    wrapBytes W seq = ((chunks W seq).map (· ++ [10])).flatten := by
  induction seq using Base.drop_induction W hW with
  | nil => rw [wrap_nil, chunks_nil]; rfl
  | step seq hs ih =>
    rw [wrap_cons W hW seq hs, chunks_cons W hW seq hs, ih, List.map_cons, List.flatten_cons, List.append_assoc,
      List.singleton_append]

theorem lines_line (cur l rest : Bytes) (h : 10 ∉ l) :
    linesAux cur (l ++ 10 :: rest) = (cur.reverse ++ l) :: linesAux [] rest := by
  induction l generalizing cur with
  | nil => simp [linesAux]
  | cons c cs ih =>
    have hc : c ≠ 10 := fun hc => h (by simp [hc])
    simp only [List.cons_append, linesAux, hc, if_false]
    rw [ih (c :: cur) (fun hm => h (by simp [hm]))]
    simp

/-- **C17.lines_join**: `linesOf` is the inverse of "terminate every line with a newline" -/
theorem lines_join (ls : List Bytes) (h : ∀ l ∈ ls, 10 ∉ l) :
    linesOf (ls.map (· ++ [10])).flatten = ls := by
  unfold linesOf
  induction ls with
  | nil => rfl
  | cons l r ih =>
    rw [List.map_cons, List.flatten_cons, List.append_assoc, List.singleton_append,
      lines_line [] l _ (h l List.mem_cons_self), ih (List.forall_mem_cons.mp h).2]
    rfl

theorem lines_cut (cur X rest : Bytes) :
    linesAux cur (X ++ 10 :: rest) = linesAux cur (X ++ [10]) ++ linesAux [] rest := by
  induction X generalizing cur with
  | nil => simp [linesAux]
  | cons x xs ih => simp only [List.cons_append, linesAux]; split <;> simp [ih]

/-- the converse of `lines_join`, for bytes that end with a newline -/
theorem join_lines (cur X : Bytes) :
    ((linesAux cur (X ++ [10])).map (· ++ [10])).flatten = cur.reverse ++ X ++ [10] := by
  induction X generalizing cur with
  | nil => simp [linesAux]
  | cons x xs ih => simp only [List.cons_append, linesAux]; split <;> simp [*]

structure WFRec (r : Rec) : Prop where
  width_pos : 0 < r.width
  seq_ne : r.seq ≠ []
  header_nl : 10 ∉ r.header
  seq_nl : 10 ∉ r.seq
  -- stronger than needed: only a `'>'` at the START of a line is read as a header
  seq_marker : 62 ∉ r.seq

/-- the lines of a record followed by `k` empty lines -/
def recLines (p : Rec × Nat) : List Bytes :=
  (62 :: p.1.header) :: (chunks p.1.width p.1.seq ++ List.replicate p.2 [])

theorem mem_seqLines (W : Nat) (hW : 0 < W) (seq : Bytes) (k : Nat) (l : Bytes)
    (hl : l ∈ chunks W seq ++ List.replicate k []) (x : Nat) (hx : x ∈ l) : x ∈ seq := by
  rcases List.mem_append.mp hl with hl | hl
  · exact (chunks_widths W hW seq).1 ▸ List.mem_flatten.mpr ⟨l, hl, hx⟩
  · rw [List.eq_of_mem_replicate hl] at hx; cases hx

theorem mem_wrap (W : Nat) (hW : 0 < W) (seq : Bytes) (x : Nat) (hx : x ∈ wrapBytes W seq) : x = 10 ∨ x ∈ seq := by
  rw [wrap_eq_join W hW] at hx
  obtain ⟨_, hq, hx⟩ := List.mem_flatten.mp hx
  obtain ⟨l, hl, rfl⟩ := List.mem_map.mp hq
  exact (List.mem_append.mp hx).symm.imp List.mem_singleton.mp
    (mem_seqLines W hW seq 0 l (List.mem_append_left _ hl) x)

theorem fileOfB_eq_join (rs : List (Rec × Nat)) (h : ∀ p ∈ rs, WFRec p.1) :
    fileOfB rs = ((rs.map recLines).flatten.map (· ++ [10])).flatten := by
  rw [List.map_flatten, List.flatten_flatten, List.map_map, List.map_map, fileOfB]
  refine congrArg _ (List.map_congr_left fun p hp => ?_)
  simp [recLines, recBytes, wrap_eq_join _ (h p hp).width_pos]

theorem lines_newline_free (rs : List (Rec × Nat)) (h : ∀ p ∈ rs, WFRec p.1) :
    ∀ l ∈ (rs.map recLines).flatten, 10 ∉ l := by
  intro l hl
  obtain ⟨_, hq, hl⟩ := List.mem_flatten.mp hl
  obtain ⟨p, hp, rfl⟩ := List.mem_map.mp hq
  have hw := h p hp
  rcases List.mem_cons.mp hl with rfl | hl
  · simpa using hw.header_nl
  · exact fun hm => hw.seq_nl (mem_seqLines _ hw.width_pos _ _ l hl 10 hm)

theorem indexLines_record (off : Nat) (h : Bytes) (body rest : List Bytes)
    (hbody : ∀ l ∈ body, isHeader l = false) (hrest : ∀ l ∈ rest.head?, isHeader l = true) :
    indexLines off (h :: (body ++ rest)) =
      ⟨h.drop 1, (body.map List.length).sum, off + h.length + 1, (body.headD []).length, (body.headD []).length + 1⟩ ::
        indexLines (off + h.length + 1 + (body.map (fun l => l.length + 1)).sum) rest := by
  have hb : ∀ l ∈ body, (!isHeader l) = true := fun l hl => by rw [hbody l hl]; rfl
  have hr : rest.takeWhile (fun l => !isHeader l) = [] ∧ rest.dropWhile (fun l => !isHeader l) = rest := by
    cases rest with
    | nil => exact ⟨rfl, rfl⟩
    | cons y ys => simp [hrest y rfl]
  rw [indexLines]
  simp only [List.takeWhile_append_of_pos hb, List.dropWhile_append_of_pos hb, hr, List.append_nil]

theorem seqLines_sums (W : Nat) (hW : 0 < W) (seq : Bytes) (hs : seq ≠ []) (k : Nat) :
    ((chunks W seq ++ List.replicate k ([] : Bytes)).map List.length).sum = seq.length ∧
    ((chunks W seq ++ List.replicate k ([] : Bytes)).map (fun l => l.length + 1)).sum = (wrapBytes W seq).length + k ∧
    ((chunks W seq ++ List.replicate k ([] : Bytes)).headD []).length = min W seq.length := by
  refine ⟨?_, ?_, ?_⟩
  · rw [List.map_append, List.sum_append, ← List.length_flatten, (chunks_widths W hW seq).1, List.map_replicate,
      List.sum_replicate_nat]
    rfl
  · rw [List.map_append, List.sum_append, wrap_eq_join W hW, List.length_flatten, List.map_map, List.map_replicate,
      List.sum_replicate_nat]
    simp only [Function.comp_def, List.length_append, List.length_cons, List.length_nil, Nat.zero_add, Nat.mul_one]
  · rw [chunks_cons W hW seq hs]
    exact List.length_take

theorem seqLines_not_header (r : Rec) (hw : WFRec r) (k : Nat) :
    ∀ l ∈ chunks r.width r.seq ++ List.replicate k [], isHeader l = false := by
  intro l hl
  cases l with
  | nil => rfl
  | cons x xs =>
    have : x ≠ 62 := fun hx => hw.seq_marker (hx ▸ mem_seqLines _ hw.width_pos _ _ _ hl x List.mem_cons_self)
    simp [isHeader, this]

theorem index_from (off : Nat) (rs : List (Rec × Nat)) (h : ∀ p ∈ rs, WFRec p.1) :
    indexLines off (rs.map recLines).flatten = specIndexFromB off rs := by
  induction rs generalizing off with
  | nil => rw [List.map_nil, List.flatten_nil, indexLines, specIndexFromB]
  | cons p rs ih =>
    obtain ⟨r, k⟩ := p
    have hw := h (r, k) List.mem_cons_self
    obtain ⟨s1, s2, s3⟩ := seqLines_sums r.width hw.width_pos r.seq hw.seq_ne k
    rw [List.map_cons, List.flatten_cons, recLines, List.cons_append, indexLines_record off _ _ _ ?body ?rest,
      ih _ (List.forall_mem_cons.mp h).2, specIndexFromB, s1, s2, s3, List.length_cons]
    · rw [← Nat.add_assoc off, ← Nat.add_assoc _ _ k]; rfl
    case body => exact seqLines_not_header r hw k
    case rest =>
      cases rs with
      | nil => exact fun _ hl => nomatch hl
      | cons q qs => intro l hl; cases hl; rfl

/-- **C17.firstWord_spec**: the name is the longest whitespace-free prefix of the header -/
theorem firstWord_spec (h : Bytes) :
    ∃ rest, h = firstWord h ++ rest ∧ (∀ b ∈ firstWord h, isWs b = false) ∧
      (rest = [] ∨ ∃ c t, rest = c :: t ∧ isWs c = true) := by
  unfold firstWord
  induction h with
  | nil => exact ⟨[], rfl, by simp, Or.inl rfl⟩
  | cons c cs ih =>
    cases hc : isWs c with
    | true => exact ⟨c :: cs, by simp [hc], by simp [hc], Or.inr ⟨c, cs, rfl, hc⟩⟩
    | false =>
      obtain ⟨rest, e1, e2, e3⟩ := ih
      rw [List.takeWhile_cons_of_pos (by rw [hc]; rfl)]
      exact ⟨rest, congrArg (c :: ·) e1, fun b hb => (List.mem_cons.mp hb).elim (· ▸ hc) (e2 b), e3⟩

theorem firstWord_idem (h : Bytes) : firstWord (firstWord h) = firstWord h := by
  unfold firstWord
  induction h with
  | nil => rfl
  | cons c cs ih => by_cases hp : isWs c <;> simp [hp, ih]

/-- a name that `str.split()` returns as it is: non-empty, no whitespace -/
def goodName (n : Bytes) : Prop := n ≠ [] ∧ ∀ b ∈ n, isWs b = false

theorem firstWord_good (n : Bytes) (h : goodName n) : firstWord n = n := by
  simpa [firstWord] using
    List.takeWhile_append_of_pos (p := fun b => !isWs b) (l₂ := []) fun b hb => by rw [h.2 b hb]; rfl

theorem firstWord_goodName (h : Bytes) (hh : ∃ c t, h = c :: t ∧ isWs c = false) : goodName (firstWord h) := by
  obtain ⟨c, t, rfl, hc⟩ := hh
  obtain ⟨_, -, hws, -⟩ := firstWord_spec (c :: t)
  exact ⟨by simp [firstWord, hc], hws⟩

theorem contigLengths_rename (idx : List IdxRow) :
    contigLengths (idx.map fun r => { r with name := firstWord r.name }) = contigLengths idx := by
  simp [contigLengths, firstWord_idem]

theorem specB_fields {α} (f : Bytes → Nat → α) (off : Nat) (rs : List (Rec × Nat)) :
    (specIndexFromB off rs).map (fun x => f x.name x.rlen) = rs.map (fun p => f p.1.header p.1.seq.length) := by
  induction rs generalizing off with
  | nil => rfl
  | cons p rs ih => obtain ⟨r, k⟩ := p; rw [specIndexFromB, List.map_cons, List.map_cons, ih]

/-- **C17.index_rows_blank**: records separated by blank lines (any number of empty lines after any record, the
last included): the built index lists header, TRUE sequence length (the sum of the line lengths), offset of the
first base, bases per line and bytes per line; the empty lines only move later offsets -/
theorem index_rows_blank (rs : List (Rec × Nat)) (h : ∀ p ∈ rs, WFRec p.1) :
    buildIndex (fileOfB rs) = specIndexFromB 0 rs ∧
    contigLengths (createIndex (fileOfB rs)) = rs.map (fun p => (firstWord p.1.header, p.1.seq.length)) := by
  have hb : buildIndex (fileOfB rs) = specIndexFromB 0 rs := by
    rw [buildIndex, fileOfB_eq_join rs h, lines_join _ (lines_newline_free rs h), index_from 0 rs h]
  refine ⟨hb, ?_⟩
  rw [createIndex, hb, contigLengths_rename, contigLengths]
  exact specB_fields (fun n l => (firstWord n, l)) 0 rs

example : ∃ rs : List (Rec × Nat), (∀ p ∈ rs, WFRec p.1) ∧ rs.map (·.2) = [2, 0] :=
  ⟨[(⟨"a d".toList.map Char.toNat, "ACGTACG".toList.map Char.toNat, 5⟩, 2), (⟨"b".toList.map Char.toNat, "TT".toList.map Char.toNat, 60⟩, 0)], by
    rw [String.toList_ofList, String.toList_ofList, String.toList_ofList, String.toList_ofList]
    intro p hp
    rcases List.mem_cons.mp hp with rfl | hp
    · constructor <;> decide
    · cases List.mem_singleton.mp hp
      constructor <;> decide, rfl⟩

theorem fileOf_eq_blank (rs : List Rec) : fileOf rs = fileOfB (rs.map (·, 0)) := by
  simp [fileOf, fileOfB, Function.comp_def]

theorem specIndexFrom_eq_blank (off : Nat) (rs : List Rec) :
    specIndexFrom off rs = specIndexFromB off (rs.map (·, 0)) := by
  induction rs generalizing off with
  | nil => rfl
  | cons r rs ih => rw [List.map_cons, specIndexFromB, specIndexFrom, ih]; rfl

theorem wf_blank (rs : List Rec) (h : ∀ r ∈ rs, WFRec r) : ∀ p ∈ rs.map (·, 0), WFRec p.1 := fun p hp => by
  obtain ⟨r, hr, rfl⟩ := List.mem_map.mp hp
  exact h r hr

/-- **C17.index_rows**: for every FASTA made of well-formed records (any width per record, last line short or
full, headers with descriptions) the built index lists header, true length, byte offset of the first base, bases
per line and bytes per line; `create_index` names each row by the first word of the header -/
theorem index_rows (rs : List Rec) (h : ∀ r ∈ rs, WFRec r) :
    buildIndex (fileOf rs) = specIndex rs ∧
    createIndex (fileOf rs) = (specIndex rs).map (fun r => { r with name := firstWord r.name }) := by
  have : buildIndex (fileOf rs) = specIndex rs := by
    rw [fileOf_eq_blank, specIndex, specIndexFrom_eq_blank]
    exact (index_rows_blank _ (wf_blank rs h)).1
  exact ⟨this, by rw [createIndex, this]⟩

example : WFRec ⟨"a desc".toList.map Char.toNat, "ACGTACG".toList.map Char.toNat, 5⟩ := by
  rw [String.toList_ofList, String.toList_ofList]
  constructor <;> decide

/-- **C17.contig_lengths**: the contig lengths reported for a file are the true sequence lengths -/
theorem contig_lengths (rs : List Rec) (hwf : ∀ x ∈ rs, WFRec x) :
    contigLengths (createIndex (fileOf rs)) = rs.map (fun r => (firstWord r.header, r.seq.length)) := by
  rw [fileOf_eq_blank, (index_rows_blank _ (wf_blank rs hwf)).2, List.map_map]
  rfl

/-- **C17.contig_lengths_old_unsound**: the rule shipped before the repair reported bases-per-line: for `>a\nACGTA\nCG\n` (index row
`a 7 3 5 6`, see `index_rows`) it gave `{'a': 5}`; the true length is 7 -/
theorem contig_lengths_old_unsound :
    contigLengthsOld [⟨"a".toList.map Char.toNat, 7, 3, 5, 6⟩] = [("a".toList.map Char.toNat, 5)] ∧
    contigLengths [⟨"a".toList.map Char.toNat, 7, 3, 5, 6⟩] = [("a".toList.map Char.toNat, 7)] := by
  rw [String.toList_ofList]
  decide +kernel

theorem fileOf_append (rs1 rs2 : List Rec) : fileOf (rs1 ++ rs2) = fileOf rs1 ++ fileOf rs2 := by
  simp [fileOf]

theorem fileOf_cons (r : Rec) (rs : List Rec) : fileOf (r :: rs) = recBytes r ++ fileOf rs := rfl

theorem lines_snoc (Y : Bytes) (c : Nat) (hc : c ≠ 10) (cur : Bytes) :
    linesAux cur (Y ++ [c]) = linesAux cur (Y ++ [c, 10]) := by
  induction Y generalizing cur with
  | nil => simp [linesAux, hc]
  | cons y ys ih => simp only [List.cons_append, linesAux, ih]

/-- **C17.index_rows_no_final_newline**: the index built from a FASTA whose last line is not followed
by a newline is the same as with the newline -/
theorem index_rows_no_final_newline (rs : List Rec) (h : ∀ r ∈ rs, WFRec r) (hne : rs ≠ []) :
    buildIndex (fileOf rs).dropLast = specIndex rs := by
  rw [← (index_rows rs h).1, buildIndex, buildIndex, linesOf, linesOf]
  obtain ⟨rs', r, rfl⟩ : ∃ rs' r, rs = rs' ++ [r] := ⟨_, _, (List.dropLast_concat_getLast hne).symm⟩
  have hr := h r (by simp)
  obtain ⟨Y, c, hY, hc⟩ := wrap_ends r.width hr.width_pos r.seq hr.seq_ne
  rw [fileOf_append, fileOf_cons, recBytes, hY, show fileOf [] = [] from rfl, List.append_nil,
    ← List.cons_append, ← List.append_assoc, ← List.append_assoc, List.append_cons _ c, List.dropLast_concat,
    ← List.append_cons]
  exact congrArg _ (lines_snoc _ c (fun h10 => hr.seq_nl (h10 ▸ hc)) [])

example : ∃ rs : List Rec, (∀ r ∈ rs, WFRec r) ∧ rs ≠ [] :=
  ⟨[⟨"a d".toList.map Char.toNat, "ACGTACGT".toList.map Char.toNat, 4⟩], by
    rw [String.toList_ofList, String.toList_ofList]
    intro r hr
    cases List.mem_singleton.mp hr
    constructor <;> decide, List.cons_ne_nil _ _⟩

theorem length_recBytes (r : Rec) :
    (recBytes r).length = r.header.length + 2 + (wrapBytes r.width r.seq).length := by
  simp [recBytes]; omega

theorem specIndexFrom_append (off : Nat) (rs1 rs2 : List Rec) :
    specIndexFrom off (rs1 ++ rs2) = specIndexFrom off rs1 ++ specIndexFrom (off + (fileOf rs1).length) rs2 := by
  induction rs1 generalizing off with
  | nil => rfl
  | cons r rs ih =>
    rw [List.cons_append, specIndexFrom, specIndexFrom, ih, fileOf_cons, List.length_append, length_recBytes,
      List.cons_append]
    simp only [Nat.add_assoc]

theorem spec_fields {α} (f : Bytes → Nat → α) (off : Nat) (rs : List Rec) :
    (specIndexFrom off rs).map (fun x => f x.name x.rlen) = rs.map (fun r => f r.header r.seq.length) := by
  rw [specIndexFrom_eq_blank, specB_fields, List.map_map]
  rfl

theorem length_specIndexFrom (off : Nat) (rs : List Rec) : (specIndexFrom off rs).length = rs.length := by
  simpa using congrArg List.length (spec_fields (fun _ _ => ()) off rs)

/-- the one source of `random_access`, `lookup_finds` and the step of `interval_set`; only the lookup is conditional -/
theorem record_row (rs1 rs2 : List Rec) (r : Rec) (hwf : ∀ x ∈ rs1 ++ r :: rs2, WFRec x) :
    ∃ row, (createIndex (fileOf (rs1 ++ r :: rs2)))[rs1.length]? = some row ∧
      ((∀ x ∈ rs1, firstWord x.header ≠ firstWord r.header) →
        lookup (createIndex (fileOf (rs1 ++ r :: rs2))) (firstWord r.header) = some row) ∧
      row.name = firstWord r.header ∧ row.rlen = r.seq.length ∧
      fetchContig (fileOf (rs1 ++ r :: rs2)) row = r.seq ∧
      ∀ a b, a ≤ b → b ≤ r.seq.length →
        fetchIntervalChecked (fileOf (rs1 ++ r :: rs2)) row a b = some ((r.seq.drop a).take (b - a)) := by
  have hr : WFRec r := hwf r (by simp)
  obtain ⟨pre, hpre⟩ : ∃ pre, pre = fileOf rs1 ++ (62 :: r.header ++ [10]) := ⟨_, rfl⟩
  have hfile : fileOf (rs1 ++ r :: rs2) = pre ++ (wrapBytes r.width r.seq).dropLast ++ 10 :: fileOf rs2 := by
    rw [file_with_newline _ _ _ _ hr.width_pos hr.seq_ne, hpre]
    simp [fileOf_append, fileOf_cons, recBytes]
  have hidx := (index_rows _ hwf).2
  rw [specIndex, specIndexFrom_append, List.map_append, specIndexFrom, List.map_cons,
    show 0 + (fileOf rs1).length + r.header.length + 2 = pre.length by
      rw [hpre]; simp only [List.length_append, List.length_cons, List.length_nil, Nat.zero_add, Nat.add_assoc]] at hidx
  have hlen : ((specIndexFrom 0 rs1).map fun x => { x with name := firstWord x.name }).length = rs1.length := by
    rw [List.length_map, length_specIndexFrom]
  refine ⟨⟨firstWord r.header, r.seq.length, pre.length, min r.width r.seq.length, min r.width r.seq.length + 1⟩,
    ?_, fun hdist => ?_, rfl, rfl, ?_, fun a b hab hb => ?_⟩
  · rw [hidx, ← hlen, List.getElem?_append_right (Nat.le_refl _), Nat.sub_self, List.getElem?_cons_zero]
  · rw [hidx, lookup, List.find?_append, List.find?_eq_none.mpr fun x hx => ?_, Option.none_or,
      List.find?_cons_of_pos (by simp [firstWord_idem])]
    obtain ⟨x0, hx0, rfl⟩ := List.mem_map.mp hx
    have : firstWord x0.name ∈ rs1.map fun y => firstWord y.header :=
      spec_fields (fun n _ => firstWord n) 0 rs1 ▸ List.mem_map_of_mem hx0
    obtain ⟨y, hy, he⟩ := List.mem_map.mp this
    rw [firstWord_idem, ← he]
    simpa using hdist y hy
  · rw [hfile, wrap_min r.width hr.width_pos r.seq hr.seq_ne]
    exact fetchContig_block _ (min_pos _ _ hr.width_pos hr.seq_ne) pre r.seq _ _ hr.seq_ne
  · rw [hfile]
    exact fetch_interval_checked pre r.seq _ r.width hr.width_pos hr.seq_ne _ a b hab hb (Or.inr ⟨_, rfl⟩)

/-- **C17.random_access**: in the file made of any well-formed records, the row built for the record at any
position names it by its first header word, carries its true length, and both reads through it return the
record's own bases -/
theorem random_access (rs1 rs2 : List Rec) (r : Rec) (hwf : ∀ x ∈ rs1 ++ r :: rs2, WFRec x)
    (a b : Nat) (hab : a ≤ b) (hb : b ≤ r.seq.length) :
    ∃ row, (createIndex (fileOf (rs1 ++ r :: rs2)))[rs1.length]? = some row ∧
      row.name = firstWord r.header ∧ row.rlen = r.seq.length ∧
      fetchInterval (fileOf (rs1 ++ r :: rs2)) row a b = (r.seq.drop a).take (b - a) ∧
      fetchContig (fileOf (rs1 ++ r :: rs2)) row = r.seq :=
  let ⟨row, hrow, _, hname, hlen, hcontig, hiv⟩ := record_row rs1 rs2 r hwf
  ⟨row, hrow, hname, hlen, (checked_eq_of_some _ _ _ _ _ (hiv a b hab hb)).symm, hcontig⟩

/-- **C17.lookup_finds**: looking a record up by name finds its row, provided no EARLIER record has the same
name (the model's `lookup` takes the first match) -/
theorem lookup_finds (rs1 rs2 : List Rec) (r : Rec) (hwf : ∀ x ∈ rs1 ++ r :: rs2, WFRec x)
    (hdist : ∀ x ∈ rs1, firstWord x.header ≠ firstWord r.header) :
    ∃ row, lookup (createIndex (fileOf (rs1 ++ r :: rs2))) (firstWord r.header) = some row ∧
      row.name = firstWord r.header ∧ row.rlen = r.seq.length ∧
      fetchContig (fileOf (rs1 ++ r :: rs2)) row = r.seq :=
  let ⟨row, _, hlook, hname, hlen, hcontig, _⟩ := record_row rs1 rs2 r hwf
  ⟨row, hlook hdist, hname, hlen, hcontig⟩

theorem specIndexFrom_shift (off k : Nat) (rs : List Rec) :
    (specIndexFrom off rs).map (fun r => { r with offset := r.offset + k }) = specIndexFrom (off + k) rs := by
  induction rs generalizing off with
  | nil => rfl
  | cons r rs ih =>
    rw [specIndexFrom, specIndexFrom, List.map_cons, ih]
    simp only [Nat.add_right_comm _ k]

theorem chunked_from (groups : List (List Rec)) (h : ∀ g ∈ groups, ∀ r ∈ g, WFRec r) (off : Nat) :
    createIndexChunkedFrom off (groups.map fileOf)
      = (specIndexFrom off groups.flatten).map (fun r => { r with name := firstWord r.name }) := by
  induction groups generalizing off with
  | nil => rfl
  | cons g gs ih =>
    have hs := specIndexFrom_shift 0 off g
    rw [Nat.zero_add] at hs
    rw [List.map_cons, createIndexChunkedFrom, (index_rows g (h g List.mem_cons_self)).1,
      ih (List.forall_mem_cons.mp h).2, List.flatten_cons, specIndexFrom_append, List.map_append,
      ← hs, List.map_map]
    rfl

/-- **C17.index_chunks**: for EVERY way of cutting the file at record boundaries into chunks (empty chunks
included), indexing the chunks separately and shifting by the accumulated chunk sizes gives the index of the
whole file. (That the reader cuts only right before a header line: `C01.readAll_bytes_fasta`.) -/
theorem index_chunks (groups : List (List Rec)) (h : ∀ g ∈ groups, ∀ r ∈ g, WFRec r) :
    createIndexChunked (groups.map fileOf) = createIndex (fileOf groups.flatten) := by
  rw [(index_rows _ fun r hr => let ⟨g, hg, hrg⟩ := List.mem_flatten.mp hr; h g hg r hrg).2]
  exact chunked_from groups h 0

def natText (n : Nat) : Bytes := C18.decimal (n : Int)

theorem natText_eq (n : Nat) : natText n = (C18.digitsBE n).map (· + 48) :=
  C18.decimal_nonneg _ (Int.natCast_nonneg n)

theorem natText_good (n : Nat) : goodName (natText n) := by
  rw [natText_eq]
  refine ⟨fun hc => ?_, fun b hb => ?_⟩
  · have := (C18.digitsBE_bounds n).2.2
    rw [List.map_eq_nil_iff.mp hc] at this
    exact Nat.lt_irrefl 0 this
  · obtain ⟨d, _, rfl⟩ := List.mem_map.mp hb
    simp [isWs]

theorem specNat_natText (n : Nat) : C18.specNat (natText n) = some n := by
  rw [natText_eq]; exact C18.specNat_digits n

def rowFields (r : IdxRow) : List Bytes := [r.name, natText r.rlen, natText r.offset, natText r.lenc, natText r.lenb]

/-- the range in which `ints_to_strings` is proved (`C18.format_int`) -/
def small (r : IdxRow) : Prop :=
  r.rlen < 2 ^ 63 ∧ r.offset < 2 ^ 63 ∧ r.lenc < 2 ^ 63 ∧ r.lenb < 2 ^ 63

theorem int64_of_lt (n : Nat) (h : n < 2 ^ 63) : C18.int64 n := by
  unfold C18.int64; omega

theorem faiLine_eq (r : IdxRow) (hs : small r) : faiLine r = List.intercalate [9] (rowFields r) ++ [10] := by
  rw [faiLine, C18.format_int _ (by
    simp only [List.forall_mem_cons]
    exact ⟨int64_of_lt _ hs.1, int64_of_lt _ hs.2.1, int64_of_lt _ hs.2.2.1, int64_of_lt _ hs.2.2.2, fun _ h => nomatch h⟩)]
  rfl

theorem fields_good (r : IdxRow) (hn : goodName r.name) : ∀ s ∈ rowFields r, goodName s := by
  simp only [rowFields, List.forall_mem_cons, natText_good, hn, true_and]
  exact fun _ h => nomatch h

theorem not_mem_intercalate (b sep : Nat) (strs : List Bytes) (hsep : b ≠ sep) (h : ∀ s ∈ strs, b ∉ s) :
    b ∉ List.intercalate [sep] strs := by
  induction strs with
  | nil => simp [List.intercalate]
  | cons s r ih =>
    cases r with
    | nil => simpa [List.intercalate] using h s (by simp)
    | cons s2 r' =>
      rw [List.intercalate_cons_cons, List.mem_append, List.mem_append, List.mem_singleton]
      rintro ((hm | hm) | hm)
      · exact h s List.mem_cons_self hm
      · exact hsep hm
      · exact ih (List.forall_mem_cons.mp h).2 hm

theorem field_no (b : Nat) (hb : isWs b = true) (r : IdxRow) (hn : goodName r.name) : ∀ s ∈ rowFields r, b ∉ s :=
  fun s hs hm => Bool.noConfusion (((fields_good r hn s hs).2 b hm).symm.trans hb)

theorem lines_fai (idx : List IdxRow) (hs : ∀ r ∈ idx, small r) (hn : ∀ r ∈ idx, goodName r.name) :
    linesOf (faiText idx) = idx.map (fun r => List.intercalate [9] (rowFields r)) := by
  have := lines_join (idx.map fun r => List.intercalate [9] (rowFields r)) fun l hl => by
    obtain ⟨r, hr, rfl⟩ := List.mem_map.mp hl
    exact not_mem_intercalate 10 9 _ (by decide) (field_no 10 (by decide) r (hn r hr))
  rw [List.map_map] at this
  rw [faiText, List.map_congr_left fun r hr => faiLine_eq r (hs r hr)]
  exact this

theorem parse_fai_line (r : IdxRow) (hn : goodName r.name) :
    parseFaiLine (List.intercalate [9] (rowFields r)) = some r := by
  rw [parseFaiLine, C18.split_join _ 9 (by simp [rowFields]) (field_no 9 (by decide) r hn)]
  simp only [rowFields, specNat_natText, firstWord_good r.name hn]

/-- **C17.fai_roundtrip**: the index file the library writes, read back by `read_index`, gives the
same rows (names that are single words, numbers below 2^63) -/
theorem fai_roundtrip (idx : List IdxRow) (hs : ∀ r ∈ idx, small r) (hn : ∀ r ∈ idx, goodName r.name) :
    readIndex (faiText idx) = some idx := by
  rw [readIndex, lines_fai idx hs hn]
  exact (Base.omap_map ..).trans (Base.omap_eq_self _ idx fun r hr => parse_fai_line r (hn r hr))

theorem wordsAux_push (cur s rest : Bytes) (hs : ∀ b ∈ s, isWs b = false) :
    wordsAux cur (s ++ rest) = wordsAux (s.reverse ++ cur) rest := by
  induction s generalizing cur with
  | nil => rfl
  | cons c cs ih =>
    rw [List.cons_append, wordsAux, if_neg (by simp [hs c List.mem_cons_self]),
      ih _ (List.forall_mem_cons.mp hs).2, List.reverse_cons, List.append_assoc]
    rfl

theorem words_join (strs : List Bytes) (h : ∀ s ∈ strs, goodName s) :
    words (List.intercalate [9] strs) = strs := by
  unfold words
  induction strs with
  | nil => rfl
  | cons s r ih =>
    obtain ⟨hne, hws⟩ := h s List.mem_cons_self
    have hr : s.reverse ≠ [] := fun hc => hne (List.reverse_eq_nil_iff.mp hc)
    cases r with
    | nil =>
      have := wordsAux_push [] s [] hws
      simp [List.intercalate, wordsAux, hr] at this ⊢
      exact this
    | cons s2 r' =>
      rw [List.intercalate_cons_cons, List.append_assoc, List.singleton_append, wordsAux_push [] s _ hws, List.append_nil, wordsAux, if_pos (by decide), if_neg hr,
        ih (List.forall_mem_cons.mp h).2, List.reverse_reverse]

/-- **C17.genome_sizes**: `Genome.from_file` on the written index sees every name with its true
sequence length column -/
theorem genome_sizes (idx : List IdxRow) (hs : ∀ r ∈ idx, small r) (hn : ∀ r ∈ idx, goodName r.name) :
    genomeSizes (faiText idx) = some (idx.map (fun r => (r.name, r.rlen))) := by
  rw [genomeSizes, lines_fai idx hs hn]
  refine (Base.omap_map ..).trans (Base.omap_some_map _ _ _ fun r hr => ?_)
  rw [words_join (rowFields r) (fields_good r (hn r hr))]
  simp only [rowFields, specNat_natText]

theorem spec_rows_bounds (off : Nat) (rs : List Rec) (h : ∀ r ∈ rs, WFRec r) :
    ∀ row ∈ specIndexFrom off rs, row.offset + row.rlen + 1 ≤ off + (fileOf rs).length ∧
      row.lenc ≤ row.rlen ∧ row.lenb = row.lenc + 1 := by
  induction rs generalizing off with
  | nil => exact fun _ hr => nomatch hr
  | cons r rs ih =>
    intro row hr
    have hwf := h r List.mem_cons_self
    rw [fileOf_cons, List.length_append, length_recBytes]
    rcases List.mem_cons.mp hr with rfl | hr
    · have hw := length_lt_wrap r.width hwf.width_pos r.seq hwf.seq_ne
      exact ⟨by simp only []; omega, Nat.min_le_right _ _, rfl⟩
    · have := ih _ (List.forall_mem_cons.mp h).2 row hr
      simp only [Nat.add_assoc] at this ⊢
      exact this

/-- **C17.fai_file**: for a file of well-formed records whose headers start with a non-blank (file smaller than
2^63 bytes): the index written next to the FASTA, read back by `read_index`, is the index built; and
`Genome.from_file` reads from it every record's name with its true sequence length -/
theorem fai_file (rs : List Rec) (h : ∀ r ∈ rs, WFRec r)
    (hh : ∀ r ∈ rs, ∃ c t, r.header = c :: t ∧ isWs c = false) (hsize : (fileOf rs).length < 2 ^ 63) :
    readIndex (faiText (createIndex (fileOf rs))) = some (createIndex (fileOf rs)) ∧
    genomeSizes (faiText (createIndex (fileOf rs))) = some (rs.map (fun r => (firstWord r.header, r.seq.length))) := by
  have hf : (createIndex (fileOf rs)).map (fun r => (r.name, r.rlen))
      = rs.map (fun r => (firstWord r.header, r.seq.length)) := by
    rw [(index_rows rs h).2, List.map_map]
    exact spec_fields (fun n l => (firstWord n, l)) 0 rs
  have hnames : ∀ row ∈ createIndex (fileOf rs), goodName row.name := fun row hr => by
    have := List.mem_map_of_mem (f := fun r : IdxRow => (r.name, r.rlen)) hr
    rw [hf] at this
    obtain ⟨r, hr, he⟩ := List.mem_map.mp this
    rw [← (Prod.mk.inj he).1]
    exact firstWord_goodName r.header (hh r hr)
  have hsmall : ∀ row ∈ createIndex (fileOf rs), small row := fun row hr => by
    rw [(index_rows rs h).2] at hr
    obtain ⟨row0, hr0, rfl⟩ := List.mem_map.mp hr
    have := spec_rows_bounds 0 rs h row0 hr0
    unfold small
    simp only []
    omega
  exact ⟨fai_roundtrip _ hsmall hnames, by rw [genome_sizes _ hsmall hnames, hf]⟩

/-- inside a record no newline is followed by `'>'`: the header has no newline, the block no `'>'` -/
theorem rec_no_marker (r : Rec) (hw : WFRec r) (X Y : Bytes) (h : recBytes r = X ++ 10 :: 62 :: Y) : False := by
  have h62 : 62 ∉ 10 :: wrapBytes r.width r.seq := fun hm =>
    (List.mem_cons.mp hm).elim (by decide) fun hm => (mem_wrap _ hw.width_pos _ _ hm).elim (by decide) hw.seq_marker
  cases X with
  | nil => cases h
  | cons x X =>
    rw [recBytes, List.cons_append, List.cons_append] at h
    rcases List.append_eq_append_iff.mp (List.cons.inj h).2 with ⟨Z, -, hZ⟩ | ⟨Z, hZ, hZ'⟩
    · exact h62 (hZ ▸ by simp)
    · cases Z with
      | nil => exact h62 ((List.nil_append _ ▸ hZ') ▸ by simp)
      | cons z Z => exact hw.header_nl (hZ ▸ (List.cons.inj hZ').1 ▸ by simp)

/-- **C17.cut_aligned**: a cut of a well-formed file after a newline and before a `'>'` is a record boundary -/
theorem cut_aligned (rs : List Rec) (h : ∀ r ∈ rs, WFRec r) (A B : Bytes) (hf : fileOf rs = A ++ B)
    (hA : A = [] ∨ A.getLast? = some 10) (hB : B = [] ∨ B.head? = some 62) :
    ∃ rs1 rs2, rs = rs1 ++ rs2 ∧ A = fileOf rs1 ∧ B = fileOf rs2 := by
  induction rs generalizing A with
  | nil =>
    obtain ⟨rfl, rfl⟩ := List.append_eq_nil_iff.mp hf.symm
    exact ⟨[], [], rfl, rfl, rfl⟩
  | cons r rs ih =>
    rw [fileOf_cons] at hf
    rcases List.append_eq_append_iff.mp hf with ⟨A', rfl, hA'⟩ | ⟨C, hC, rfl⟩
    · obtain ⟨rs1, rs2, rfl, rfl, rfl⟩ := ih (List.forall_mem_cons.mp h).2 A' hA' (by
        cases A' with
        | nil => exact Or.inl rfl
        | cons a A' => exact Or.inr (by simpa [List.getLast?_append] using hA))
      exact ⟨r :: rs1, rs2, rfl, rfl, rfl⟩
    · rcases hA with rfl | hA
      · exact ⟨[], r :: rs, rfl, rfl, by rw [fileOf_cons, hC]; rfl⟩
      · obtain ⟨A0, rfl⟩ := List.getLast?_eq_some_iff.mp hA
        cases C with
        | nil => exact ⟨[r], rs, rfl, by simpa [fileOf] using hC.symm, rfl⟩
        | cons c C =>
          -- the cut falls strictly inside `r`
          have : c = 62 := by simpa using hB
          rw [this, List.append_assoc] at hC
          exact (rec_no_marker r (h r List.mem_cons_self) A0 C hC).elim

theorem chunks_groups (cs : List Bytes) (hc : ∀ c ∈ cs, c.getLast? = some 10 ∧ c.head? = some 62)
    (rs : List Rec) (h : ∀ r ∈ rs, WFRec r) (hf : cs.flatten = fileOf rs) :
    ∃ groups : List (List Rec), groups.flatten = rs ∧ cs = groups.map fileOf := by
  induction cs generalizing rs with
  | nil =>
    cases rs with
    | nil => exact ⟨[], rfl, rfl⟩
    | cons r rs => cases hf
  | cons c cs ih =>
    obtain ⟨rs1, rs2, rfl, rfl, e3⟩ := cut_aligned rs h c cs.flatten hf.symm (Or.inr (hc c List.mem_cons_self).1)
      (C01.flatten_head fun d hd => (hc d (List.mem_cons_of_mem c hd)).2)
    obtain ⟨groups, rfl, rfl⟩ := ih (List.forall_mem_cons.mp hc).2 rs2
      (fun r hr => h r (List.mem_append_right _ hr)) e3
    exact ⟨rs1 :: groups, rfl, rfl⟩

theorem file_last (rs : List Rec) (h : ∀ r ∈ rs, WFRec r) : fileOf rs = [] ∨ (fileOf rs).getLast? = some 10 := by
  rcases List.eq_nil_or_concat rs with rfl | ⟨rs', r, rfl⟩
  · exact Or.inl rfl
  · have hr := h r (by simp)
    obtain ⟨D, hD⟩ := wrap_eq_concat r.width hr.width_pos r.seq hr.seq_ne
    exact Or.inr (List.getLast?_eq_some_iff.mpr ⟨fileOf rs' ++ (62 :: r.header ++ 10 :: D), by
      rw [List.concat_eq_append, fileOf_append, fileOf_cons, recBytes, hD]; simp [fileOf]⟩)

/-- **C17.index_reader_chunks**: for EVERY chunk size `k ≥ 1` and both reader modes, `create_index` applied to
the chunks the reader (C01's model of `read_chunks` for wrapped FASTA) delivers gives the index of the whole file -/
theorem index_reader_chunks (rs : List Rec) (h : ∀ r ∈ rs, WFRec r) (mode : C01.Mode) (k : Nat) (hk : 0 < k) :
    createIndexChunked (C01.readAll C01.Fmt.fasta true mode (fileOf rs) k) = createIndex (fileOf rs) := by
  -- the file is empty or starts with `'>'`
  obtain ⟨hflat, hch⟩ := C01.readAll_bytes_fasta mode (fileOf rs) (by cases rs; exact Or.inl rfl; exact Or.inr rfl) k hk
  have hnorm : C01.norm (fileOf rs) = fileOf rs :=
    (file_last rs h).elim (fun h0 => by rw [h0]; rfl) C01.norm_of_getLast
  rw [hnorm] at hflat
  obtain ⟨groups, rfl, g2⟩ := chunks_groups _ (fun c hc => (hch c hc).2) rs h hflat
  rw [g2]
  exact index_chunks groups fun g hg r hr => h r (List.mem_flatten.mpr ⟨g, hg, hr⟩)

/-- **C17.index_chunk_size_independent**: the index built from the reader's chunks is the same for any two chunk sizes
and reader modes -/
theorem index_chunk_size_independent (rs : List Rec) (h : ∀ r ∈ rs, WFRec r) (m1 m2 : C01.Mode) (k1 k2 : Nat)
    (h1 : 0 < k1) (h2 : 0 < k2) :
    createIndexChunked (C01.readAll C01.Fmt.fasta true m1 (fileOf rs) k1)
      = createIndexChunked (C01.readAll C01.Fmt.fasta true m2 (fileOf rs) k2) := by
  rw [index_reader_chunks rs h m1 k1 h1, index_reader_chunks rs h m2 k2 h2]

theorem wrap_filter (W : Nat) (hW : 0 < W) (seq : Bytes) (h : 10 ∉ seq) :
    (wrapBytes W seq).filter (· != 10) = seq := by
  induction seq using Base.drop_induction W hW with
  | nil => rw [wrap_nil]; rfl
  | step seq hs ih =>
    rw [wrap_cons W hW seq hs, List.filter_append, List.filter_cons_of_neg (by simp),
      ih fun hm => h (List.mem_of_mem_drop hm),
      List.filter_eq_self.mpr fun b hb => by simpa using fun hc : b = 10 => h (List.mem_of_mem_take (hc ▸ hb)),
      List.take_append_drop]

/-- **C17.delete_eq_filter**: the model of `np.delete` is "keep the elements whose position is not
listed" in standard list vocabulary -/
theorem delete_eq_filter (l : Bytes) (idxs : List Nat) :
    deleteIdx l idxs = (l.zipIdx.filter (fun p => !idxs.contains p.2)).map (·.1) := by
  unfold deleteIdx
  generalize 0 = i
  induction l generalizing i with
  | nil => rfl
  | cons x xs ih =>
    simp only [deleteIdxFrom, List.zipIdx_cons, List.filter_cons, ih]
    cases idxs.contains i <;> rfl

theorem writeAt_zeros (pre p : Bytes) (S : Nat) :
    writeAt (pre ++ List.replicate (p.length + S) 0) pre.length p = pre ++ p ++ List.replicate S 0 := by
  unfold writeAt
  rw [List.take_left, ← List.drop_drop, List.drop_left, ← List.replicate_append_replicate,
    List.drop_left' (by simp)]

theorem fill_pieces (pieces : List Bytes) (pre : Bytes) :
    fillPieces (pre ++ List.replicate (pieces.map List.length).sum 0) pre.length (pieces.zip (pieces.map List.length))
      = pre ++ pieces.flatten := by
  induction pieces generalizing pre with
  | nil => simp [fillPieces]
  | cons p r ih =>
    simp only [List.map_cons, List.sum_cons, List.zip_cons_cons, fillPieces, List.flatten_cons]
    rw [writeAt_zeros]
    have := ih (pre ++ p)
    rw [List.length_append] at this
    rw [this, List.append_assoc]

/-- **C17.assemble_pieces**: the flat-buffer assembly returns the pieces themselves whenever every piece has the length the
code allots to it (`stop − start`) -/
theorem assemble_pieces (pieces : List Bytes) (lens : List Nat) (h : pieces.map List.length = lens) :
    C18.unflatten lens (fillPieces (List.replicate lens.sum 0) 0 (pieces.zip lens)) = pieces := by
  subst h
  rw [show fillPieces (List.replicate _ 0) 0 (pieces.zip _) = pieces.flatten from fill_pieces pieces []]
  exact C18.unflatten_flatten pieces

/-- **C17.interval_set**: fetching ANY list of in-bounds intervals (any order, repeats, several records, names
looked up in the built index) from a file of well-formed records with pairwise distinct names returns exactly
the corresponding substrings — bounds check, flat pre-allocated buffer and ragged re-wrap included -/
theorem interval_set (rs : List Rec) (hwf : ∀ r ∈ rs, WFRec r)
    (hnames : (rs.map (fun r => firstWord r.header)).Pairwise (· ≠ ·))
    (ivs : List (Rec × Nat × Nat)) (hiv : ∀ q ∈ ivs, q.1 ∈ rs ∧ q.2.1 ≤ q.2.2 ∧ q.2.2 ≤ q.1.seq.length) :
    getIntervalSequences (fileOf rs) (createIndex (fileOf rs))
        (ivs.map (fun q => (firstWord q.1.header, q.2.1, q.2.2)))
      = some (ivs.map (fun q => (q.1.seq.drop q.2.1).take (q.2.2 - q.2.1))) := by
  rw [getIntervalSequences, Base.omap_map, Base.omap_some_map _ (fun q => (q.1.seq.drop q.2.1).take (q.2.2 - q.2.1)) ivs fun q hq => ?_]
  · simp only [Option.some.injEq, List.map_map]
    refine assemble_pieces _ _ (by
      rw [List.map_map]
      refine List.map_congr_left fun q hq => ?_
      exact List.length_take_of_le (by rw [List.length_drop]; exact Nat.sub_le_sub_right (hiv q hq).2.2 _))
  · obtain ⟨hmem, hab, hb⟩ := hiv q hq
    obtain ⟨rs1, rs2, rfl⟩ := List.append_of_mem hmem
    rw [List.map_append, List.pairwise_append] at hnames
    have hd : ∀ x ∈ rs1, firstWord x.header ≠ firstWord q.1.header := fun x hx =>
      hnames.2.2 _ (List.mem_map.mpr ⟨x, hx, rfl⟩) _ (by simp)
    obtain ⟨row, -, hlook, -, -, -, hread⟩ := record_row rs1 rs2 q.1 hwf
    rw [fetchNamed, hlook hd]
    exact hread _ _ hab hb

section Traced
open Gen.C17

/-- **C17.traced_kernel**: on natural-number arguments (`0 < lenc`: not claimed where the code would divide by
zero) the expressions traced from the running `get_interval_sequences` are the quantities the model uses (seek
position, read length, number of deleted newline positions, start column), and the row length the code claims
is `b − a` whenever `lenb = lenc + 1` -/
theorem traced_kernel (a b rlen offset lenc lenb : Nat) (_hc : 0 < lenc) :
    trSeek a b rlen offset lenc lenb = ((offset + (a / lenc * lenb + a % lenc) : Nat) : Int) ∧
    (trReadLen a b rlen offset lenc lenb).toNat = (b / lenc * lenb + b % lenc) - (a / lenc * lenb + a % lenc) ∧
    (trNDel a b rlen offset lenc lenb).toNat = b / lenc - a / lenc ∧
    trStartMod a b rlen offset lenc lenb = ((a % lenc : Nat) : Int) ∧
    (a ≤ b → lenb = lenc + 1 → trRowLen a b rlen offset lenc lenb = ((b - a : Nat) : Int)) := by
  unfold trSeek trReadLen trNDel trStartMod trRowLen
  simp only [← Int.ofNat_fdiv, ← Int.ofNat_fmod, ← Int.natCast_mul, ← Int.natCast_add]
  refine ⟨trivial, Int.toNat_sub _ _, Int.toNat_sub _ _, trivial, fun hab hl => ?_⟩
  -- `b − a = (b/lenc − a/lenc)·lenc + b%lenc − a%lenc`, and the code subtracts one newline per line crossed
  have h1 := Nat.div_add_mod a lenc
  have h2 := Nat.div_add_mod b lenc
  rw [hl, Nat.mul_succ, Nat.mul_succ, Nat.mul_comm _ lenc, Nat.mul_comm _ lenc]
  generalize lenc * (a / lenc) = X at h1
  generalize lenc * (b / lenc) = Y at h2
  omega

/-- **C17.traced_bytes_to_read**: the row count and whole-contig read length traced from `__getitem__` are the model's
(`rlen ≥ 1`, `lenc ≥ 1`) -/
theorem traced_bytes_to_read (a b rlen offset lenc lenb : Nat) (hr : 0 < rlen) (hc : 0 < lenc) :
    trNRows a b rlen offset lenc lenb = (((rlen + lenc - 1) / lenc : Nat) : Int) ∧
    trBytesToRead a b rlen offset lenc lenb =
      ((((rlen + lenc - 1) / lenc - 1) * lenb + (rlen - ((rlen + lenc - 1) / lenc - 1) * lenc) : Nat) : Int) := by
  obtain ⟨n, rfl⟩ : ∃ n, rlen = n + 1 := ⟨rlen - 1, (Nat.sub_add_cancel hr).symm⟩
  have hle : n / lenc * lenc ≤ n + 1 := Nat.le_succ_of_le (Nat.div_mul_le_self n lenc)
  unfold trNRows trBytesToRead
  rw [show ((n + 1 : Nat) : Int) + (lenc : Int) - 1 = ((n + 1 + lenc - 1 : Nat) : Int) by omega, ← Int.ofNat_fdiv,
    (contig_rows lenc n hc).1, Nat.add_sub_cancel, Int.natCast_add (n / lenc * lenb), Int.natCast_sub hle,
    Int.natCast_mul, Int.natCast_mul, Int.natCast_add (n / lenc) 1, Int.natCast_one, Int.add_sub_cancel]
  exact ⟨rfl, rfl⟩

/-- **C17.fetch_uses_traced**: the model's interval read is the traced arithmetic plugged into the file and
`np.delete` externals — so `fetch_interval` / `random_access` speak of what the running code computes -/
theorem fetch_uses_traced (file : Bytes) (r : IdxRow) (a b : Nat) (hc : 0 < r.lenc) :
    fetchInterval file r a b =
      deleteIdx (readAt file (trSeek a b r.rlen r.offset r.lenc r.lenb).toNat
                             (trReadLen a b r.rlen r.offset r.lenc r.lenb).toNat)
        ((List.range (trNDel a b r.rlen r.offset r.lenc r.lenb).toNat).map
          (fun j => r.lenb * (j + 1) - 1 - (trStartMod a b r.rlen r.offset r.lenc r.lenb).toNat)) := by
  obtain ⟨h1, h2, h3, h4, _⟩ := traced_kernel a b r.rlen r.offset r.lenc r.lenb hc
  rw [h1, h2, h3, h4]
  rfl

/-- **C17.fast_path_same**: the vectorised interval path (string-encoded chromosomes) computes, for ALL integer
arguments with `0 < lenc`, the same seek position, read length, number of deleted newlines and start column as the scalar path,
and the row length it allocates is `b − a` -/
theorem fast_path_same (a b rlen offset lenc lenb : Int) (_hc : 0 < lenc) :
    trFastSeek a b rlen offset lenc lenb = trSeek a b rlen offset lenc lenb ∧
    trFastReadLen a b rlen offset lenc lenb = trReadLen a b rlen offset lenc lenb ∧
    trFastNDel a b rlen offset lenc lenb = trNDel a b rlen offset lenc lenb ∧
    trFastStartMod a b rlen offset lenc lenb = trStartMod a b rlen offset lenc lenb ∧
    trFastRowLen a b rlen offset lenc lenb = b - a := by
  unfold trFastSeek trSeek trFastReadLen trReadLen trFastNDel trNDel trFastStartMod trStartMod trFastRowLen
  refine ⟨by omega, by omega, by omega, by omega, by omega⟩

-- `hc` of `fetch_uses_traced` on the row of `>a\nACGTA\nCG\n`
example : (0 : Nat) < (⟨[97], 7, 3, 5, 6⟩ : IdxRow).lenc := by decide

end Traced

end C17
