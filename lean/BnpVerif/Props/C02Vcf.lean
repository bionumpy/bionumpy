import BnpVerif.Gen.C02
import BnpVerif.Props.C02Text
/-! C02 — fields inside fields: the `;`-separated INFO items of a VCF row and the lookup of a key among them (whole names
only: relatives of a key change nothing), the GTF attribute scan (`key "value"` at a word start), and the genotype code
(int8, 32 genotypes; the matrix reader as tabulated from the package accepts exactly those and shows them unchanged). -/
namespace C02
open Base

/-! ## VCF INFO: the items of a row and the lookup of a key -/

/-- Splitting the flat INFO text once at every `;` / row end and regrouping gives every row `splitOn ';'` of its own text. -/
theorem info_subfields_spec (rows : List Bytes) : infoSubfields rows = rows.map (splitOn 59) :=
  regroup_spec 59 rows

theorem isPrefix_append (p v : Bytes) : isPrefix p (p ++ v) = true := by
  rw [isPrefix, List.take_left, beq_self_eq_true]

/-- The key lookup on a row's items: no item `key=…` → empty text (missing); exactly one → its value, verbatim.
Not covered by any theorem: how the header declaration selects the type, and the index arithmetic that finds the
items in the flat buffer (sorted merge, `searchsorted`, `maximum.accumulate`). -/
theorem info_lookup_partial (name v : Bytes) (pre post : List Bytes)
    (hpre : ∀ f ∈ pre, isPrefix (name ++ [61]) f = false)
    (hpost : ∀ f ∈ post, isPrefix (name ++ [61]) f = false) :
    infoLookup name (pre ++ post) = some [] ∧
    infoLookup name (pre ++ (name ++ 61 :: v) :: post) = some v := by
  have h1 : pre.filter (isPrefix (name ++ [61])) = [] := List.filter_eq_nil_iff.mpr (fun f hf => by simp [hpre f hf])
  have h2 : post.filter (isPrefix (name ++ [61])) = [] := List.filter_eq_nil_iff.mpr (fun f hf => by simp [hpost f hf])
  have hitem : name ++ 61 :: v = (name ++ [61]) ++ v := by simp
  constructor
  · rw [infoLookup, List.filter_append, h1, h2]; rfl
  · rw [infoLookup, List.filter_append, h1, List.filter_cons, hitem, if_pos (isPrefix_append _ v), h2]
    exact congrArg some (List.drop_left' (by simp))

/-- The INFO key lookup fails ("found multiple times") exactly when at least two items start with `key=`. -/
theorem infoLookup_none_iff (name : Bytes) (subs : List Bytes) :
    infoLookup name subs = none ↔ 2 ≤ (subs.filter (isPrefix (name ++ [61]))).length := by
  unfold infoLookup
  match subs.filter (isPrefix (name ++ [61])) with
  | [] => simp
  | [_] => simp
  | _ :: _ :: _ => simp

theorem infoFlag_iff (name : Bytes) (subs : List Bytes) : infoFlag name subs = true ↔ name ∈ subs := by
  simp [infoFlag]

/-- an item that continues the name (`DBX`, `DBSNP=b151` for `DB`) is not the name, and is an item `name=…` only if
the continuation starts with `=` -/
theorem info_longer_item (name ext : Bytes) (hext : ext ≠ []) :
    name ++ ext ≠ name ∧ (isPrefix (name ++ [61]) (name ++ ext) = true ↔ ext.head? = some 61) := by
  obtain ⟨c, r, rfl⟩ := List.ne_nil_iff_exists_cons.mp hext
  refine ⟨fun h => by simpa using congrArg List.length h, ?_⟩
  have : (name ++ c :: r).take (name ++ [61]).length = name ++ [c] := by
    rw [List.take_append, List.take_of_length_le (by simp)]; simp
  rw [isPrefix, this]; simp

/-- a RELATIVE of the key `name`: an item that starts with the name and goes on, but not with `=` — another flag
`DBX`, another key `DBSNP=b151`, for `DB`; neither `DB` itself nor `DB=…` -/
def infoRelative (name f : Bytes) : Bool :=
  isPrefix name f && decide (name.length < f.length) && !(isPrefix (name ++ [61]) f)

theorem infoRelative_iff (name f : Bytes) :
    infoRelative name f = true ↔ ∃ ext, f = name ++ ext ∧ ext ≠ [] ∧ ext.head? ≠ some 61 := by
  simp only [infoRelative, Bool.and_eq_true, decide_eq_true_eq, Bool.not_eq_true', ← Bool.not_eq_true]
  constructor
  · rintro ⟨⟨hp, hl⟩, hn⟩
    have hf : f = name ++ f.drop name.length := by
      conv => lhs; rw [← List.take_append_drop name.length f, show f.take name.length = name by simpa [isPrefix] using hp]
    have hne : f.drop name.length ≠ [] := fun h0 => by
      have := congrArg List.length h0; simp at this; omega
    exact ⟨_, hf, hne, fun hh => hn (hf ▸ (info_longer_item name _ hne).2.mpr hh)⟩
  · rintro ⟨ext, rfl, hne, hh⟩
    refine ⟨⟨isPrefix_append name ext, ?_⟩, fun hp => hh ((info_longer_item name ext hne).2.mp hp)⟩
    rw [List.length_append]; exact Nat.lt_add_of_pos_right (List.length_pos_iff.mpr hne)

/-- The flag of a key depends only on the items that ARE the name: removing or adding any others leaves it unchanged. -/
theorem infoFlag_only_name (name : Bytes) (p : Bytes → Bool) (hp : p name = true) (subs : List Bytes) :
    infoFlag name (subs.filter p) = infoFlag name subs := by
  rw [Bool.eq_iff_iff, infoFlag_iff, infoFlag_iff, List.mem_filter]
  exact ⟨fun h => h.1, fun h => ⟨h, hp⟩⟩

/-- Keys are compared by their whole name: in any row (e.g. `AF=0.5;DBX;DB=3;DBSNP=b1`) taking the relatives of a
key out changes neither its value lookup nor its flag. -/
theorem info_relatives_irrelevant (name : Bytes) (subs : List Bytes) :
    infoLookup name subs = infoLookup name (subs.filter (fun f => !infoRelative name f)) ∧
    infoFlag name subs = infoFlag name (subs.filter (fun f => !infoRelative name f)) := by
  constructor
  · have : subs.filter (isPrefix (name ++ [61])) =
        subs.filter (fun a => isPrefix (name ++ [61]) a && !infoRelative name a) :=
      List.filter_congr fun f _ => by cases hp : isPrefix (name ++ [61]) f <;> simp [infoRelative, hp]
    rw [infoLookup, infoLookup, List.filter_filter, this]
  · exact (infoFlag_only_name name _ (by simp [infoRelative]) subs).symm

/-- A row ALL of whose items are relatives of the key reads as "key absent": flag False, lookup empty. -/
theorem info_key_family (name : Bytes) (subs : List Bytes)
    (h : ∀ f ∈ subs, ∃ ext, f = name ++ ext ∧ ext ≠ [] ∧ ext.head? ≠ some 61) :
    infoFlag name subs = false ∧ infoLookup name subs = some [] := by
  have hnil : subs.filter (fun f => !infoRelative name f) = [] :=
    List.filter_eq_nil_iff.mpr fun f hf => by simp [(infoRelative_iff name f).mpr (h f hf)]
  obtain ⟨h1, h2⟩ := info_relatives_irrelevant name subs
  rw [h1, h2, hnil]
  exact ⟨rfl, rfl⟩

/-! ## GTF attribute scan -/

/-- Where `key "` starts a word and the value is closed by a quote, the scan yields the value and resumes after the quote. -/
theorem gtfScan_value (key v rest : Bytes) (fuel : Nat) (hv : 34 ∉ v) (hk : key ≠ []) :
    gtfScan key (fuel + 1) false (key ++ [32, 34] ++ v ++ 34 :: rest) = v :: gtfScan key fuel false rest := by
  obtain ⟨b, t, hbt⟩ : ∃ b t, key ++ [32, 34] ++ v ++ 34 :: rest = b :: t := by
    obtain ⟨x, xs, rfl⟩ := List.ne_nil_iff_exists_cons.mp hk
    exact ⟨x, _, rfl⟩
  have htw : (v ++ 34 :: rest).takeWhile (· != 34) = v :=
    takeWhile_append_stop _ _ _ _ (fun x hx => by simpa using ne_of_mem_of_not_mem hx hv) rfl
  have hdrop2 : (v ++ 34 :: rest).drop (v.length + 1) = rest := by
    rw [show v ++ 34 :: rest = (v ++ [34]) ++ rest by simp]; exact List.drop_left' (by simp)
  rw [hbt, gtfScan, ← hbt, List.append_assoc, List.take_left, List.drop_left]
  simp [htw, hdrop2]

/-- Where the pattern does not start (or the previous byte is a word character: the key would only be the tail of a
longer key) the scan moves on by one byte. -/
theorem gtfScan_skip (key : Bytes) (fuel : Nat) (prev : Bool) (b : Nat) (t : Bytes)
    (h : prev = true ∨ (b :: t).take (key ++ [32, 34]).length ≠ key ++ [32, 34]) :
    gtfScan key (fuel + 1) prev (b :: t) = gtfScan key fuel (isWordByte b) t := by
  rw [gtfScan]
  rcases h with h | h
  · simp [h]
  · rw [beq_eq_false_iff_ne.mpr h, Bool.and_false]; rfl

/-- the repaired rule on the text `ref_gene_id "R"; gene_id "G";`: only the attribute whose key is `gene_id` -/
theorem gtfKeySuffix_example :
    gtfAttr [103,101,110,101,95,105,100]
      [[114,101,102,95,103,101,110,101,95,105,100,32,34,82,34,59,32,103,101,110,101,95,105,100,32,34,71,34,59]]
      = [[71]] := by decide +kernel

/-- the attribute scan before repair d6d4b59: `key "` is matched anywhere, also at the end of a longer key -/
def gtfScanOld (key : Bytes) : Nat → Bytes → List Bytes
  | 0, _ => []
  | _, [] => []
  | fuel + 1, b :: t =>
    let pat := key ++ [32, 34]
    if (b :: t).take pat.length == pat then
      let rest := (b :: t).drop pat.length
      let v := rest.takeWhile (· != 34)
      if v.length < rest.length then v :: gtfScanOld key fuel (rest.drop (v.length + 1))
      else gtfScanOld key fuel t
    else gtfScanOld key fuel t

/-- On `ref_gene_id "R"; gene_id "G";` the old scan also reports `R`, which belongs to `ref_gene_id` (fuel 30 = text
length + 1, what `gtfAttr` supplies). -/
theorem gtfKeyOld_unsound :
    gtfScanOld [103,101,110,101,95,105,100] 30
      [114,101,102,95,103,101,110,101,95,105,100,32,34,82,34,59,32,103,101,110,101,95,105,100,32,34,71,34,59]
      = [[82], [71]] := by decide +kernel

/-! ## genotypes: the int8 code, and the matrix reader tabulated from the package -/

/-- For all 32 genotypes `a sep b` (alleles 0 1 2 ., separators | /) decoding the stored int8 code (36·a + 6·sep + b,
wrapped) gives the three characters back, and distinct genotypes get distinct codes. -/
theorem genotype_triplets :
    (gtAlleles.all (fun a => gtSeps.all (fun s => gtAlleles.all (fun b => gtDecode (gtEncode [a, s, b]) == [a, s, b])))) = true ∧
    ((gtAlleles.flatMap (fun a => gtSeps.flatMap (fun s => gtAlleles.map (fun b => gtEncode [a, s, b])))).Nodup) := by
  decide +kernel

/-- The genotype-matrix reader accepts EVERY sample field exactly when its first three bytes are `allele sep allele`
over 0 1 2 . and | /; an allele number above 2 is an EncodingError (before repair 2e63fc1 it was shown as allele 0). -/
theorem genotype_accept_iff (a s b : Nat) (rest : Bytes) :
    gtOK "VCFMatrixBuffer" (a :: s :: b :: rest) = true ↔ a ∈ gtAlleles ∧ s ∈ gtSeps ∧ b ∈ gtAlleles := by
  simp [gtOK, and_assoc]

/-- every accepted field is shown unchanged -/
theorem genotype_accepted_id (a s b : Nat) (h : gtOK "VCFMatrixBuffer" [a, s, b] = true) :
    gtDecode (gtEncode [a, s, b]) = [a, s, b] := by
  obtain ⟨ha, hs, hb⟩ := (genotype_accept_iff a s b []).mp h
  exact beq_iff_eq.mp
    (List.all_eq_true.mp (List.all_eq_true.mp (List.all_eq_true.mp genotype_triplets.1 a ha) s hs) b hb)

/-- the rule before the repair: no check — "3/1" went through the lookup as index 0 and was shown as "0/1" -/
theorem gtUnknownOld_unsound :
    gtDecode (gtEncode [51, 47, 49]) = [48, 47, 49] ∧ gtOK "VCFMatrixBuffer" [51, 47, 49] = false := by decide +kernel

/-- On every three-byte sample field over 0 1 2 3 . | / A (512 fields, re-measured every run) the genotype-matrix
reader rejects the field exactly when `gtOK` does, and otherwise shows the model's decode ∘ encode. -/
theorem gen_genotype_table :
    Gen.C02.gtTable.all (fun e => (if gtOK "VCFMatrixBuffer" e.1 then gtDecode (gtEncode e.1) else []) == e.2) = true := by
  decide +kernel

/-- of those 512 fields the reader accepts exactly the 32 genotypes over 0 1 2 . and shows each unchanged -/
theorem gen_genotype_accepted :
    (Gen.C02.gtTable.filter (fun e => e.2 != [])).map (·.1)
      = gtAlleles.flatMap (fun a => gtSeps.flatMap (fun s => gtAlleles.map (fun b => [a, s, b]))) ∧
    (Gen.C02.gtTable.filter (fun e => e.2 != [])).all (fun e => e.1 == e.2) = true := by decide +kernel

/-! ## non-vacuity -/

-- key DP in "DB;DP=5;AF=1"
example : infoLookup [68, 80] [[68, 66], [68, 80, 61, 53], [65, 70, 61, 49]] = some [53] := by decide +kernel

-- key DB, row "AF=0.5;DBX;DB=3;DBSNP=b1"; without the relatives "AF=0.5;DB=3"
example : [[65,70,61,48,46,53], [68,66,88], [68,66,61,51], [68,66,83,78,80,61,98,49]].filter (fun f => !infoRelative [68,66] f)
    = [[65,70,61,48,46,53], [68,66,61,51]] := by decide +kernel
example : infoLookup [68,66] [[65,70,61,48,46,53], [68,66,88], [68,66,61,51], [68,66,83,78,80,61,98,49]] = some [51] := by decide +kernel
-- flag DB, row "DBX;DBSNP=b1": relatives only
example : ∀ f ∈ [[68,66,88], [68,66,83,78,80,61,98,49]], ∃ ext, f = [68,66] ++ ext ∧ ext ≠ [] ∧ ext.head? ≠ some 61 :=
  fun f hf => (infoRelative_iff [68,66] f).mp (by revert f; decide)
example : infoFlag [68,66] [[68,66,88], [68,66,83,78,80,61,98,49], [68,66]] = true := by decide +kernel

example : gtfScan [97] 1 false ([97] ++ [32, 34] ++ [120] ++ 34 :: []) = [120] :: gtfScan [97] 0 false [] :=
  gtfScan_value [97] [120] [] 0 (by decide) (by decide)
example : gtfScan [97] 5 true [97, 32, 34, 120, 34] = gtfScan [97] 4 (isWordByte 97) [32, 34, 120, 34] :=
  gtfScan_skip [97] 4 true 97 _ (Or.inl rfl)

-- "1|."
example : gtOK "VCFMatrixBuffer" [49, 124, 46] = true := by decide +kernel

end C02
