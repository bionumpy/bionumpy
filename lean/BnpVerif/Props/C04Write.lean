import BnpVerif.Props.C04Core

/-! C04 — modified writes as the driver runs them (`Ext.writeModified`, `writeRowsModified`): every column that was not replaced
is written with the text the denoted record has for it. -/
namespace C04

/-- a "rest of line" / tags column needs the field it is measured from -/
def KindOK (n : Nat) : ColKind → Prop
  | .rest k => k < n
  | .extra => 0 < n
  | .field _ => True

/-- every record has the fields the entry type's columns are measured from -/
def RecsOK (kinds : List ColKind) (recs : List Rec) : Prop := ∀ r ∈ recs, ∀ kd ∈ kinds, KindOK r.rel.length kd

/-- every way of fetching a column returns a function of the denoted record alone -/
theorem col_abs (e : Ext) (h : WF e) (kd : ColKind) (hk : ∀ r ∈ e.abs, KindOK r.rel.length kd) :
    e.col kd = e.abs.map (·.col kd) := by
  have hrows : ∀ r ∈ e.rows, KindOK r.fS.length kd := fun r hr =>
    rel_length e.data r (h.2 r hr).2.2.1 ▸ hk _ (List.mem_map_of_mem hr)
  cases kd with
  | field k => exact field_text e h k
  | rest k => exact rest_text e h k hrows  -- `Ext.col (.rest k)` is `e.rest k`: `delimitedFixed` is `true`
  | extra => exact sam_extra_text e h hrows

theorem columns_rows (e : Ext) (h : WF e) (kinds : List ColKind) (repl : List (Nat × List Bytes)) (hk : RecsOK kinds e.abs) :
    transposeN e.len (e.columns kinds repl) = specRows kinds repl e.abs := by
  rw [transposeN, specRows, Ext.columns, abs_length e h.1]
  refine List.map_congr_left fun i hi => ?_
  rw [List.map_map, specRow]
  refine List.map_congr_left fun j hj => ?_
  have hjk : j < kinds.length := List.mem_range.mp hj
  simp only [Function.comp]
  split
  · rfl
  · rw [col_abs e h _ fun r hr => hk r hr _ (by rw [List.getD_eq_getElem?_getD, List.getElem?_eq_getElem hjk]; exact List.getElem_mem hjk)]
    exact Base.getD_map_of_lt _ _ _ (by rw [abs_length e h.1]; exact List.mem_range.mp hi) _ _

/-- a constant column put in at position `k` (FASTQ's `+` line) is the constant put into every row at `k` -/
theorem transposeN_insert {α} (n k : Nat) (x : List α) (cols : List (List (List α))) :
    transposeN n (cols.take k ++ [List.replicate n x] ++ cols.drop k) =
      (transposeN n cols).map (fun row => row.take k ++ [x] ++ row.drop k) := by
  rw [transposeN, transposeN, List.map_map]
  refine List.map_congr_left fun i hi => ?_
  simp only [Function.comp, List.map_append, List.map_take, List.map_drop, List.map_cons, List.map_nil,
    List.getD_eq_getElem?_getD, List.getElem?_replicate, List.mem_range.mp hi, if_true, Option.getD_some]

/-- `join_fields` lays the columns out record by record -/
theorem writeCols_rows (lay : Layout) (n : Nat) (cols : List (List Bytes)) :
    writeCols lay n cols = ((transposeN n cols).map (layoutRow lay)).flatten := by
  cases lay with
  | delimited sep => rfl
  | kline h plus =>
    cases plus with
    | false => rfl
    | true => rw [writeCols, joinKLine, transposeN_insert, List.map_map]; rfl

/-- **C04.replace_fields** — the driver's modified write (`get_buffer` + `join_fields`; delimited, FASTA and FASTQ layouts; plain,
rest-of-line and SAM-tag columns) produces, record by record, the replaced columns' new text and for every other column
the ORIGINAL text of that column in the denoted record -/
theorem replace_fields (e : Ext) (h : WF e) (lay : Layout) (kinds : List ColKind) (repl : List (Nat × List Bytes))
    (hk : RecsOK kinds e.abs) :
    e.writeModified lay kinds repl = ((specRows kinds repl e.abs).map (layoutRow lay)).flatten := by
  rw [Ext.writeModified, writeCols_rows, columns_rows e h kinds repl hk]

/-- **C04.eager_write_rows** — the modified write of an eager table of field texts (`np.concatenate` of FASTQ / FASTA tables):
the replaced columns' new text and the table's own text in every other column -/
theorem eager_write_rows (lay : Layout) (nF : Nat) (repl : List (Nat × List Bytes)) (rows : List (List Bytes)) :
    writeRowsModified lay nF repl rows =
      (((List.range rows.length).map (fun i => (List.range nF).map (fun j =>
        match repl.find? (·.1 == j) with
        | some (_, col) => col.getD i []
        | none => (rows.getD i []).getD j []))).map (layoutRow lay)).flatten := by
  rw [writeRowsModified, writeCols_rows, transposeN]
  refine congrArg (fun x => (List.map (layoutRow lay) x).flatten) (List.map_congr_left fun i hi => ?_)
  rw [List.map_map]
  refine List.map_congr_left fun j _ => ?_
  simp only [Function.comp]
  cases repl.find? (·.1 == j) with
  | some pc => rfl
  | none => exact Base.getD_map_of_lt _ _ _ (List.mem_range.mp hi) _ _

/-- **C04.program_replace** — after any program the modified write of the result consists of the replaced columns and, for
every other column, the original text of the SELECTED SOURCE records -/
theorem program_replace (tabs : List Ext) (ht : ∀ t ∈ tabs, Inv t) (p : Prog) (lay : Layout) (kinds : List ColKind)
    (repl : List (Nat × List Bytes)) (hk : ∀ t ∈ tabs, RecsOK kinds t.abs) :
    (p.evalExt tabs).map (fun e => e.writeModified lay kinds repl) =
      (p.evalSpec (tabs.map Ext.abs)).map (fun recs => ((specRows kinds repl recs).map (layoutRow lay)).flatten) :=
  program_map tabs ht p _ _ fun e hI hs => replace_fields e hI.1 lay kinds repl fun r hr => by
    obtain ⟨t, ht', hrt⟩ := evalSpec_mem _ p _ hs r hr
    obtain ⟨t0, ht0, rfl⟩ := List.mem_map.mp ht'
    exact hk t0 ht0 r hrt

end C04
