import BnpVerif.Props.C02Table
/-! C02 — from positions to texts, line by line. What a line's (start, end) pairs denote is proved for ONE line standing
anywhere in a buffer (`linePairs_texts`, `sam_extra`) and carried to the buffer through the lines with their offsets
(`lineStarts`, `pairs_by_line`): the SAM table (first `k` fields and the rest of the line) and the table of a buffer with
interior comment lines, whose pairs are dropped line by line. -/
namespace C02
open Base

/-! ## one line inside a buffer: its delimiters and (start, end) pairs at the line's own offset -/

theorem delimsFrom_line_last (d k : Nat) (l : Bytes) :
    delimsFrom (isDelim d) k (l ++ [10]) = delimsFrom (isDelim d) k l ++ [k + l.length] := by
  rw [delimsFrom_append]; rfl

/-- the byte at a delimiter position inside a line is a byte of that line (so not its newline) -/
theorem delimsFrom_line_mem (d : Nat) (pre l post : Bytes) :
    ∀ e ∈ delimsFrom (isDelim d) pre.length l, (pre ++ (l ++ [10]) ++ post).getD e 0 ∈ l := by
  intro e he
  obtain ⟨h1, h2, _⟩ := (delimsFrom_mem_iff _ _ _ _).mp he
  obtain ⟨i, rfl⟩ := Nat.exists_eq_add_of_le h1
  have hi : i < l.length := Nat.lt_of_add_lt_add_left h2
  rw [getD_mid pre (l ++ [10]) post i (List.length_append ▸ Nat.lt_succ_of_lt hi), List.getD_eq_getElem?_getD,
    List.getElem?_append_left hi, List.getElem?_eq_getElem hi]
  exact List.getElem_mem hi

theorem delimsFrom_line_length (d k : Nat) (l : Bytes) (hl : 10 ∉ l) :
    (delimsFrom (isDelim d) k (l ++ [10])).length = (splitOn d l).length := by
  rw [delimsFrom_length, pieces_line d hl]

/-- the (start, end) pairs of one line that starts at position `k` -/
def linePairsOf (d : Nat) (k : Nat) (l : Bytes) : List (Nat × Nat) :=
  List.zip (k :: (delimsFrom (isDelim d) k (l ++ [10])).map (· + 1)) (delimsFrom (isDelim d) k (l ++ [10]))

theorem linePairsOf_eq (d k : Nat) {l : Bytes} (hl : 10 ∉ l) : linePairsOf d k l = spans k (splitOn d l) := by
  rw [linePairsOf, zip_delims_eq_spans _ k k [] _ rfl, ← pieces, pieces_line d hl]

theorem linePairs_texts (d : Nat) (pre l post : Bytes) (hl : 10 ∉ l) :
    (linePairsOf d pre.length l).map (fun p => slice (pre ++ (l ++ [10]) ++ post) p.1 p.2) = splitOn d l := by
  have := spans_texts (isDelim d) (pre ++ (l ++ [10]) ++ post) pre [] (l ++ [10]) post (by simp)
  rwa [← pieces, pieces_line d hl, ← linePairsOf_eq d _ hl] at this

/-! ## the lines of a buffer with their offsets; the pairs of the buffer line by line -/

/-- the lines with their start positions (the SAM and interior-comment proofs take the buffer apart line by line) -/
def lineStarts : Nat → List Bytes → List (Nat × Bytes)
  | _, [] => []
  | k, l :: ls => (k, l) :: lineStarts (k + l.length + 1) ls

theorem lineStarts_map_snd (k : Nat) (ls : List Bytes) : (lineStarts k ls).map (·.2) = ls := by
  induction ls generalizing k with
  | nil => rfl
  | cons l rest ih => rw [lineStarts, List.map_cons, ih]

theorem lineStarts_length (k : Nat) (ls : List Bytes) : (lineStarts k ls).length = ls.length := by
  rw [← List.length_map (·.2), lineStarts_map_snd]

theorem lineStarts_mem (k0 : Nat) (ls : List Bytes) (k : Nat) (l : Bytes) (h : (k, l) ∈ lineStarts k0 ls) :
    ∃ before after, unlines ls = unlines before ++ (l ++ [10]) ++ unlines after ∧
      k = k0 + (unlines before).length ∧ l ∈ ls := by
  induction ls generalizing k0 with
  | nil => cases h
  | cons x xs ih =>
    rcases List.mem_cons.mp h with h | h
    · obtain ⟨rfl, rfl⟩ := Prod.mk.inj h
      exact ⟨[], xs, by simp [unlines], rfl, List.mem_cons_self⟩
    · obtain ⟨b, a, hxs, hk, hl⟩ := ih (k0 + x.length + 1) h
      refine ⟨x :: b, a, by rw [unlines_cons, unlines_cons, hxs]; simp, ?_, List.mem_cons_of_mem _ hl⟩
      rw [hk, unlines_cons, List.length_append, List.length_cons]; omega

theorem pairs_by_line (d : Nat) (ls : List Bytes) (k : Nat) :
    List.zip (k :: (delimsFrom (isDelim d) k (unlines ls)).map (· + 1)) (delimsFrom (isDelim d) k (unlines ls))
      = (lineStarts k ls).flatMap (fun kl => linePairsOf d kl.1 kl.2) := by
  induction ls generalizing k with
  | nil => rfl
  | cons l rest ih =>
    have hne : delimsFrom (isDelim d) k (l ++ [10]) ≠ [] := by rw [delimsFrom_line_last]; simp
    have hlast : (delimsFrom (isDelim d) k (l ++ [10])).getLast hne = k + l.length := by
      simp [delimsFrom_line_last]
    have hu : unlines (l :: rest) = (l ++ [10]) ++ unlines rest := by rw [unlines_cons]; simp
    rw [hu, delimsFrom_append, zip_cons_map_split (· + 1) k _ _ hne, hlast, List.length_append, List.length_singleton,
      ← Nat.add_assoc, ih (k + l.length + 1)]
    rfl

/-! ## SAM: the first `k` fields and the rest of the line, for one line and for the whole buffer -/

/-- the byte before the newline of a line not ending in CR is not a CR (for an empty line it is the newline) -/
theorem getD_pred_ne_cr (u rest : Bytes) (h : u.getLast? ≠ some 13) : (u ++ 10 :: rest).getD (u.length - 1) 0 ≠ 13 := by
  rcases List.eq_nil_or_concat u with rfl | ⟨v, z, rfl⟩
  · simp
  · rw [List.concat_eq_append, List.length_append, List.length_singleton, Nat.add_sub_cancel, List.append_assoc,
      List.singleton_append, getD_append_mid]
    exact fun hz => h (by rw [hz]; simp)

/-- For every SAM line with at least `k` fields (k = 11), wherever it sits in the buffer: the first `k` pairs denote
the first `k` fields, the rest-of-line pair the remaining fields joined by the separator (empty if there are none). -/
theorem sam_extra (d : Nat) (_hd : d ≠ 10) (pre l post : Bytes) (hl : 10 ∉ l) (k : Nat) (hk1 : 1 ≤ k)
    (hk : k ≤ (splitOn d l).length) (hnocr : (pre ++ l).getLast? ≠ some 13) :
    ((samRow (pre ++ (l ++ [10]) ++ post) false k pre.length (delimsFrom (isDelim d) pre.length (l ++ [10]))).1.map
        (fun p => slice (pre ++ (l ++ [10]) ++ post) p.1 p.2) = (splitOn d l).take k) ∧
    (let x := (samRow (pre ++ (l ++ [10]) ++ post) false k pre.length (delimsFrom (isDelim d) pre.length (l ++ [10]))).2
     slice (pre ++ (l ++ [10]) ++ post) x.1 x.2 = joinWith d ((splitOn d l).drop k)) := by
  have htexts := linePairs_texts d pre l post hl
  have hjoin := joinWith_splitOn d l
  have hz := linePairsOf_eq d pre.length hl
  rw [hz] at htexts
  rw [linePairsOf] at hz
  generalize hW : pre ++ (l ++ [10]) ++ post = W at *
  generalize splitOn d l = fs at *
  generalize hr : delimsFrom (isDelim d) pre.length (l ++ [10]) = r at *
  have hrlast : r.dropLast ++ [r.getLast?.getD 0] = r ∧ r.getLast?.getD 0 = pre.length + l.length := by
    rw [← hr, delimsFrom_line_last]; simp
  -- the newline of the line is not preceded by a CR, so the rest of the line ends at the newline
  have hno13 : W.getD (r.getLast?.getD 0 - 1) 0 ≠ 13 := by
    rw [hrlast.2, ← hW, ← List.length_append, show pre ++ (l ++ [10]) ++ post = (pre ++ l) ++ 10 :: post by simp]
    exact getD_pred_ne_cr _ _ hnocr
  have hfields : (samRow W false k pre.length r).1 = spans pre.length (fs.take k) := by
    simp only [samRow, Bool.false_and, Bool.false_eq_true, if_false]
    rw [hrlast.1, zip_dropLast_eq, hz, spans_take]
  have hane : fs.take k ≠ [] := fun h => by
    have := congrArg List.length h
    rw [List.length_take, Nat.min_eq_left hk, List.length_nil] at this
    exact Nat.not_succ_le_zero 0 (this ▸ hk1 : 1 ≤ 0)
  -- the rest of the line begins one past the end of field `k`, which lies `|fields 1..k joined|` behind the line start
  have hx : (samRow W false k pre.length r).2 = (pre.length + (joinWith d (fs.take k)).length + 1,
      max (pre.length + l.length) (pre.length + (joinWith d (fs.take k)).length + 1)) := by
    rw [← spans_last d pre.length hane, ← hfields, ← hrlast.2]; simp only [samRow]; rw [if_neg hno13]
  rw [hx, hfields, ← spans_take, List.map_take, htexts]
  refine ⟨rfl, ?_⟩
  by_cases hb : fs.drop k = []
  · have : fs.take k = fs := by rw [← List.take_append_drop k fs, hb, List.append_nil, List.take_take, Nat.min_self]
    simp only [hb, this, hjoin, Nat.max_eq_right (Nat.le_succ _), slice_self]; rfl
  · -- `l` is the first `k` fields joined, a separator, and the others joined
    have hl2 : l = joinWith d (fs.take k) ++ d :: joinWith d (fs.drop k) := by
      rw [← joinWith_append d hane hb, List.take_append_drop, hjoin]
    have hW2 : W = (pre ++ joinWith d (fs.take k) ++ [d]) ++ joinWith d (fs.drop k) ++ (10 :: post) := by
      rw [← hW]; conv => lhs; rw [hl2]
      simp
    have hlen : pre.length + l.length = (pre ++ joinWith d (fs.take k) ++ [d]).length + (joinWith d (fs.drop k)).length := by
      conv => lhs; rw [hl2]
      simp only [List.length_append, List.length_cons, List.length_nil]; omega
    have hA : (pre ++ joinWith d (fs.take k) ++ [d]).length = pre.length + (joinWith d (fs.take k)).length + 1 := by
      simp only [List.length_append, List.length_cons, List.length_nil]
    simp only
    rw [hlen, hA, Nat.max_eq_left (Nat.le_add_right _ _), ← hA, hW2]
    exact slice_mid _ _ _

/-- the delimiter positions of the line `kl.2` that starts at `kl.1`, its newline last -/
def lineDelimsOf (d : Nat) (kl : Nat × Bytes) : List Nat := delimsFrom (isDelim d) kl.1 (kl.2 ++ [10])

theorem delims_by_line (d : Nat) (ls : List Bytes) (k : Nat) :
    delimsFrom (isDelim d) k (unlines ls) = (lineStarts k ls).flatMap (lineDelimsOf d) := by
  have := congrArg (List.map (·.2)) (pairs_by_line d ls k)
  rw [List.map_snd_zip (by simp), List.map_flatMap] at this
  rw [this]
  exact congrArg (List.flatMap · _) (funext fun kl => List.map_snd_zip (l₁ := kl.1 :: _) (by simp))

theorem lineDelimsOf_last (d : Nat) (kl : Nat × Bytes) : (lineDelimsOf d kl).getLast?.getD 0 = kl.1 + kl.2.length := by
  rw [lineDelimsOf, delimsFrom_line_last, List.getLast?_concat]; rfl

/-- `RaggedArray(delimiters, n_fields)`: grouped by line, the delimiters are each line's own -/
theorem lineDelims_spec (d : Nat) (ls : List Bytes) (hfree : ∀ l ∈ ls, 10 ∉ l) :
    lineDelims d (unlines ls) = (lineStarts 0 ls).map (lineDelimsOf d) := by
  have hc : ls.map (fun l => l.count d + 1) = ((lineStarts 0 ls).map (lineDelimsOf d)).map List.length := by
    rw [List.map_map]
    conv => lhs; rw [← lineStarts_map_snd 0 ls, List.map_map]
    refine List.map_congr_left fun kl hkl => ?_
    have hl : 10 ∉ kl.2 := hfree _ (lineStarts_map_snd 0 ls ▸ List.mem_map_of_mem hkl)
    exact (splitOn_length d kl.2).symm.trans (delimsFrom_line_length d kl.1 kl.2 hl).symm
  simp only [lineDelims]
  rw [linesOf_unlines ls hfree, delims_by_line d ls 0, hc, List.flatMap_def, unflatten_flatten]

/-- the entry starts computed from the previous line's newline are the line starts -/
theorem prevs_spec (d : Nat) (ls : List Bytes) (k : Nat) :
    List.zip (k :: (((lineStarts k ls).map (lineDelimsOf d)).map (fun r => r.getLast?.getD 0 + 1)).dropLast)
        ((lineStarts k ls).map (lineDelimsOf d))
      = (lineStarts k ls).map (fun kl => (kl.1, lineDelimsOf d kl)) := by
  rw [← List.map_dropLast, zip_dropLast_eq]
  induction ls generalizing k with
  | nil => rfl
  | cons l rest ih =>
    simp only [lineStarts, List.map_cons, List.zip_cons_cons, lineDelimsOf_last]
    exact congrArg _ (ih (k + l.length + 1))

/-- For every LF SAM buffer with at least one line, every line having at least `k ≥ 1` fields (k = 11): the per-line
tables denote the first `k` fields and, as the optional-fields column, the remaining fields joined by the separator. -/
theorem sam_rows_spec (d : Nat) (hd : d ≠ 10) (bs : Bytes) (k : Nat) (hk1 : 1 ≤ k)
    (hne : linesOf bs ≠ [])
    (hk : ∀ l ∈ linesOf bs, k ≤ (splitOn d l).length)
    (hnocr : ∀ l ∈ linesOf bs, l.getLast? ≠ some 13) :
    ∃ rows, samRows d k bs = .ok rows ∧
      rows.map (fun r => (r.1.map (fun p => slice (complete bs) p.1 p.2), slice (complete bs) r.2.1 r.2.2))
        = (linesOf bs).map (fun l => ((splitOn d l).take k, joinWith d ((splitOn d l).drop k))) := by
  have hcomp := complete_eq bs
  have hfree := linesOf_free bs
  generalize linesOf bs = ls at *
  obtain ⟨l0, lrest, hl0⟩ := List.ne_nil_iff_exists_cons.mp hne
  have hdata_ne : complete bs ≠ [] := by rw [hcomp, hl0, unlines_cons]; simp
  -- the CR flag is off: the first line does not end in CR
  have hfe : (((lineStarts 0 ls).map (lineDelimsOf d)).head?.bind (·.getLast?)).getD 0 = l0.length := by
    rw [hl0, lineStarts, List.map_cons, List.head?_cons, Option.bind_some]
    exact (lineDelimsOf_last d (0, l0)).trans (Nat.zero_add _)
  have hcr : decide ((unlines ls).getD (l0.length - 1) 0 = 13) = false := by
    rw [hl0, unlines_cons]
    exact decide_eq_false (getD_pred_ne_cr l0 (unlines lrest) (hnocr l0 (hl0 ▸ List.mem_cons_self)))
  have hlens : ((lineStarts 0 ls).map (lineDelimsOf d)).any (fun r => decide (r.length < k)) = false := by
    rw [List.any_eq_false]
    intro r hr
    obtain ⟨⟨k0, l⟩, hkl, rfl⟩ := List.mem_map.mp hr
    have hlmem : l ∈ ls := lineStarts_map_snd 0 ls ▸ List.mem_map_of_mem (f := (·.2)) hkl
    simpa [show (lineDelimsOf d (k0, l)).length = _ from delimsFrom_line_length d k0 l (hfree l hlmem)] using hk l hlmem
  refine ⟨(lineStarts 0 ls).map (fun kl => samRow (unlines ls) false k kl.1 (lineDelimsOf d kl)), ?_, ?_⟩
  · unfold samRows
    simp only [hdata_ne, if_false]
    rw [hcomp, lineDelims_spec d ls hfree]
    simp only [hfe, hcr, hlens, Bool.and_false, Bool.false_eq_true, if_false]
    rw [prevs_spec, List.map_map]
    rfl
  · rw [hcomp, List.map_map]
    conv => rhs; rw [← lineStarts_map_snd 0 ls, List.map_map]
    refine List.map_congr_left fun kl hkl => ?_
    obtain ⟨k0, l⟩ := kl
    obtain ⟨before, after, hdata, hk0, hlmem⟩ := lineStarts_mem 0 ls k0 l hkl
    rw [Nat.zero_add] at hk0
    have hnc : (unlines before ++ l).getLast? ≠ some 13 := by
      rw [List.getLast?_append]
      rcases List.eq_nil_or_concat l with rfl | ⟨u, z, rfl⟩
      · rcases unlines_nil_or_getLast before with h | h <;> simp [h]
      · have := hnocr _ hlmem
        simpa using this
    have := sam_extra d hd (unlines before) l (unlines after) (hfree l hlmem) k hk1 (hk l hlmem) hnc
    simp only [Function.comp, lineDelimsOf]
    rw [hdata, hk0]
    exact Prod.ext this.1 this.2

/-! ## interior comments: a line's pairs are kept or dropped together; comment lines never become entries -/

theorem lineStartOf_line (pre l post : Bytes) (hpre : pre = [] ∨ pre.getLast? = some 10) (hl : 10 ∉ l) (e : Nat)
    (h1 : pre.length ≤ e) (h2 : e ≤ pre.length + l.length) :
    lineStartOf (pre ++ (l ++ [10]) ++ post) e = pre.length := by
  obtain ⟨j, rfl⟩ := Nat.exists_eq_add_of_le h1
  have hjl : j ≤ l.length := Nat.le_of_add_le_add_left h2
  have htake : (pre ++ (l ++ [10]) ++ post).take (pre.length + j) = pre ++ l.take j := by
    rw [List.append_assoc, List.take_append, List.take_of_length_le (Nat.le_add_right _ _), Nat.add_sub_cancel_left,
      List.append_assoc, List.take_append_of_le_length hjl]
  have hfree : ∀ x ∈ (l.take j).reverse, (x != 10) = true :=
    fun x hx => ne_nl_of_free hl x (List.mem_of_mem_take (List.mem_reverse.mp hx))
  have hstop : ((l.take j).reverse ++ pre.reverse).takeWhile (· != 10) = (l.take j).reverse := by
    rcases hpre with rfl | hpre
    · rw [List.reverse_nil, List.append_nil, takeWhile_all _ _ hfree]
    · obtain ⟨u, rfl⟩ := List.getLast?_eq_some_iff.mp hpre
      rw [List.reverse_append, List.reverse_singleton, List.singleton_append, takeWhile_append_stop _ _ 10 _ hfree rfl]
  rw [lineStartOf, htake, List.reverse_append, hstop, List.length_reverse, List.length_take, Nat.min_eq_left hjl,
    Nat.add_sub_cancel]

/-- the pairs of a line are kept iff the line does not start with the comment character -/
theorem keep_line (d c : Nat) (hc : c ≠ 10) (ls : List Bytes) (hfree : ∀ l ∈ ls, 10 ∉ l)
    (k : Nat) (l : Bytes) (hkl : (k, l) ∈ lineStarts 0 ls) (p : Nat × Nat) (hp : p ∈ linePairsOf d k l) :
    decide ((unlines ls).getD (lineStartOf (unlines ls) p.2) 0 ≠ c) = decide (l.head? ≠ some c) := by
  obtain ⟨before, after, hdata, hk, hmem⟩ := lineStarts_mem 0 ls k l hkl
  rw [Nat.zero_add] at hk
  have hr := (delimsFrom_mem_iff _ _ _ _).mp (List.of_mem_zip hp).2
  rw [List.length_append, List.length_singleton] at hr
  rw [hdata, lineStartOf_line _ l _ (unlines_nil_or_getLast before) (hfree l hmem) p.2 (by omega) (by omega),
    List.append_assoc]
  cases l with
  | nil => simpa [getD_append_mid] using Ne.symm hc   -- the first byte of an empty line is its newline, not `c`
  | cons x xs => simp

theorem filter_flatMap_const {α β} (L : List α) (f : α → List β) (q : β → Bool) (P : α → Bool)
    (h : ∀ a ∈ L, ∀ x ∈ f a, q x = P a) :
    (L.flatMap f).filter q = (L.filter P).flatMap f := by
  induction L with
  | nil => rfl
  | cons a rest ih =>
    rw [List.flatMap_cons, List.filter_append, ih (fun a' ha' => h a' (List.mem_cons_of_mem _ ha')), List.filter_cons]
    have ha := h a List.mem_cons_self
    cases hP : P a
    · rw [List.filter_eq_nil_iff.mpr (fun x hx => by simp [ha x hx, hP])]; rfl
    · rw [List.filter_eq_self.mpr (fun x hx => by rw [ha x hx, hP]), if_pos rfl, List.flatMap_cons]

theorem findIdx?_append_hit {α} (p : α → Bool) (xs : List α) (y : α) (ys : List α)
    (hx : ∀ x ∈ xs, p x = false) (hy : p y = true) :
    (xs ++ y :: ys).findIdx? p = some xs.length := by
  induction xs with
  | nil => simp [List.findIdx?_cons, hy]
  | cons x rest ih =>
    simp [List.findIdx?_cons, hx x List.mem_cons_self, ih (fun z hz => hx z (List.mem_cons_of_mem _ hz))]

/-- For every buffer whose non-comment lines (at least one) all have `n` fields — comment lines anywhere, with or
without delimiters inside — the repaired start/end computation yields a table of `n` columns whose texts are the
fields of the non-comment lines: comment lines never become entries. -/
theorem commentTable_spec (d c : Nat) (_hd : d ≠ 10) (hc : c ≠ 10) (bs : Bytes) (n : Nat)
    (hdata : dataLines c (linesOf bs) ≠ [])
    (huni : ∀ l ∈ dataLines c (linesOf bs), (splitOn d l).length = n) :
    ∃ t, commentTable d c bs = .ok t ∧ t.nCols = n ∧
      tableFields (complete bs) t = (dataLines c (linesOf bs)).map (splitOn d) := by
  have hcomp := complete_eq bs
  have hfree := linesOf_free bs
  generalize linesOf bs = ls at *
  -- the data lines with their positions; the kept pairs are their pairs
  generalize hKL : (lineStarts 0 ls).filter (fun kl => decide (kl.2.head? ≠ some c)) = KL
  have hKLsnd : KL.map (·.2) = dataLines c ls := by
    have := List.filter_map (f := (·.2)) (p := fun l : Bytes => decide (l.head? ≠ some c)) (l := lineStarts 0 ls)
    rw [lineStarts_map_snd] at this
    rw [← hKL, dataLines, this]; rfl
  have hKLmem : ∀ kl ∈ KL, ∃ before after, unlines ls = unlines before ++ (kl.2 ++ [10]) ++ unlines after ∧
      kl.1 = (unlines before).length ∧ 10 ∉ kl.2 := fun kl hkl => by
    obtain ⟨b, a, h1, h2, h3⟩ := lineStarts_mem 0 ls kl.1 kl.2 (List.mem_filter.mp (hKL ▸ hkl)).1
    exact ⟨b, a, h1, by rw [h2, Nat.zero_add], hfree _ h3⟩
  generalize hds : delimsFrom (isDelim d) 0 (unlines ls) = ds
  generalize hkept : (List.zip (0 :: ds.dropLast.map (· + 1)) ds).filter
      (fun p => decide ((unlines ls).getD (lineStartOf (unlines ls) p.2) 0 ≠ c)) = kept
  have hkept2 : kept = KL.flatMap (fun kl => linePairsOf d kl.1 kl.2) := by
    rw [← hkept, zip_dropLast_eq, ← hds, pairs_by_line d ls 0, ← hKL]
    exact filter_flatMap_const _ _ _ _ (fun kl hkl p hp => keep_line d c hc ls hfree kl.1 kl.2 hkl p hp)
  have htexts : kept.map (fun p => slice (unlines ls) p.1 p.2) = ((dataLines c ls).map (splitOn d)).flatten := by
    rw [hkept2, List.map_flatMap, List.flatMap_def, ← hKLsnd, List.map_map]
    refine congrArg List.flatten (List.map_congr_left fun kl hkl => ?_)
    obtain ⟨b, a, h1, h2, h3⟩ := hKLmem kl hkl
    rw [h1, h2]; exact linePairs_texts d (unlines b) kl.2 (unlines a) h3
  have hrowlen : ∀ r ∈ (dataLines c ls).map (splitOn d), r.length = n := List.forall_mem_map.mpr huni
  have hklen : kept.length = (dataLines c ls).length * n := by
    rw [← List.length_map (fun p => slice (unlines ls) p.1 p.2), htexts, length_flatten_const n _ hrowlen,
      List.length_map]
  -- the column count is read off the first kept newline: the end of the first data line
  obtain ⟨⟨k1, l1⟩, KLrest, hKLcons⟩ := List.ne_nil_iff_exists_cons.mp
    (fun h : KL = [] => hdata (by rw [← hKLsnd, h]; rfl))
  obtain ⟨before, after, hdatasplit, hk1, hl1free⟩ := hKLmem (k1, l1) (hKLcons ▸ List.mem_cons_self)
  simp only at hdatasplit hk1 hl1free
  have hl1n : (splitOn d l1).length = n := huni l1 (by rw [← hKLsnd, hKLcons]; exact List.mem_cons_self)
  have hnpos : 0 < n := hl1n ▸ List.length_pos_iff.mpr (splitOn_ne_nil d l1)
  have hends : kept.map (·.2) = delimsFrom (isDelim d) k1 l1 ++ (k1 + l1.length) ::
      (KLrest.flatMap (fun kl => linePairsOf d kl.1 kl.2)).map (·.2) := by
    rw [hkept2, hKLcons, List.flatMap_cons, List.map_append, linePairsOf, List.map_snd_zip (by simp),
      delimsFrom_line_last, List.append_assoc, List.singleton_append]
  have hr1len : (delimsFrom (isDelim d) k1 l1).length + 1 = n := by
    rw [← hl1n, ← delimsFrom_line_length d k1 l1 hl1free, delimsFrom_line_last, List.length_append]; rfl
  have hfind : (kept.map (·.2)).findIdx? (fun e => decide ((unlines ls).getD e 0 = 10)) = some (n - 1) := by
    rw [hends, findIdx?_append_hit, ← hr1len, Nat.add_sub_cancel]
    · exact fun e he => hdatasplit ▸ decide_eq_false (ne_of_mem_of_not_mem
        (delimsFrom_line_mem d (unlines before) l1 (unlines after) e (hk1 ▸ he)) hl1free)
    · rw [hdatasplit, hk1, getD_mid _ (l1 ++ [10]) _ l1.length (by simp), getD_append_mid]; rfl
  have hdata_ne : complete bs ≠ [] := by
    rw [hcomp, hdatasplit]; simp
  refine ⟨⟨n, kept.map (·.1), kept.map (·.2)⟩, ?_, rfl, ?_⟩
  · unfold commentTable
    simp only [hdata_ne, if_false]
    rw [hcomp, hds, hkept, tableOfStartsEnds, hfind]
    simp [Nat.sub_add_cancel hnpos, hklen]
  · simp only [tableFields, Table.rows, Table.pairs]
    rw [List.zip_map', List.length_map, hklen, Nat.mul_div_cancel _ hnpos, chunkF_map, hcomp, List.map_map]
    simp only [Function.comp_def]
    rw [htexts, ← List.length_map (splitOn d), chunkF_flatten n _ hrowlen]

/-- "a\tb\n#x\ty\nc\td\n": the shipped rule cannot build the table when a comment line contains a TAB;
the repaired rule yields the two records -/
theorem commentTableOld_unsound :
    (match commentTableOld 9 35 [97,9,98,10,35,120,9,121,10,99,9,100,10] with | .error _ => true | .ok _ => false) = true ∧
    (match commentTable 9 35 [97,9,98,10,35,120,9,121,10,99,9,100,10] with
      | .ok t => tableFields [97,9,98,10,35,120,9,121,10,99,9,100,10] t == [[[97],[98]], [[99],[100]]]
      | .error _ => false) = true := by decide +kernel

/-! ## non-vacuity -/

-- sam_extra: "a\tb\tc", k = 2
example : 10 ∉ [97, 9, 98, 9, 99] ∧ 2 ≤ (splitOn 9 [97, 9, 98, 9, 99]).length := by decide +kernel

-- sam_rows_spec: "a\tb\tc\nd\te\n" with k = 2
example : linesOf [97,9,98,9,99,10,100,9,101,10] ≠ [] ∧ (∀ l ∈ linesOf [97,9,98,9,99,10,100,9,101,10], 2 ≤ (splitOn 9 l).length) ∧
    (∀ l ∈ linesOf [97,9,98,9,99,10,100,9,101,10], l.getLast? ≠ some 13) := by decide +kernel

-- commentTable_spec: "a\tb\n#x\ty\nc\td\n"
example : dataLines 35 (linesOf [97,9,98,10,35,120,9,121,10,99,9,100,10]) ≠ [] ∧
    ∀ l ∈ dataLines 35 (linesOf [97,9,98,10,35,120,9,121,10,99,9,100,10]), (splitOn 9 l).length = 2 := by decide +kernel

end C02
