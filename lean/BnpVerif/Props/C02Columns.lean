import BnpVerif.Props.C02Text
import BnpVerif.Lemmas.Decimal
/-! C02 — from the texts of a column to its typed values. Each extraction the code has (zero-filled digit matrix, the sign
path of `str_to_int`, optional integers, the flat split of list columns, right-padded identifiers, strands) reads a column
as its documented kind does: one equation per kind for `specColumn`, one case per kind in `typedColumn_spec`, and
`typedColumnsFrom_spec` for a whole schema. Positions enter only through `slice` and the bounds `p.1 ≤ p.2 ≤ length`. -/
namespace C02
open Base

/-! ## digits -/

/-- `decVal`, `specNat`, `specInt` are C18's `ofDigits`, `specNat`, `specParse` (`Model/C18` specifies the same texts for
`str_to_int`); their laws are read off `Lemmas/Decimal`. The two folds differ in the step only: `10 * acc + x` here,
`acc * 10 + d` there. -/
theorem decVal_eq (ds : List Nat) : decVal ds = C18.ofDigits ds :=
  congrArg (List.foldl · 0 ds) (funext fun a => funext fun d => congrArg (· + d) (Nat.mul_comm 10 a))

theorem specNat_eq (t : Bytes) : specNat t = C18.specNat t := by
  unfold specNat C18.specNat
  rw [decVal_eq]; rfl

theorem specInt_eq (t : Bytes) : specInt t = C18.specParse t := by
  -- the sign cases of `specInt` map over an `Option Nat` lifted to `Option Int`
  have key : ∀ (o : Option Nat) (f : Int → Int), Option.map f (do let a ← o; pure (a : Int)) =
      match o with | some v => some (f v) | none => none := fun o f => by cases o <;> rfl
  unfold specInt C18.specParse
  split
  · rw [specNat_eq]; exact key _ _
  · rw [specNat_eq]; exact key _ _
  · next h1 h2 =>
    split
    · exact absurd rfl (h1 _)
    · exact absurd rfl (h2 _)
    · rw [specNat_eq]; exact key _ _

theorem decVal_cons (x : Nat) (xs : List Nat) : decVal (x :: xs) = x * 10 ^ xs.length + decVal xs := by
  rw [decVal_eq, decVal_eq, C18.ofDigits_cons]

theorem decVal_append (a b : List Nat) : decVal (a ++ b) = decVal a * 10 ^ b.length + decVal b := by
  rw [decVal_eq, decVal_eq, decVal_eq, C18.ofDigits_append]

theorem decVal_zeros (k : Nat) (ds : List Nat) : decVal (List.replicate k 0 ++ ds) = decVal ds := by
  rw [decVal_eq, decVal_eq, C18.ofDigits_zeros]

/-- `digits.dot(10 ** arange(w)[::-1])` is the Horner value of the digit row -/
theorem dot_powers (ds : List Nat) : dot ds (powersDesc ds.length) = decVal ds := by
  induction ds with
  | nil => rfl
  | cons x xs ih =>
    rw [decVal_cons, ← ih]
    simp [dot, powersDesc, List.range_succ]

theorem dot_map_powers (f : Nat → Nat) (r : Bytes) : dot (r.map f) (powersDesc r.length) = decVal (r.map f) := by
  simpa using dot_powers (r.map f)

theorem le_maxWidth_aux (fs : List (Nat × Nat)) (m : Nat) :
    m ≤ fs.foldl (fun m p => max m (p.2 - p.1)) m ∧
    ∀ p ∈ fs, p.2 - p.1 ≤ fs.foldl (fun m p => max m (p.2 - p.1)) m := by
  induction fs generalizing m with
  | nil => simp
  | cons q qs ih =>
    have h := ih (max m (q.2 - q.1))
    refine ⟨Nat.le_trans (Nat.le_max_left _ _) h.1, fun p hp => ?_⟩
    rcases List.mem_cons.mp hp with rfl | hp
    · exact Nat.le_trans (Nat.le_max_right _ _) h.1
    · exact h.2 p hp

theorem le_maxWidth (fs : List (Nat × Nat)) : ∀ p ∈ fs, p.2 - p.1 ≤ maxWidth fs :=
  (le_maxWidth_aux fs 0).2

theorem digitRow_eq (data : Bytes) (w : Nat) (p : Nat × Nat) (hp : p.1 ≤ p.2 ∧ p.2 ≤ data.length)
    (hw : p.2 - p.1 ≤ w) :
    digitRow data w p = List.replicate (w - (p.2 - p.1)) 48 ++ slice data p.1 p.2 := by
  rw [digitRow, map_range_ite w _ (Nat.sub_le _ _), slice_eq_map_range data p.1 p.2 hp.2, Nat.sub_sub_self hw]
  congr 1
  · rw [List.map_const', List.length_range]
  · refine List.map_congr_left fun j hj => ?_
    -- `p.2 - (w - ((w - n) + j)) = p.1 + j` for `n = p.2 - p.1 ≤ w` and `j < n`
    rw [Nat.sub_add_eq, Nat.sub_sub_self hw, Nat.sub_sub,
      Nat.sub_sub_self (Nat.add_le_of_le_sub' hp.1 (Nat.le_of_lt (List.mem_range.mp hj)))]

theorem paddedRow_eq (data : Bytes) (w : Nat) (p : Nat × Nat) (hp : p.1 ≤ p.2 ∧ p.2 ≤ data.length)
    (hw : p.2 - p.1 ≤ w) :
    paddedRow data w p = slice data p.1 p.2 ++ List.replicate (w - (p.2 - p.1)) 0 := by
  rw [paddedRow, map_range_ite w _ hw, slice_eq_map_range data p.1 p.2 hp.2]
  congr 1
  · refine List.map_congr_left fun j hj => ?_
    have hlt : p.1 + j < p.2 := Nat.add_lt_of_lt_sub' (List.mem_range.mp hj)
    rw [Nat.min_eq_left (Nat.le_sub_one_of_lt (Nat.lt_of_lt_of_le hlt hp.2))]
  · rw [List.map_const', List.length_range]

theorem firstBadRow_eq_none_iff (rows : List Bytes) (ok : Nat → Bool) :
    firstBadRow rows ok = none ↔ ∀ r ∈ rows, r.all ok = true := by
  have := @List.findIdx_lt_length _ (fun r : Bytes => !r.all ok) rows
  simp only [firstBadRow, ite_eq_right_iff, reduceCtorEq, imp_false, this]
  simp

theorem digitMatrix_all (data : Bytes) (fs : List (Nat × Nat)) (hwf : ∀ p ∈ fs, p.1 ≤ p.2 ∧ p.2 ≤ data.length) :
    firstBadRow (digitMatrix data fs) isDigit = none ↔ ∀ p ∈ fs, (slice data p.1 p.2).all isDigit = true := by
  rw [firstBadRow_eq_none_iff, digitMatrix, List.forall_mem_map]
  exact forall₂_congr fun p hp => by
    simp [digitRow_eq data _ p (hwf p hp) (le_maxWidth fs p hp), isDigit]

/-- For any column of digit fields of unequal widths, the zero-filled right-aligned digit matrix dotted with the
powers of ten gives every row its own value: no row depends on another row's width or content. -/
theorem digitMatrix_value (data : Bytes) (fs : List (Nat × Nat))
    (hwf : ∀ p ∈ fs, p.1 ≤ p.2 ∧ p.2 ≤ data.length)
    (hdig : ∀ p ∈ fs, (slice data p.1 p.2).all isDigit = true) :
    digitMatrixValues data fs
      = .ok (fs.map (fun p => ((decVal ((slice data p.1 p.2).map (· - 48)) : Nat) : Int))) := by
  rw [digitMatrixValues, (digitMatrix_all data fs hwf).mpr hdig, digitMatrix, List.map_map]
  refine congrArg Except.ok (List.map_congr_left fun p hp => ?_)
  rw [Function.comp_apply, dot_map_powers, digitRow_eq data _ p (hwf p hp) (le_maxWidth fs p hp), List.map_append,
    List.map_replicate]
  exact congrArg _ (decVal_zeros _ _)

/-- The digit-matrix path accepts a column exactly when every field consists of digits only. -/
theorem digitMatrixValues_ok_iff (data : Bytes) (fs : List (Nat × Nat))
    (hwf : ∀ p ∈ fs, p.1 ≤ p.2 ∧ p.2 ≤ data.length) :
    (∃ vs, digitMatrixValues data fs = .ok vs) ↔ ∀ p ∈ fs, (slice data p.1 p.2).all isDigit = true := by
  rw [← digitMatrix_all data fs hwf, digitMatrixValues]
  cases firstBadRow (digitMatrix data fs) isDigit <;> simp

/-! ## signed integers: whichever path `get_digit_array` takes, the value is the standard reading -/

theorem specNat_eq_some {t : Bytes} {v : Nat} (h : specNat t = some v) :
    t ≠ [] ∧ t.all isDigit = true ∧ v = decVal (t.map (· - 48)) := by
  unfold specNat at h
  split at h
  · next hc => exact ⟨hc.1, hc.2, (Option.some.inj h).symm⟩
  · simp at h

theorem specInt_unsigned (t : Bytes) (h1 : t.head? ≠ some 45) (h2 : t.head? ≠ some 43) :
    specInt t = (specNat t).map (fun n => (n : Int)) := by
  unfold specInt
  split
  · simp at h1
  · simp at h2
  · rfl

/-- `signedRow` is `C18.rowParse`, the one-row reading that `C18.strToInt_eq` extracts from the batch code -/
theorem signedRow_eq_rowParse (t : Bytes) : signedRow t = C18.rowParse t := by
  cases t with
  | nil => rfl
  | cons c r =>
    have hv : ∀ body : Bytes, ((dot (body.map (· - 48)) (powersDesc body.length) : Nat) : Int)
        = C18.ofDigits (body.map (· - 48)) := fun body => by rw [dot_map_powers, decVal_eq]
    have hall : ∀ body : Bytes, body.all isDigit = C18.allDigits body := fun _ => rfl
    have hs : ∀ (p : Prop) [Decidable p] (v : Int), v * (if p then -1 else 1) = (if p then -v else v) :=
      fun p _ v => by split <;> simp
    simp only [signedRow, C18.rowParse, C18.signOnly, C18.stripSign, C18.isNegRow, C18.isPosRow, C18.specDigits,
      List.head?_cons, List.tail_cons, List.set_cons_zero, List.length_cons, hall, hv, hs, Option.some.injEq,
      beq_iff_eq, Bool.or_eq_true, decide_eq_true_eq, Bool.and_eq_true, Nat.add_eq_right, List.length_eq_zero_iff]
    -- a sign: the body is `'0' :: r`, refused when `r` is empty; no sign: the body is the row
    by_cases hsg : c = 45 ∨ c = 43
    · simp only [hsg, if_true, true_and]
      by_cases hr : r = []
      · rw [if_pos hr, if_pos hr]
      · rw [if_neg hr, if_neg hr]; cases C18.allDigits (48 :: r) <;> rfl
    · simp only [hsg, if_false, false_and]; cases C18.allDigits (c :: r) <;> rfl

/-- On every non-empty text the code's per-row integer conversion and the standard optionally-signed decimal reading
agree: same value, same rejections (a lone sign, a sign inside, any non-digit). -/
theorem signedRow_eq_specInt (t : Bytes) (hne : t ≠ []) : signedRow t = specInt t := by
  rw [signedRow_eq_rowParse, C18.rowParse_eq_spec t hne, specInt_eq]

/-- the one text on which they differ: an EMPTY field is read as 0 by the code; rejecting it is C15's business -/
theorem signedRow_empty : signedRow [] = some 0 ∧ specInt [] = none := by decide +kernel

theorem specInt_nonempty (t : Bytes) (v : Int) (h : specInt t = some v) : t ≠ [] := by
  rintro rfl; simp [specInt, specNat] at h

/-- `str_to_int` on one ragged row is the standard optionally-signed reading of an integer text -/
theorem signedRow_spec (t : Bytes) (v : Int) (h : specInt t = some v) : signedRow t = some v :=
  (signedRow_eq_specInt t (specInt_nonempty t v h)).trans h

theorem specInt_digits {t : Bytes} {v : Int} (h : specInt t = some v) (h1 : t.head? ≠ some 45)
    (h2 : t.head? ≠ some 43) : t.all isDigit = true ∧ ((decVal (t.map (· - 48)) : Nat) : Int) = v := by
  rw [specInt_unsigned t h1 h2] at h
  cases hn : specNat t with
  | none => rw [hn] at h; cases h
  | some n =>
    rw [hn] at h
    obtain ⟨_, hd, rfl⟩ := specNat_eq_some hn
    exact ⟨hd, Option.some.inj h⟩

/-- An integer column (any widths, with or without signs: whichever path `get_digit_array` selects) parses to the
standard reading of each field's own text. -/
theorem intColumn_spec (data : Bytes) (fs : List (Nat × Nat))
    (hwf : ∀ p ∈ fs, p.1 ≤ p.2 ∧ p.2 ≤ data.length)
    (hint : ∀ p ∈ fs, ∃ v, specInt (slice data p.1 p.2) = some v) :
    ∃ vs, intColumn data fs = .ok vs ∧ omap (fun p => specInt (slice data p.1 p.2)) fs = some vs := by
  have hg : ∀ p ∈ fs, specInt (slice data p.1 p.2) = some ((specInt (slice data p.1 p.2)).getD 0) := by
    intro p hp; obtain ⟨v, hv⟩ := hint p hp; rw [hv]; rfl
  refine ⟨_, ?_, omap_some_map _ _ _ hg⟩
  simp only [intColumn]
  split
  · rw [signedValues, omap_map, omap_some_map _ _ _ (fun p hp => signedRow_spec _ _ (hg p hp))]
  · -- digit matrix path: no field starts with a sign, so every field is made of digits
    next hns =>
    have hdig : ∀ p ∈ fs, (slice data p.1 p.2).all isDigit = true ∧
        ((decVal ((slice data p.1 p.2).map (· - 48)) : Nat) : Int) = (specInt (slice data p.1 p.2)).getD 0 := by
      intro p hp
      have hlt : p.1 < p.2 :=
        Nat.lt_of_not_le (fun hle => specInt_nonempty _ _ (hg p hp) (slice_of_le data hle))
      have hno : ¬(decide (some (data.getD p.1 0) = some 45) || decide (some (data.getD p.1 0) = some 43)) = true :=
        fun h => hns (List.any_eq_true.mpr ⟨p, hp, by simpa using h⟩)
      have hh := slice_head data p.1 p.2 hlt (hwf p hp).2
      rw [← hh] at hno
      exact specInt_digits (hg p hp) (fun h => hno (by rw [h]; rfl)) (fun h => hno (by rw [h]; rfl))
    rw [digitMatrix_value data fs hwf (fun p hp => (hdig p hp).1)]
    exact congrArg Except.ok (List.map_congr_left (fun p hp => (hdig p hp).2))

theorem specInt_of_specNat (t : Bytes) (n : Nat) (h : specNat t = some n) : specInt t = some (n : Int) := by
  obtain ⟨hne, hd, _⟩ := specNat_eq_some h
  obtain ⟨c, r, rfl⟩ := List.ne_nil_iff_exists_cons.mp hne
  have hc : isDigit c = true := (Bool.and_eq_true _ _ ▸ List.all_cons ▸ hd).1
  have hcs : c ≠ 45 ∧ c ≠ 43 := by simp [isDigit] at hc; omega
  rw [specInt_unsigned _ (by simpa using hcs.1) (by simpa using hcs.2), h]; rfl

theorem omap_specNatI {texts : List Bytes} {vs : List Int} (h : omap specNatI texts = some vs) :
    omap specInt texts = some vs := by
  rw [← h]
  refine omap_congr _ _ _ fun t ht => ?_
  obtain ⟨v, hv⟩ := omap_mem_some h ht
  unfold specNatI at hv ⊢
  cases hn : specNat t with
  | none => rw [hn] at hv; cases hv
  | some n => exact specInt_of_specNat t n hn

theorem intColumn_ok (data : Bytes) (fs : List (Nat × Nat)) (hwf : ∀ p ∈ fs, p.1 ≤ p.2 ∧ p.2 ≤ data.length)
    (vs : List Int) (h : omap specInt (fs.map (fun p => slice data p.1 p.2)) = some vs) : intColumn data fs = .ok vs := by
  rw [omap_map] at h
  obtain ⟨ws, hw1, hw2⟩ := intColumn_spec data fs hwf fun p hp => omap_mem_some h hp
  rw [hw1, Option.some.inj (hw2.symm.trans h)]

/-! ## list-valued columns -/

/-- The flat split-and-regroup of a list column gives every row the non-empty `splitOn sep` items of its own text
(`sep` is ',' in the package): a trailing comma adds no element and rows do not leak into each other. -/
theorem listColumn_spec (sep : Nat) (rows : List Bytes) :
    splitRows sep rows = rows.map (fun f => (splitOn sep f).filter (· ≠ [])) := by
  rw [splitRows, regroup_spec, List.map_map]; rfl

/-- the regrouping shipped before the repair: `10,20,` / `7,` came out as `[10,20,7]` / `[]` -/
theorem splitRowsOld_unsound :
    splitRowsOld 44 [[49,48,44,50,48,44], [55,44]] = [[[49,48],[50,48],[55]], []] ∧
    splitRows 44 [[49,48,44,50,48,44], [55,44]] = [[[49,48],[50,48]], [[55]]] := by decide +kernel

/-- An integer-list column parses to the documented reading (`specIntList`) of every row. -/
theorem intListColumn_spec (rows : List Bytes) (vs : List (List Int))
    (h : omap specIntList rows = some vs) : intListColumn rows = .ok vs := by
  have hrow : (fun r => omap signedRow ((splitOn 44 r).filter (· ≠ []))) = specIntList :=
    funext fun r => omap_congr _ _ _ fun t ht =>
      signedRow_eq_specInt t (by simpa using (List.mem_filter.mp ht).2)
  rw [intListColumn, listColumn_spec, omap_map, hrow, h]

/-! ## optional integers -/

theorem optIntColumn_ok (texts : List Bytes) (vs : List Int) (h : omap specOInt texts = some vs) :
    optIntColumn texts = .ok vs := by
  obtain ⟨g, rfl, hg⟩ := omap_some_exists h
  -- a present field is read by `signedRow` as `specOInt` reads it
  have hpres : ∀ t ∈ texts, (t ≠ [] && t ≠ [46]) = true → signedRow t = some (g t) := fun t ht hp => by
    have hne : t ≠ [] ∧ t ≠ [46] := by simpa using hp
    rw [signedRow_eq_specInt t hne.1, ← hg t ht, specOInt, if_neg (not_or.mpr hne)]
  rw [optIntColumn, signedValues,
    omap_some_map _ g _ fun t ht => hpres t (List.mem_filter.mp ht).1 (List.mem_filter.mp ht).2]
  refine congrArg Except.ok (List.map_congr_left fun t ht => ?_)
  by_cases hp : (t ≠ [] && t ≠ [46]) = true
  · rw [if_pos hp, hpres t ht hp]; rfl
  · have hm : t = [] ∨ t = [46] := by
      simp only [Bool.and_eq_true, decide_eq_true_eq, not_and, Decidable.not_not] at hp
      exact (Decidable.em (t = [])).imp id fun h0 => hp h0
    have := hg t ht
    rw [specOInt, if_pos hm] at this
    rw [if_neg hp, Option.some.inj this]

/-- A column of optional integers: missing (empty or ".") → 0, the others their standard reading. -/
theorem optIntColumn_spec (texts : List Bytes)
    (h : ∀ t ∈ texts, t = [] ∨ t = [46] ∨ ∃ v, specInt t = some v) :
    optIntColumn texts = .ok (texts.map (fun t => if t = [] ∨ t = [46] then 0 else (specInt t).getD 0)) :=
  optIntColumn_ok texts _ (omap_some_map _ _ _ fun t ht => by
    unfold specOInt
    split
    · rfl
    · next hm =>
      obtain ⟨v, hv⟩ := ((h t ht).resolve_left (not_or.mp hm).1).resolve_left (not_or.mp hm).2
      rw [hv]; rfl)

/-- the rule shipped before the repair raised on a '.' next to a number -/
theorem optIntColumnOld_unsound :
    (match optIntColumnOld [[46], [53]] with | .error (.format 0) => true | _ => false) = true ∧
    (match optIntColumn [[46], [53]] with | .ok [0, 5] => true | _ => false) = true := by decide +kernel

/-! ## identifier columns (right-padded matrix) -/

theorem stripNul_padded (t : Bytes) (k : Nat) (h : t.getLast? ≠ some 0) :
    stripNul (t ++ List.replicate k 0) = t := by
  have hz : ∀ x ∈ List.replicate k 0, (x == 0) = true := fun x hx => by simp [(List.mem_replicate.mp hx).2]
  rw [stripNul, List.reverse_append, List.reverse_replicate]
  rcases List.eq_nil_or_concat t with rfl | ⟨u, a, rfl⟩
  · rw [List.reverse_nil, List.append_nil, dropWhile_all _ _ hz]; rfl
  · have ha : (a == 0) = false := by simpa using h
    rw [List.concat_eq_append, List.reverse_concat, dropWhile_append_stop _ _ a _ hz ha, ← List.reverse_concat,
      List.reverse_reverse]

/-- An identifier column (right-padded NUL matrix read back as fixed-width strings) shows each row's own text. -/
theorem idColumn_spec (data : Bytes) (fs : List (Nat × Nat))
    (hwf : ∀ p ∈ fs, p.1 ≤ p.2 ∧ p.2 ≤ data.length)
    (hnul : ∀ p ∈ fs, (slice data p.1 p.2).getLast? ≠ some 0) :
    (paddedMatrix data fs).map stripNul = fs.map (fun p => slice data p.1 p.2) := by
  rw [paddedMatrix, List.map_map]
  refine List.map_congr_left fun p hp => ?_
  rw [Function.comp_apply, paddedRow_eq data _ p (hwf p hp) (le_maxWidth fs p hp)]
  exact stripNul_padded _ _ (hnul p hp)

/-! ## the documented reading of a column, kind by kind: `specColumn` is an `if` chain over the kind strings, resolved here
once per kind -/

def modelledKind (k : String) : Prop :=
  k = "int" ∨ k = "sint" ∨ k = "oint" ∨ k = "id" ∨ k = "str" ∨ k = "float" ∨ k = "ilist" ∨ k = "strand"

/-- documented kind ↦ declared kind: the package has one `int` type (signed text accepted) -/
def normKind (k : String) : String := if k = "sint" then "int" else k

theorem specColumn_int (texts : List Bytes) : specColumn "int" texts = (omap specNatI texts).map Col.ints := by
  unfold specColumn; simp only [↓reduceIte]
theorem specColumn_sint (texts : List Bytes) : specColumn "sint" texts = (omap specInt texts).map Col.ints := by
  unfold specColumn; simp only [String.reduceEq, ↓reduceIte]
theorem specColumn_oint (texts : List Bytes) : specColumn "oint" texts = (omap specOInt texts).map Col.ints := by
  unfold specColumn; simp only [String.reduceEq, ↓reduceIte]
theorem specColumn_id (texts : List Bytes) : specColumn "id" texts =
    if texts.all (fun t => t.getLast? != some 0) then some (Col.strs texts) else none := by
  unfold specColumn; simp only [String.reduceEq, ↓reduceIte]
theorem specColumn_str (texts : List Bytes) : specColumn "str" texts = some (Col.strs texts) := by
  unfold specColumn; simp only [String.reduceEq, ↓reduceIte]
theorem specColumn_float (texts : List Bytes) : specColumn "float" texts = some (Col.floats texts) := by
  unfold specColumn; simp only [String.reduceEq, ↓reduceIte]
theorem specColumn_ilist (texts : List Bytes) :
    specColumn "ilist" texts = (omap specIntList texts).map Col.intLists := by
  unfold specColumn; simp only [String.reduceEq, ↓reduceIte]
theorem specColumn_strand (texts : List Bytes) : specColumn "strand" texts =
    if texts.all (fun t => t.length == 1 && t.all strandOK) then some (Col.strs texts) else none := by
  unfold specColumn; simp only [String.reduceEq, ↓reduceIte]

theorem specColumn_some_modelled {k : String} {texts : List Bytes} {c : Col} (h : specColumn k texts = some c) :
    modelledKind k := by
  unfold modelledKind
  refine Decidable.byContradiction fun hk => ?_
  simp only [not_or] at hk
  simp [specColumn, hk] at h

/-! ## typed extraction of a column = its documented reading -/

theorem columnOf_map {α β} (f : α → β) (rows : List (List α)) (j : Nat) :
    columnOf (rows.map (fun r => r.map f)) j = (columnOf rows j).map f := by
  simp [columnOf, List.filterMap_map, List.map_filterMap, Function.comp_def]

theorem mem_columnOf {α} (rows : List (List α)) (j : Nat) (x : α) (hx : x ∈ columnOf rows j) :
    ∃ r ∈ rows, x ∈ r := by
  obtain ⟨r, hr, hrx⟩ := List.mem_filterMap.mp hx
  exact ⟨r, hr, List.mem_of_getElem? hrx⟩

/-- The strand column is accepted exactly when every field is one of the single characters + - . (then verbatim). -/
theorem strandColumn_ok_iff (data : Bytes) (fs : List (Nat × Nat)) (c : Col) :
    typedColumn "strand" data fs = .ok c ↔
      specColumn "strand" (fs.map (fun p => slice data p.1 p.2)) = some c := by
  -- `typedColumn "strand"` reduces through its match on the kind string
  show ite _ _ _ = _ ↔ _
  rw [specColumn_strand]
  generalize fs.map (fun p => slice data p.1 p.2) = texts
  have hiff : texts.all (fun t => t.length == 1 && t.all strandOK) = true ↔
      texts.any (fun t => t.length != 1) = false ∧ firstBadRow texts strandOK = none := by
    simp [firstBadRow_eq_none_iff, forall_and]
  cases hany : texts.any (fun t => t.length != 1) <;> cases hbad : firstBadRow texts strandOK <;>
    simp [hiff, hany, hbad]

/-- every modelled column kind: the typed extraction is the documented reading of the texts, whenever that exists -/
theorem typedColumn_spec (sk : String) (data : Bytes) (fs : List (Nat × Nat))
    (hwf : ∀ p ∈ fs, p.1 ≤ p.2 ∧ p.2 ≤ data.length) (c : Col)
    (hs : specColumn sk (fs.map (fun p => slice data p.1 p.2)) = some c) :
    typedColumn (normKind sk) data fs = .ok c := by
  -- in each case the final `exact` / `rfl` evaluates `normKind` and the match on the kind string
  rcases specColumn_some_modelled hs with rfl | rfl | rfl | rfl | rfl | rfl | rfl | rfl
  · rw [specColumn_int] at hs
    obtain ⟨vs, ho, rfl⟩ := Option.map_eq_some_iff.mp hs
    exact congrArg (Except.map Col.ints) (intColumn_ok data fs hwf vs (omap_specNatI ho))
  · rw [specColumn_sint] at hs
    obtain ⟨vs, ho, rfl⟩ := Option.map_eq_some_iff.mp hs
    exact congrArg (Except.map Col.ints) (intColumn_ok data fs hwf vs ho)
  · rw [specColumn_oint] at hs
    obtain ⟨vs, ho, rfl⟩ := Option.map_eq_some_iff.mp hs
    exact congrArg (Except.map Col.ints) (optIntColumn_ok _ vs ho)
  · rw [specColumn_id] at hs
    split at hs
    · next hall =>
      cases hs
      exact congrArg (fun v => Except.ok (Col.strs v)) (idColumn_spec data fs hwf fun p hp => by
        simpa using List.all_eq_true.mp hall _ (List.mem_map_of_mem hp))
    · cases hs
  · rw [specColumn_str] at hs; cases hs; rfl
  · rw [specColumn_float] at hs; cases hs; rfl
  · rw [specColumn_ilist] at hs
    obtain ⟨vs, ho, rfl⟩ := Option.map_eq_some_iff.mp hs
    exact congrArg (Except.map Col.intLists) (intListColumn_spec _ vs ho)
  · exact (strandColumn_ok_iff data fs c).mpr hs

theorem typedColumnsFrom_spec (data : Bytes) (rows : List (List (Nat × Nat)))
    (hwf : ∀ r ∈ rows, ∀ p ∈ r, p.1 ≤ p.2 ∧ p.2 ≤ data.length)
    (sks : List String) (j : Nat) (cs : List Col)
    (hs : specColumnsFrom (rows.map (fun r => r.map (fun p => slice data p.1 p.2))) j sks = some cs) :
    typedColumnsFrom data rows j (sks.map normKind) = .ok cs := by
  induction sks generalizing j cs with
  | nil => cases hs; rfl
  | cons k ks ih =>
    simp only [specColumnsFrom] at hs
    split at hs
    · next c cs' hc hcs =>
      cases hs
      rw [columnOf_map] at hc
      have h1 := typedColumn_spec k data (columnOf rows j)
        (fun p hp => by obtain ⟨r, hr, hpr⟩ := mem_columnOf rows j p hp; exact hwf r hr p hpr) c hc
      simp only [List.map_cons, typedColumnsFrom, h1, ih (j + 1) cs' hcs]
    · cases hs

/-! ## non-vacuity -/

-- "1", "333"; "-5", "33"; "10,20,", "7,"
example : (match digitMatrixValues [49,9,51,51,51,10] [(0,1),(2,5)] with | .ok v => v | _ => []) = [1, 333] := by decide +kernel
example : (match intColumn [45,53,9,51,51,10] [(0,2),(3,5)] with | .ok v => v | _ => []) = [-5, 33] := by decide +kernel
example : specIntList [49,48,44,50,48,44] = some [10, 20] := by decide +kernel
example : omap specIntList [[49,48,44,50,48,44], [55,44]] = some [[10,20],[7]] := by decide +kernel
example : specInt [45,53] = some (-5) := by decide +kernel
-- a lone sign
example : signedRow [45] = none ∧ specInt [45] = none ∧ signedRow [45, 55] = some (-7) := by decide +kernel
example : ∃ vs, digitMatrixValues [52, 50, 9] [(0, 2)] = .ok vs :=
  (digitMatrixValues_ok_iff [52, 50, 9] [(0, 2)] (by decide)).mpr (by decide)
-- "+-"; "+", "."
example : specColumn "strand" [[43, 45]] = none ∧ specColumn "strand" [[43], [46]] = some (Col.strs [[43], [46]]) := by
  decide +kernel

end C02
