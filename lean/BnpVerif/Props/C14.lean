import BnpVerif.Model.C14
import BnpVerif.Gen.C14
/-! C14: reverse complement, stranded extraction and translation of `Model/C14` against the specification, for any
table passing `tableOK`; the generated tables against that obligation. -/
namespace C14
open Base

theorem compByte_invol (b : Nat) : compByte (compByte b) = b := by
  by_cases h : b ∈ [65, 84, 67, 71, 97, 116, 99, 103]
  · exact (by decide : ∀ x ∈ [65, 84, 67, 71, 97, 116, 99, 103], compByte (compByte x) = x) b h
  · have : compByte b = b := by simp at h; simp [compByte, h]
    rw [this, this]

theorem isDna_compByte (b : Nat) (h : isDna b = true) : isDna (compByte b) = true :=
  (by decide : ∀ x ∈ dnaLetters, isDna (compByte x) = true) b (by simpa [isDna] using h)

theorem specRevComp_invol (s : Bytes) : specRevComp (specRevComp s) = s := by
  simp [specRevComp, List.map_reverse, Function.comp_def, compByte_invol]

/-! ### the specification characterised by list laws -/

theorem specRevComp_length (s : Bytes) : (specRevComp s).length = s.length := by
  simp [specRevComp]

theorem specRevComp_eq_reverse_map (s : Bytes) : specRevComp s = s.reverse.map compByte := by
  simp [specRevComp, List.map_reverse]

/-- why a multi-exon `-` transcript is complemented as a whole -/
theorem specRevComp_append (a b : Bytes) : specRevComp (a ++ b) = specRevComp b ++ specRevComp a := by
  simp [specRevComp, List.map_append, List.reverse_append]

theorem specRevComp_flatten (l : List Bytes) : specRevComp l.flatten = (l.reverse.map specRevComp).flatten := by
  induction l with
  | nil => rfl
  | cons x xs ih => simp [List.flatten_cons, specRevComp_append, ih, List.map_append, List.flatten_append]

theorem specRevComp_getElem? (s : Bytes) (i : Nat) (hi : i < s.length) :
    (specRevComp s)[i]? = some (compByte (s.getD (s.length - 1 - i) 0)) := by
  unfold specRevComp
  rw [List.getElem?_reverse (by simpa using hi)]
  simp only [List.length_map, List.getElem?_map]
  rw [List.getD_eq_getElem?_getD, List.getElem?_eq_getElem (by omega)]
  rfl

theorem compByte_table : dnaLetters.map compByte = [84, 71, 67, 65, 78, 116, 103, 99, 97, 110] := by decide

theorem compByte_case : dnaLetters.all (fun b => isLower (compByte b) == isLower b) = true := by decide

/-! ### the whole-table obligation -/

theorem tableOK_point (T : Tab) (h : tableOK T = true) (c b : Nat) (hc : T.dec[c]? = some b)
    (hb : isDna b = true) : ∃ c', (T.comp[c]?).join = some c' ∧ T.dec[c']? = some (compByte b) := by
  simp only [tableOK, Bool.and_eq_true, List.all_eq_true, List.mem_range] at h
  have := h.1.2 c (List.getElem?_eq_some_iff.mp hc).1
  rw [hc] at this
  simp only [hb, Bool.not_true, Bool.false_or] at this
  split at this
  · exact ⟨_, ‹_›, by simpa using this⟩
  · cases this

theorem dec_inj (T : Tab) (h : tableOK T = true) (a a' b : Nat) (ha : T.dec[a]? = some b)
    (ha' : T.dec[a']? = some b) : a = a' := by
  simp only [tableOK, Bool.and_eq_true, decide_eq_true_eq] at h
  exact (List.getElem?_inj (List.getElem?_eq_some_iff.mp ha).1 h.2).mp (ha.trans ha'.symm)

theorem decode_rows_inj (T : Tab) (h : tableOK T = true) (rows rows' : List (List Nat)) (texts : List Bytes)
    (h1 : omap (decode T) rows = some texts) (h2 : omap (decode T) rows' = some texts) : rows = rows' :=
  omap_inj _ (omap_inj _ (dec_inj T h)) rows rows' texts h1 h2

/-- `tableOK` arranged for evaluation on a 128-entry table: codes walked together with their complements instead of
looked up by index; a decode table that is the identity (ASCII) needs no pairwise comparison -/
def tableFast (T : Tab) : Bool :=
  T.comp.length == T.dec.length &&
  (T.dec.zip T.comp).all (fun p => !isDna p.1 ||
    (match p.2 with
     | some c' => T.dec[c']? == some (compByte p.1)
     | none => false)) &&
  (T.dec == List.range T.dec.length || decide T.dec.Nodup)

theorem tableOK_eq_fast (T : Tab) : tableOK T = tableFast T := by
  have hC : decide T.dec.Nodup = (T.dec == List.range T.dec.length || decide T.dec.Nodup) := by
    cases h : T.dec == List.range T.dec.length
    · rfl
    · have : T.dec.Nodup := by rw [eq_of_beq h]; exact List.nodup_range
      simp [this]
  unfold tableOK tableFast
  rw [← hC]
  cases hA : (T.comp.length == T.dec.length)
  · rfl
  -- equally long lists: position `c` of `dec` and of `comp` ↔ the pair at position `c` of the zip
  congr 2
  rw [Bool.eq_iff_iff, List.all_eq_true, List.all_eq_true]
  constructor
  · intro h p hp
    obtain ⟨i, hi⟩ := List.mem_iff_getElem?.mp hp
    obtain ⟨h1, h2⟩ := List.getElem?_zip_eq_some.mp hi
    have := h i (List.mem_range.mpr (List.getElem?_eq_some_iff.mp h1).1)
    simp only [h1, h2, Option.join_some] at this
    exact this
  · intro h c hc
    have hc1 := List.mem_range.mp hc
    have hc2 : c < T.comp.length := eq_of_beq hA ▸ hc1
    have := h (T.dec[c], T.comp[c]) (List.mem_iff_getElem?.mpr ⟨c, List.getElem?_zip_eq_some.mpr
      ⟨List.getElem?_eq_getElem hc1, List.getElem?_eq_getElem hc2⟩⟩)
    simp only [List.getElem?_eq_getElem hc1, List.getElem?_eq_getElem hc2, Option.join_some]
    exact this

/-! ### reverse complement -/

/-- C14 clause 1 for a flat (one-sequence) array -/
theorem revcomp_def_flat (T : Tab) (h : tableOK T = true) (cs : List Nat) (t : Bytes)
    (hd : decode T cs = some t) (hdna : ∀ b ∈ t, isDna b = true) :
    ∃ out, revcompFlat T cs = some out ∧ decode T out = some (specRevComp t) := by
  obtain ⟨d, hd1, hd2⟩ := omap_lift _ _ _ compByte (isDna · = true) (tableOK_point T h) cs t hd hdna
  exact ⟨d.reverse, congrArg (Option.map List.reverse) hd1,
    (omap_reverse _ d).trans (congrArg (Option.map List.reverse) hd2)⟩

/-- ravel, look up, re-wrap, reverse every row = the flat function on every row -/
theorem revcompRagged_eq (T : Tab) (rows : List (List Nat)) : revcompRagged T rows = omap (revcompFlat T) rows := by
  unfold revcompRagged revcompFlat complement
  rw [omap_flatten, omap_map_result]
  cases h : omap (omap fun c => (T.comp[c]?).join) rows with
  | none => rfl
  | some outs =>
    -- every looked-up row is as long as its input row
    simp only [Option.map_some]
    rw [unflatten_flatten_of_lengths _ _ (omap_image _ _ _ (omap_length _) _ _ h)]

/-- completeness: `get_reverse_complement` answers iff every code has a table entry (the numpy lookup raises otherwise) -/
theorem revcompRagged_isSome_iff (T : Tab) (rows : List (List Nat)) :
    (revcompRagged T rows).isSome ↔ ∀ r ∈ rows, ∀ c ∈ r, ((T.comp[c]?).join).isSome := by
  simp only [revcompRagged_eq, omap_isSome_iff, revcompFlat, complement, Option.isSome_map]

/-- C14 clause 1: for every table passing the obligation and rows that decode to DNA text, `get_reverse_complement`
answers and its result decodes, row for row, to the reverse complement of the text -/
theorem revcomp_def (T : Tab) (h : tableOK T = true) (rows : List (List Nat)) (texts : List Bytes)
    (hd : omap (decode T) rows = some texts) (hdna : ∀ t ∈ texts, ∀ b ∈ t, isDna b = true) :
    ∃ out, revcompRagged T rows = some out ∧ omap (decode T) out = some (texts.map specRevComp) := by
  rw [revcompRagged_eq]
  exact omap_lift _ _ _ specRevComp (∀ b ∈ ·, isDna b = true) (revcomp_def_flat T h) rows texts hd hdna

/-- C14 clause 2: every row keeps its length (no table hypothesis needed) -/
theorem revcomp_lengths (T : Tab) (rows out : List (List Nat)) (h : revcompRagged T rows = some out) :
    out.map List.length = rows.map List.length := by
  rw [revcompRagged_eq] at h
  refine omap_image _ _ _ (fun r o ho => ?_) rows out h
  obtain ⟨d, hd, rfl⟩ := Option.map_eq_some_iff.mp ho
  rw [List.length_reverse, omap_length _ _ _ hd]

theorem map_specRevComp_twice (texts : List Bytes) : (texts.map specRevComp).map specRevComp = texts := by
  simp [Function.comp_def, specRevComp_invol]

theorem rows_specRevComp_dna (texts : List Bytes) (h : ∀ t ∈ texts, ∀ b ∈ t, isDna b = true) :
    ∀ t ∈ texts.map specRevComp, ∀ b ∈ t, isDna b = true := by
  intro t ht b hb
  obtain ⟨s, hs, rfl⟩ := List.mem_map.mp ht
  obtain ⟨a, ha, rfl⟩ := List.mem_map.mp (List.mem_reverse.mp hb)
  exact isDna_compByte a (h s hs a ha)

/-- C14 clause 3: applied twice gives back the input, code for code -/
theorem revcomp_involutive (T : Tab) (h : tableOK T = true) (rows : List (List Nat)) (texts : List Bytes)
    (hd : omap (decode T) rows = some texts) (hdna : ∀ t ∈ texts, ∀ b ∈ t, isDna b = true)
    (out : List (List Nat)) (h1 : revcompRagged T rows = some out) : revcompRagged T out = some rows := by
  obtain ⟨out', h1', hd1⟩ := revcomp_def T h rows texts hd hdna
  cases h1.symm.trans h1'
  -- the second result decodes to the texts again, and decoding is injective
  obtain ⟨out2, h2, hd2⟩ := revcomp_def T h out _ hd1 (rows_specRevComp_dna texts hdna)
  rw [map_specRevComp_twice] at hd2
  rw [h2, decode_rows_inj T h out2 rows texts hd2 hd]

/-! ### stranded extraction -/

theorem selectRows_map {ι} (xs : List ι) (p : ι → Bool) (f g : ι → List Nat) :
    selectRows (xs.map p) (xs.map f) (xs.map g) = xs.map (fun x => if p x then f x else g x) := by
  induction xs with
  | nil => rfl
  | cons x xs ih => simp [selectRows, ih]

theorem decode_slice (T : Tab) (seq : List Nat) (t : Bytes) (iv : Iv) (h : decode T seq = some t) :
    decode T (slice seq iv) = some (slice t iv) :=
  omap_take _ _ _ _ (omap_drop _ _ _ _ h)

theorem slice_mem (t : Bytes) (iv : Iv) (b : Nat) (hb : b ∈ slice t iv) : b ∈ t :=
  List.mem_of_mem_drop (List.mem_of_mem_take hb)

theorem getD_dna (texts : List Bytes) (hdna : ∀ t ∈ texts, ∀ b ∈ t, isDna b = true) (i : Nat) :
    ∀ b ∈ texts.getD i [], isDna b = true := by
  intro b hb
  rw [List.getD_eq_getElem?_getD] at hb
  cases hi : texts[i]? with
  | none => simp [hi] at hb
  | some r => exact hdna r (List.mem_of_getElem? hi) b (by simpa [hi] using hb)

/-! #### the code path: ragged view, Python slices, `where_rows` -/

theorem view_extract_map {ι} (data : List Nat) (xs : List ι) (s l : ι → Nat) :
    View.extract data (xs.map s) (xs.map l) = xs.map (fun x => (data.drop (s x)).take (l x)) := by
  induction xs with
  | nil => rfl
  | cons x xs ih => simp only [List.map_cons, View.extract, ih]

theorem view_extract_eq (data : List Nat) (ivs : List Iv) :
    View.extract data (View.ofBounds ivs).starts (View.ofBounds ivs).lens = ivs.map (fun iv => slice data iv) :=
  view_extract_map data ivs _ _

theorem pySliceNat_eq (seq : List Nat) (iv : Iv) : pySliceNat seq iv.start iv.stop = slice seq iv := by
  simp [pySliceNat, slice, List.drop_take]

theorem whereFlat_append (m : Bool) (r r' : List Nat) (hl : r.length = r'.length) (M : List Bool) (X Y : List Nat) :
    whereFlat (List.replicate r.length m ++ M) (r ++ X) (r' ++ Y) = (if m then r else r') ++ whereFlat M X Y := by
  induction r generalizing r' with
  | nil =>
    cases r' with
    | nil => cases m <;> simp
    | cons _ _ => simp at hl
  | cons x xs ih =>
    cases r' with
    | nil => simp at hl
    | cons y ys =>
      have := ih ys (by simpa using hl)
      simp only [List.length_cons, List.replicate_succ, List.cons_append, whereFlat, this]
      cases m <;> simp

/-- `where_rows` with one boolean per row and equally shaped operands IS row selection -/
theorem whereRows_eq_selectRows (mask : List Bool) (a b : List (List Nat)) (h1 : mask.length = a.length)
    (h2 : a.map List.length = b.map List.length) : whereRows mask a b = selectRows mask a b := by
  unfold whereRows
  induction a generalizing mask b with
  | nil => cases mask <;> simp [unflatten, selectRows]
  | cons r as ih =>
    cases mask with
    | nil => simp at h1
    | cons m ms =>
      cases b with
      | nil => simp at h2
      | cons r' bs =>
        simp only [List.map_cons, List.cons.injEq] at h2
        simp only [List.map_cons, expandMask, List.flatten_cons, selectRows, unflatten]
        rw [whereFlat_append m r r' h2.1]
        have hlen : (if m = true then r else r').length = r.length := by cases m <;> simp [h2.1]
        rw [List.take_left' hlen, List.drop_left' hlen]
        congr 1
        exact ih ms bs (by simpa using h1) h2.2

/-- what the stranded entry points and the transcript sequences share: `where_rows` between rows and their reverse
complement, in either operand order -/
theorem whereRows_revcomp {ι} (T : Tab) (h : tableOK T = true) (xs : List ι) (p : ι → Bool) (f : ι → List Nat)
    (g : ι → Bytes) (hd : ∀ x ∈ xs, decode T (f x) = some (g x)) (hdna : ∀ x ∈ xs, ∀ b ∈ g x, isDna b = true) :
    ∃ rc, revcompRagged T (xs.map f) = some rc ∧
      omap (decode T) (whereRows (xs.map p) rc (xs.map f)) =
        some (xs.map fun x => if p x then specRevComp (g x) else g x) ∧
      omap (decode T) (whereRows (xs.map p) (xs.map f) rc) =
        some (xs.map fun x => if p x then g x else specRevComp (g x)) := by
  have hrel : omap (decode T) (xs.map f) = some (xs.map g) := by rw [omap_map]; exact omap_some_map _ _ _ hd
  obtain ⟨rc, hrc, hrcd⟩ := revcomp_def T h _ _ hrel (by simpa using hdna)
  -- the reverse complements are a function of the index too, so both selections are maps over `xs`
  obtain ⟨R, rfl, _⟩ := omap_some_exists (revcompRagged_eq T _ ▸ hrc)
  rw [List.map_map] at hrc hrcd
  have hlens := revcomp_lengths T _ _ hrc
  have hR : ∀ x ∈ xs, decode T (R (f x)) = some (specRevComp (g x)) :=
    List.map_inj_left.mp (by simpa using omap_eq_some_iff.mp hrcd)
  refine ⟨_, hrc, ?_, ?_⟩
  · rw [whereRows_eq_selectRows _ _ _ (by simp) hlens, selectRows_map, omap_map]
    exact omap_some_map _ _ _ fun x hx => by
      cases p x
      · exact hd x hx
      · exact hR x hx
  · rw [whereRows_eq_selectRows _ _ _ (by simp) hlens.symm, selectRows_map, omap_map]
    exact omap_some_map _ _ _ fun x hx => by
      cases p x
      · exact hR x hx
      · exact hd x hx

/-- `get_strand_specific_sequences` on ANY strand byte: exactly the rows whose strand is `-` are reverse-complemented -/
theorem strand_dna_def (T : Tab) (h : tableOK T = true) (seq : List Nat) (text : Bytes)
    (hd : decode T seq = some text) (hdna : ∀ b ∈ text, isDna b = true) (ivs : List Iv) :
    ∃ out, strandSpecific T [seq] ivs = some out ∧
      omap (decode T) out = some (ivs.map (fun iv => if iv.strand == 45 then specRevComp (slice text iv) else slice text iv)) := by
  obtain ⟨rc, hrc, hdec, _⟩ := whereRows_revcomp T h ivs (·.strand == 45) (slice seq) (slice text)
    (fun iv _ => decode_slice T _ _ iv hd) (fun iv _ b hb => hdna b (slice_mem _ iv b hb))
  exact ⟨_, by simp only [strandSpecific, List.getD_cons_zero, view_extract_eq, hrc, Option.map_some], hdec⟩

/-- `GenomicSequence.extract_intervals(stranded=True)` on ANY strand byte: rows with strand `+` are kept, all others
reverse-complemented (so the two entry points differ on `.`). The right-hand side is `specStrand texts ivs` unfolded. -/
theorem extract_stranded_def (T : Tab) (h : tableOK T = true) (seqs : List (List Nat)) (texts : List Bytes)
    (hd : omap (decode T) seqs = some texts) (hdna : ∀ t ∈ texts, ∀ b ∈ t, isDna b = true) (ivs : List Iv) :
    ∃ out, extractStranded T seqs ivs = some out ∧
      omap (decode T) out = some (ivs.map (fun iv =>
        if iv.strand == 43 then slice (texts.getD iv.chrom []) iv else specRevComp (slice (texts.getD iv.chrom []) iv))) := by
  obtain ⟨rc, hrc, _, hdec⟩ := whereRows_revcomp T h ivs (·.strand == 43) (fun iv => slice (seqs.getD iv.chrom []) iv)
    (fun iv => slice (texts.getD iv.chrom []) iv)
    (fun iv _ => decode_slice T _ _ iv (omap_getD (decode T) seqs texts hd iv.chrom [] [] (.inr rfl)))
    (fun iv _ b hb => getD_dna texts hdna iv.chrom b (slice_mem _ iv b hb))
  exact ⟨_, by simp only [extractStranded, pySliceNat_eq, hrc, Option.map_some], hdec⟩

/-- the entry points disagree on an unstranded (`.`) interval -/
theorem entry_points_differ_on_dot :
    strandSpecific asciiOld [[65, 67]] [⟨0, 0, 2, 46⟩] = some [[65, 67]] ∧
    extractStranded asciiOld [[65, 67]] [⟨0, 0, 2, 46⟩] = some [[71, 84]] := by decide +kernel

/-- `get_sequences` and `extract_intervals(stranded=False)`: the plain slices, whatever the strands -/
theorem get_sequences_def (seq : List Nat) (ivs : List Iv) : getSequences seq ivs = ivs.map (fun iv => slice seq iv) :=
  view_extract_eq seq ivs

theorem extract_unstranded_def (seqs : List (List Nat)) (ivs : List Iv) : extractUnstranded seqs ivs = relevant seqs ivs :=
  List.map_congr_left fun iv _ => pySliceNat_eq _ iv

/-- C14 clause 4: for sequences that decode to DNA text and intervals with strands `+`/`-`, BOTH entry points answer with
the forward slice for `+` and its reverse complement for `-` (`get_strand_specific_sequences` reads one sequence: its
intervals must all refer to sequence 0) -/
theorem strand_specific (T : Tab) (h : tableOK T = true) (seqs : List (List Nat)) (texts : List Bytes)
    (hd : omap (decode T) seqs = some texts) (hdna : ∀ t ∈ texts, ∀ b ∈ t, isDna b = true)
    (ivs : List Iv) (hs : ∀ iv ∈ ivs, iv.strand = 43 ∨ iv.strand = 45) :
    ∃ out, ((∀ iv ∈ ivs, iv.chrom = 0) → strandSpecific T seqs ivs = some out) ∧
      extractStranded T seqs ivs = some out ∧
      omap (decode T) out = some (specStrand texts ivs) := by
  obtain ⟨out, h1, h2⟩ := extract_stranded_def T h seqs texts hd hdna ivs
  refine ⟨out, fun hc0 => ?_, h1, h2⟩
  -- `strandSpecific` reads sequence 0 only; its result decodes to the same texts, and decoding is injective
  obtain ⟨out', h1', h2'⟩ := strand_dna_def T h (seqs.getD 0 []) (texts.getD 0 []) (omap_getD (decode T) seqs texts hd 0 [] [] (.inr rfl))
    (getD_dna texts hdna 0) ivs
  change strandSpecific T [seqs.getD 0 []] ivs = _
  rw [h1', decode_rows_inj T h out' out _ h2' (h2.trans (congrArg some (List.map_congr_left fun iv hiv => ?_)))]
  rw [hc0 iv hiv]
  rcases hs iv hiv with e | e <;> simp [e]

/-! #### transcript sequences -/

theorem groupRuns_flatten (exons : List Exon) : (groupRuns exons).flatten = exons := by
  induction exons with
  | nil => rfl
  | cons e es ih =>
    simp only [groupRuns]
    cases hg : groupRuns es with
    | nil => rw [hg] at ih; simp at ih; simp [← ih]
    | cons g gs =>
      rw [hg] at ih
      simp only
      split <;> simp [← ih]

theorem exonSlice_eq_slice (ref : List Nat) (e : Exon) : exonSlice ref e = slice ref ⟨0, e.start, e.stop, 0⟩ := rfl

theorem exonSlice_length (ref : List Nat) (e : Exon) (h : e.stop ≤ ref.length) :
    (exonSlice ref e).length = e.stop - e.start := by
  rw [exonSlice, List.length_take, List.length_drop, Nat.min_eq_left (Nat.sub_le_sub_right h _)]

/-- C14, transcripts (`sequence/genes.py`): for exon rows with `stop ≤ len`, `get_transcript_sequences` returns, per run of
equal transcript ids, the exon slices joined in order, reverse-complemented as a whole when the strand is `-` -/
theorem transcripts (T : Tab) (h : tableOK T = true) (ref : List Nat) (text : Bytes)
    (hd : decode T ref = some text) (hdna : ∀ b ∈ text, isDna b = true)
    (exons : List Exon) (hb : ∀ e ∈ exons, e.stop ≤ ref.length) :
    ∃ out, transcriptSeqs T ref exons = some out ∧ omap (decode T) out = some (specTranscripts text exons) := by
  -- the re-wrapped rows are the per-transcript joins
  have hwrap : unflatten ((groupRuns exons).map (fun g => (g.map (fun e => e.stop - e.start)).sum))
      (View.extract ref (exons.map (·.start)) (exons.map (fun e => e.stop - e.start))).flatten =
      (groupRuns exons).map (fun g => (g.map (exonSlice ref)).flatten) := by
    rw [view_extract_map]
    conv => lhs; arg 2; rw [← groupRuns_flatten exons, List.map_flatten, List.flatten_flatten, List.map_map]
    refine unflatten_flatten_of_lengths _ _ ?_
    rw [List.map_map]
    refine List.map_congr_left fun g hg => ?_
    simp only [Function.comp, List.length_flatten, List.map_map]
    refine congrArg List.sum (List.map_congr_left fun e he => exonSlice_length ref e (hb e ?_))
    rw [← groupRuns_flatten exons]
    exact List.mem_flatten.mpr ⟨g, hg, he⟩
  obtain ⟨rc, hrc, hdec, _⟩ := whereRows_revcomp T h (groupRuns exons) (fun g => (g.head?.map (·.strand)) == some 45)
    (fun g => (g.map (exonSlice ref)).flatten) (fun g => (g.map (exonSlice text)).flatten)
    (fun g _ => omap_flatten_some _ _ _ ((omap_map _ _ _).trans
      (omap_some_map _ _ g fun e _ => by
        rw [exonSlice_eq_slice, exonSlice_eq_slice]; exact decode_slice T ref text _ hd)))
    (fun g _ b hb' => by
      obtain ⟨sl, hsl, hbs⟩ := List.mem_flatten.mp hb'
      obtain ⟨e, _, rfl⟩ := List.mem_map.mp hsl
      exact hdna b (slice_mem text _ b (exonSlice_eq_slice text e ▸ hbs)))
  exact ⟨_, by simp only [transcriptSeqs, hwrap, hrc, Option.map_some], hdec⟩

/-- the shipped row selection (npstructures `where` with a column mask that is only broadcast
when it is smaller than the data) raised on a single one-base interval -/
theorem strandSpecificOld_fails :
    strandSpecificOld asciiOld [[65, 67, 71]] [⟨0, 1, 2, 45⟩] = none ∧
    specStrand [[65, 67, 71]] [⟨0, 1, 2, 45⟩] = [[71]] := by decide

/-- the shipped ASCII lookup had no lower-case entries: `get_reverse_complement("ac")` returned two
NUL bytes instead of `"gt"` -/
theorem revcompOld_unsound :
    revcompFlat asciiOld [97, 99] = some [0, 0] ∧ specRevComp [97, 99] = [103, 116] ∧
    tableOK asciiOld = false := by rw [tableOK_eq_fast]; decide +kernel

/-! ### the genetic code -/

/-- the textbook table read row by row (TCAG order) -/
def aaRow : List Nat := [70, 70, 76, 76, 83, 83, 83, 83, 89, 89, 42, 42, 67, 67, 42, 87, 76, 76, 76, 76, 80, 80, 80, 80, 72, 72, 81, 81, 82, 82, 82, 82, 73, 73, 73, 77, 84, 84, 84, 84, 78, 78, 75, 75, 83, 83, 82, 82, 86, 86, 86, 86, 65, 65, 65, 65, 68, 68, 69, 69, 71, 71, 71, 71]

/-- the only evaluation of the family form (64 codons against the 64 three-byte lists of `familiesB`: the list comparisons
are what is slow); everything else is read off `aaRow`, walked with `zipIdx` because indexing the literal 64 times is slow
in the kernel -/
theorem family_of_codon (i aa : Nat) (h : aaRow[i]? = some aa) :
    (familiesB.filter (fun p => p.2.contains (codonOfIndex i))).map (·.1) = [aa] := by
  have sweep : aaRow.zipIdx.all (fun p =>
      (familiesB.filter (fun q => q.2.contains (codonOfIndex p.2))).map (·.1) == [p.1]) = true := by
    decide +kernel
  simpa using List.all_eq_true.mp sweep (aa, i) (List.mem_zipIdx_iff_getElem?.mpr h)

theorem standardCode_codonOfIndex (i aa : Nat) (h : aaRow[i]? = some aa) : standardCode (codonOfIndex i) = some aa := by
  rw [standardCode, ← List.head?_filter, ← List.head?_map, family_of_codon i aa h]
  rfl

/-- the family form is well-formed: every codon lies in exactly one family -/
theorem families_partition : (List.range 64).all (fun i =>
    (familiesB.filter (fun p => p.2.contains (codonOfIndex i))).length == 1) = true := by
  refine List.all_eq_true.mpr fun i hi => ?_
  simpa using congrArg List.length
    (family_of_codon i _ (List.getElem?_eq_getElem (l := aaRow) (List.mem_range.mp hi)))

theorem stdTable_eq : stdTable = aaRow := by
  refine List.ext_getElem (by simp [stdTable]; rfl) fun i h1 h2 => ?_
  simp [stdTable, standardCode_codonOfIndex i _ (List.getElem?_eq_getElem h2)]

/-- the code's table (`translate_dna_to_protein` run on every codon) is the standard code written by families -/
theorem gen_codon_ok : Gen.C14.codon = stdTable := by rw [stdTable_eq]; decide

/-- a sweep over the 64 codons may read the amino acid off `aaRow` -/
theorem all_codons (P : Option Nat → Nat → Bool) (h : aaRow.zipIdx.all (fun p => P (some p.1) p.2) = true) :
    (List.range 64).all (fun i => P (standardCode (codonOfIndex i)) i) = true := by
  refine List.all_eq_true.mpr fun i hi => ?_
  have hi' := List.getElem?_eq_getElem (l := aaRow) (List.mem_range.mp hi)
  rw [standardCode_codonOfIndex i _ hi']
  exact List.all_eq_true.mp h (_, i) (List.mem_zipIdx_iff_getElem?.mpr hi')

/-- exactly TAA, TAG and TGA are stop codons -/
theorem stop_codons_iff : (List.range 64).all (fun i =>
    (standardCode (codonOfIndex i) == some 42) ==
      ([[84, 65, 65], [84, 65, 71], [84, 71, 65]].contains (codonOfIndex i))) = true :=
  all_codons (fun o i => (o == some 42) == [[84, 65, 65], [84, 65, 71], [84, 71, 65]].contains (codonOfIndex i))
    (by decide +kernel)

/-- exactly ATG is methionine and exactly TGG tryptophan -/
theorem met_trp_unique : (List.range 64).all (fun i =>
    ((standardCode (codonOfIndex i) == some 77) == (codonOfIndex i == [65, 84, 71])) &&
    ((standardCode (codonOfIndex i) == some 87) == (codonOfIndex i == [84, 71, 71]))) = true :=
  all_codons (fun o i => ((o == some 77) == (codonOfIndex i == [65, 84, 71])) &&
    ((o == some 87) == (codonOfIndex i == [84, 71, 71]))) (by decide +kernel)

/-! ### translation -/

/-- `encTCAG` is the position of the upper-cased letter in `TCAG` -/
theorem encTCAG_eq_some (b x : Nat) (h : encTCAG b = some x) : x < 4 ∧ tcag[x]? = some (toUpper b) := by
  simp only [encTCAG] at h
  generalize toUpper b = u at h ⊢
  by_cases hu : u ∈ tcag
  · simp only [tcag, List.mem_cons, List.not_mem_nil, or_false] at hu
    rcases hu with rfl | rfl | rfl | rfl <;> cases h <;> decide
  · simp only [tcag, List.mem_cons, List.not_mem_nil, or_false, not_or] at hu
    simp [hu] at h

/-- the table index of a codon is `16x + 4y + z`, whose base-4 digits `codonOfIndex` reads back -/
theorem codon_point (a b c x y z : Nat) (hx : encTCAG a = some x) (hy : encTCAG b = some y) (hz : encTCAG c = some z) :
    ∃ aa, stdTable[hashLE 4 [z, y, x]]? = some aa ∧ standardCode [toUpper a, toUpper b, toUpper c] = some aa := by
  obtain ⟨hx4, hxa⟩ := encTCAG_eq_some a x hx
  obtain ⟨hy4, hya⟩ := encTCAG_eq_some b y hy
  obtain ⟨hz4, hza⟩ := encTCAG_eq_some c z hz
  obtain ⟨i, hi⟩ : ∃ i, i = hashLE 4 [z, y, x] := ⟨_, rfl⟩
  have : i / 16 = x ∧ i / 4 % 4 = y ∧ i % 4 = z ∧ i < 64 := hi ▸
    (by decide +kernel : ∀ x < 4, ∀ y < 4, ∀ z < 4, hashLE 4 [z, y, x] / 16 = x ∧ hashLE 4 [z, y, x] / 4 % 4 = y ∧
      hashLE 4 [z, y, x] % 4 = z ∧ hashLE 4 [z, y, x] < 64) x hx4 y hy4 z hz4
  have hc : codonOfIndex i = [toUpper a, toUpper b, toUpper c] := by
    simp only [codonOfIndex, List.getD_eq_getElem?_getD, this, hxa, hya, hza, Option.getD_some]
  have haa := List.getElem?_eq_getElem (l := aaRow) this.2.2.2
  rw [← hi, stdTable_eq]
  exact ⟨_, haa, hc ▸ standardCode_codonOfIndex i _ haa⟩

theorem chunks3_length : ∀ (s : List Nat), (chunks3 s).length = s.length / 3
  | [] => rfl
  | [_] | [_, _] => by simp [chunks3]
  | _ :: _ :: _ :: rest => by
    rw [chunks3, List.length_cons, chunks3_length rest]
    exact (Nat.add_div_right _ (by decide)).symm

theorem chunks3_append : ∀ (r s : List Nat), r.length % 3 = 0 → chunks3 (r ++ s) = chunks3 r ++ chunks3 s
  | [], s, _ => rfl
  | [_], _, h | [_, _], _, h => by simp at h
  | a :: b :: c :: rest, s, h => by
    simp only [List.cons_append, chunks3, chunks3_append rest s ((Nat.add_mod_right _ 3).symm.trans h)]

theorem chunks3_flatten : ∀ (s : List Nat), s.length % 3 = 0 → (chunks3 s).flatten = s
  | [], _ => rfl
  | [_], h | [_, _], h => by simp at h
  | a :: b :: c :: rest, h => by
    simp only [chunks3, List.flatten_cons, chunks3_flatten rest ((Nat.add_mod_right _ 3).symm.trans h)]
    rfl

theorem translateCodes_row : ∀ (r codes : List Nat), r.length % 3 = 0 → omap encTCAG r = some codes →
    ∃ aas, translateCodes stdTable codes = some aas ∧ specTranslate r = some aas
  | [], _, _, h => by cases h; exact ⟨[], rfl, rfl⟩
  | [_], _, h3, _ | [_, _], _, h3, _ => by simp at h3
  | a :: b :: c :: rest, _, h3, h => by
    obtain ⟨x, _, hx, h1, rfl⟩ := omap_cons_eq_some _ _ _ _ h
    obtain ⟨y, _, hy, h2, rfl⟩ := omap_cons_eq_some _ _ _ _ h1
    obtain ⟨z, codes, hz, h3', rfl⟩ := omap_cons_eq_some _ _ _ _ h2
    obtain ⟨aas, h4, h5⟩ := translateCodes_row rest codes ((Nat.add_mod_right _ 3).symm.trans h3) h3'
    obtain ⟨aa, htab, haa⟩ := codon_point a b c x y z hx hy hz
    exact ⟨aa :: aas, omap_cons_some _ _ _ _ _ htab h4, omap_cons_some _ _ _ _ _ haa h5⟩

theorem translateCodes_append (tab : List Nat) (r s a b : List Nat) (h : r.length % 3 = 0)
    (ha : translateCodes tab r = some a) (hb : translateCodes tab s = some b) :
    translateCodes tab (r ++ s) = some (a ++ b) := by
  unfold translateCodes at *
  rw [chunks3_append r s h, omap_append, ha, hb]; rfl

/-- the protein of a sequence does not depend on how it is cut into rows at codon borders -/
theorem specTranslate_append (s t : List Nat) (a b : Bytes) (h : s.length % 3 = 0)
    (ha : specTranslate s = some a) (hb : specTranslate t = some b) : specTranslate (s ++ t) = some (a ++ b) := by
  unfold specTranslate at *
  rw [List.map_append, chunks3_append _ _ (by simpa using h), omap_append, ha, hb]; rfl

theorem translateCodes_rows (rows : List Bytes) (h3 : ∀ r ∈ rows, r.length % 3 = 0) (crows : List (List Nat))
    (he : omap (omap encTCAG) rows = some crows) :
    ∃ out, translateCodes stdTable crows.flatten = some out.flatten ∧ omap specTranslate rows = some out := by
  induction rows generalizing crows with
  | nil => cases he; exact ⟨[], rfl, rfl⟩
  | cons r rs ih =>
    obtain ⟨c, cs, hc, hcs, rfl⟩ := omap_cons_eq_some _ _ _ _ he
    obtain ⟨out, h1, h2⟩ := ih (fun x hx => h3 x (by simp [hx])) cs hcs
    obtain ⟨aas, g1, g2⟩ := translateCodes_row r c (h3 r (by simp)) hc
    exact ⟨aas :: out, translateCodes_append _ _ _ _ _ (omap_length _ _ _ hc ▸ h3 r (by simp)) g1 h1,
      omap_cons_some _ _ _ _ _ g2 h2⟩

theorem encode_rows (rows : List Bytes) (he : ∀ r ∈ rows, ∀ b ∈ r, (encTCAG b).isSome) :
    ∃ crows, omap (omap encTCAG) rows = some crows :=
  Option.isSome_iff_exists.mp ((omap_isSome_iff _ rows).mpr fun r hr => (omap_isSome_iff _ r).mpr (he r hr))

/-- clause 5 with the encoder's own notion of an acceptable letter -/
theorem translateRows_encodable (rows : List Bytes) (h3 : ∀ r ∈ rows, r.length % 3 = 0)
    (he : ∀ r ∈ rows, ∀ b ∈ r, (encTCAG b).isSome) :
    ∃ out, translateRows stdTable rows = .ok out ∧ omap specTranslate rows = some out := by
  obtain ⟨crows, hc⟩ := encode_rows rows he
  obtain ⟨out, h1, h2⟩ := translateCodes_rows rows h3 crows hc
  refine ⟨out, ?_, h2⟩
  have hall : rows.all (fun r => r.length % 3 == 0) = true := by simpa using h3
  simp only [translateRows, omap_flatten_some _ _ _ hc, hall, if_true, h1]
  rw [unflatten_flatten_of_lengths _ _ (omap_image _ _ _
    (fun _ _ h => by rw [omap_length _ _ _ h, chunks3_length, List.length_map]) rows out h2)]

theorem encTCAG_isSome_of_upper (b : Nat) (h : toUpper b = 65 ∨ toUpper b = 67 ∨ toUpper b = 71 ∨ toUpper b = 84) :
    (encTCAG b).isSome := by
  rcases h with e | e | e | e <;> simp [encTCAG, e]

/-- C14 clause 5: for sequences over `ACGTacgt` whose lengths are multiples of three, the model of
`translate_dna_to_protein` with the standard table returns the standard amino acid of each codon, row for row -/
theorem translate_std (rows : List Bytes) (h3 : ∀ r ∈ rows, r.length % 3 = 0)
    (hl : ∀ r ∈ rows, ∀ b ∈ r, toUpper b = 65 ∨ toUpper b = 67 ∨ toUpper b = 71 ∨ toUpper b = 84) :
    ∃ out, translateRows stdTable rows = .ok out ∧ omap specTranslate rows = some out :=
  translateRows_encodable rows h3 fun r hr b hb => encTCAG_isSome_of_upper b (hl r hr b hb)

/-- clause 5 for the shipped table -/
theorem translate (rows : List Bytes) (h3 : ∀ r ∈ rows, r.length % 3 = 0)
    (hl : ∀ r ∈ rows, ∀ b ∈ r, toUpper b = 65 ∨ toUpper b = 67 ∨ toUpper b = 71 ∨ toUpper b = 84) :
    ∃ out, translateRows Gen.C14.codon rows = .ok out ∧ omap specTranslate rows = some out := by
  rw [gen_codon_ok]; exact translate_std rows h3 hl

/-! ### translation: completeness -/

theorem encTCAG_flatten_eq_none_iff (rows : List Bytes) :
    omap encTCAG rows.flatten = none ↔ ∃ r ∈ rows, ∃ b ∈ r, encTCAG b = none :=
  omap_eq_none_iff.trans
    ⟨fun ⟨b, hb, hn⟩ => let ⟨r, hr, hbr⟩ := List.mem_flatten.mp hb; ⟨r, hr, b, hbr, hn⟩,
     fun ⟨r, hr, b, hb, hn⟩ => ⟨b, List.mem_flatten.mpr ⟨r, hr, hb⟩, hn⟩⟩

/-- completeness: `EncodingError` iff some letter is not one of `ACGTacgt` -/
theorem translate_encoding_error_iff (tab : List Nat) (rows : List Bytes) :
    translateRows tab rows = .error .encoding ↔ ∃ r ∈ rows, ∃ b ∈ r, encTCAG b = none := by
  rw [← encTCAG_flatten_eq_none_iff, translateRows]
  cases omap encTCAG rows.flatten with
  | none => simp
  | some codes =>
    dsimp only
    by_cases hall : rows.all (fun r => r.length % 3 == 0) = true
    · rw [if_pos hall]; cases translateCodes tab codes <;> simp
    · simp [hall]

/-- completeness: with every letter acceptable, the length assertion fails iff some row is not whole codons -/
theorem translate_assertion_iff (rows : List Bytes) (hl : ∀ r ∈ rows, ∀ b ∈ r, (encTCAG b).isSome) :
    translateRows stdTable rows = .error .assertion ↔ ∃ r ∈ rows, r.length % 3 ≠ 0 := by
  constructor
  · intro h
    apply Classical.byContradiction
    intro hne
    obtain ⟨out, ho, _⟩ := translateRows_encodable rows (fun r hr => Classical.byContradiction fun h3 => hne ⟨r, hr, h3⟩) hl
    cases h.symm.trans ho
  · rintro ⟨r, hr, hne⟩
    obtain ⟨crows, hc⟩ := encode_rows rows hl
    have : rows.all (fun r => r.length % 3 == 0) = false := List.all_eq_false.mpr ⟨r, hr, by simpa using hne⟩
    simp [translateRows, omap_flatten_some _ _ _ hc, this]

/-! ### the generated tables (re-extracted from /repo on every run) -/

theorem gen_tables_ok : Gen.C14.all.all (fun p => tableOK p.2) = true := by
  simp only [tableOK_eq_fast]; decide +kernel

theorem gen_names : Gen.C14.all.map (·.1) = ["ASCII", "ACGT", "ACGTN", "ACTG", "ACTGN"] := by decide +kernel

/-- the decode tables are the documented alphabets -/
theorem gen_dec : Gen.C14.all.map (·.2.dec) =
    [List.range 128, "ACGT".toList.map Char.toNat, "ACGTN".toList.map Char.toNat,
     "ACTG".toList.map Char.toNat, "ACTGN".toList.map Char.toNat] := by decide +kernel

/-- C14 for the shipped tables: every predefined DNA encoding -/
theorem predefined (n : String) (T : Tab) (hT : (n, T) ∈ Gen.C14.all) (rows : List (List Nat)) (texts : List Bytes)
    (hd : omap (decode T) rows = some texts) (hdna : ∀ t ∈ texts, ∀ b ∈ t, isDna b = true) :
    ∃ out, revcompRagged T rows = some out ∧ omap (decode T) out = some (texts.map specRevComp) ∧
      out.map List.length = rows.map List.length ∧ revcompRagged T out = some rows := by
  have h : tableOK T = true := List.all_eq_true.mp gen_tables_ok (n, T) hT
  obtain ⟨out, h1, h2⟩ := revcomp_def T h rows texts hd hdna
  exact ⟨out, h1, h2, revcomp_lengths T rows out h1, revcomp_involutive T h rows texts hd hdna out h1⟩

theorem ascii_ok : tableOK Gen.C14.ASCII = true := List.all_eq_true.mp gen_tables_ok ("ASCII", Gen.C14.ASCII) (.head _)

/-! ### non-vacuity -/
example : tableOK Gen.C14.ASCII = true := ascii_ok
example : decode Gen.C14.ASCII [97, 67, 78] = some [97, 67, 78] ∧ (∀ b ∈ [97, 67, 78], isDna b = true) := by decide
example : revcompRagged Gen.C14.ACGTN [[0, 1, 4], [], [3]] = some [[4, 2, 3], [], [0]] := by decide +kernel
example : strandSpecific Gen.C14.ACGT [[0, 1, 2, 3]] [⟨0, 1, 3, 45⟩, ⟨0, 0, 2, 43⟩] = some [[1, 2], [0, 1]] := by decide +kernel
example : extractStranded Gen.C14.ACGT [[0, 1, 2, 3], [3, 3]] [⟨0, 1, 3, 45⟩, ⟨1, 0, 0, 45⟩, ⟨1, 0, 2, 43⟩] =
    some [[1, 2], [], [3, 3]] := by decide +kernel
example : transcriptSeqs Gen.C14.ACGTN [0, 1, 2, 3, 4, 0, 1] [⟨0, 43, 0, 2⟩, ⟨0, 43, 3, 5⟩, ⟨1, 45, 1, 4⟩] =
    some [[0, 1, 3, 4], [0, 1, 2]] := by decide +kernel
example : whereRows [true, false, true] [[1], [], [2, 3]] [[7], [], [8, 9]] = [[1], [], [2, 3]] := by decide
example : (translateRows stdTable [[65, 84, 71, 116, 97, 97], []]).toOption = some [[77, 42], []] := by
  rw [stdTable_eq]; decide +kernel
example : specTranslate [65, 84, 71, 116, 97, 97] = some [77, 42] :=
  omap_cons_some _ _ _ _ _ (standardCode_codonOfIndex 35 77 rfl)
    (omap_cons_some _ _ _ _ _ (standardCode_codonOfIndex 10 42 rfl) rfl)

/-! ### tables of sequences: a derived table carries ITS OWN sequence column -/

theorem lookup_filter_ne (l : List (String × List Bytes)) (k k' : String) (h : k' ≠ k) :
    (l.filter (fun p => p.1 != k)).lookup k' = l.lookup k' := by
  induction l with
  | nil => rfl
  | cons p ps ih =>
    obtain ⟨a, b⟩ := p
    by_cases ha : a = k
    · simp [ha, List.lookup_cons, ih, beq_eq_false_iff_ne.mpr h]
    · simp [ha, List.lookup_cons, ih]

theorem lookup_map_snd (f : List Bytes → List Bytes) (l : List (String × List Bytes)) (k : String) :
    (l.map (fun p => (p.1, f p.2))).lookup k = (l.lookup k).map f := by
  induction l with
  | nil => rfl
  | cons p ps ih => obtain ⟨a, b⟩ := p; simp only [List.map_cons, List.lookup_cons, ih]; split <;> rfl

theorem replace_eq_ok_iff (t t' : Table) (k : String) (v : List Bytes) :
    t.replace k v = .ok t' ↔
      v.length = t.n ∧ t' = { t with sets := (k, v) :: t.sets.filter (fun p => p.1 != k) } := by
  unfold Table.replace
  by_cases h : v.length = t.n <;> simp [h, eq_comm]

/-- `bnp.replace` raises AssertionError unless the new column has the table's length -/
theorem table_replace_ok_iff (t : Table) (k : String) (v : List Bytes) :
    (∃ t', t.replace k v = .ok t') ↔ v.length = t.n :=
  ⟨fun ⟨_, h⟩ => ((replace_eq_ok_iff _ _ _ _).mp h).1, fun h => ⟨_, (replace_eq_ok_iff _ _ _ _).mpr ⟨h, rfl⟩⟩⟩

/-- a replaced column reads as the NEW value, whatever was replaced before -/
theorem table_get_replace (t t' : Table) (k : String) (v : List Bytes) (h : t.replace k v = .ok t') :
    t'.get k = some v ∧ t'.n = t.n := by
  obtain ⟨_, rfl⟩ := (replace_eq_ok_iff _ _ _ _).mp h
  simp [Table.get]

theorem table_get_replace_ne (t t' : Table) (k k' : String) (v : List Bytes) (h : t.replace k v = .ok t') (hne : k' ≠ k) :
    t'.get k' = t.get k' := by
  obtain ⟨_, rfl⟩ := (replace_eq_ok_iff _ _ _ _).mp h
  simp only [Table.get, List.lookup_cons, beq_eq_false_iff_ne.mpr hne, lookup_filter_ne _ _ _ hne]

/-- `apply_to_npdataclass("sequence")(f)`: `f` of the CURRENT sequence column; all other columns kept -/
theorem applySeq_def (f : List Bytes → Except PErr (List Bytes)) (t t' : Table) (h : t.applySeq f = .ok t') :
    ∃ s r, t.get "sequence" = some s ∧ f s = .ok r ∧ t'.get "sequence" = some r ∧
      ∀ k, k ≠ "sequence" → t'.get k = t.get k := by
  unfold Table.applySeq at h
  cases hs : t.get "sequence" with
  | none => simp [hs] at h
  | some s =>
    cases hr : f s with
    | error e => simp [hs, hr] at h
    | ok r =>
      simp only [hs, hr] at h
      exact ⟨s, r, rfl, hr, (table_get_replace _ _ _ _ h).1, fun k hk => table_get_replace_ne _ _ _ _ _ h hk⟩

/-- two decorated functions in a row: the second sees the FIRST one's output (also on a lazy table whose `sequence` was
already replaced) -/
theorem applySeq_compose (f g : List Bytes → Except PErr (List Bytes)) (t t1 t2 : Table)
    (h1 : t.applySeq f = .ok t1) (h2 : t1.applySeq g = .ok t2) :
    ∃ s r r2, t.get "sequence" = some s ∧ f s = .ok r ∧ g r = .ok r2 ∧ t2.get "sequence" = some r2 ∧
      ∀ k, k ≠ "sequence" → t2.get k = t.get k := by
  obtain ⟨s, r, hs, hr, h1s, h1o⟩ := applySeq_def f t t1 h1
  obtain ⟨s', r2, hs', hr2, h2s, h2o⟩ := applySeq_def g t1 t2 h2
  cases h1s.symm.trans hs'
  exact ⟨s, r, r2, hs, hr, hr2, h2s, fun k hk => (h2o k hk).trans (h1o k hk)⟩

/-- row selection and split-and-concatenate act on a replaced column like on any other -/
theorem mapCols_get (n' : Nat) (f : List Bytes → List Bytes) (t : Table) (k : String) :
    (t.mapCols n' f).get k = (t.get k).map f := by
  simp only [Table.get, Table.mapCols, lookup_map_snd]
  cases t.sets.lookup k <;> rfl

/-! #### pipelines on the ASCII carrier (codes are the text bytes) -/

theorem ascii_dec : Gen.C14.ASCII.dec = List.range 128 := (List.cons.inj gen_dec).1

theorem decode_ascii_rows (s : List Bytes) (h : ∀ r ∈ s, ∀ b ∈ r, isDna b = true) :
    omap (decode Gen.C14.ASCII) s = some s :=
  omap_eq_self _ s fun r hr => omap_eq_self _ r fun b hb => by
    have : b < 128 := (by decide : ∀ x ∈ dnaLetters, x < 128) b (by simpa [isDna] using h r hr b hb)
    rw [ascii_dec]; simp [this]

/-- on the ASCII carrier the codes are the text, so `get_reverse_complement` IS the specification -/
theorem revcomp_ascii (s : List Bytes) (hdna : ∀ r ∈ s, ∀ b ∈ r, isDna b = true) :
    revcompRagged Gen.C14.ASCII s = some (s.map specRevComp) := by
  obtain ⟨out, ho, hod⟩ := revcomp_def _ ascii_ok s s (decode_ascii_rows s hdna) hdna
  rw [ho, decode_rows_inj _ ascii_ok out _ _ hod (decode_ascii_rows _ (rows_specRevComp_dna s hdna))]

/-- the invariant of a pipeline stage: the table has a `name` and a `sequence` column, both of the table's length -/
structure TableWF (t : Table) (nm s : List Bytes) : Prop where
  hs : t.get "sequence" = some s
  hnm : t.get "name" = some nm
  hn : s.length = t.n
  hnn : nm.length = t.n

example : TableWF ⟨1, [("name", [[0]]), ("sequence", [[97, 71]])], []⟩ [[0]] [[97, 71]] := ⟨rfl, rfl, rfl, rfl⟩

/-- the domain of one step: reverse complement wants DNA letters, translation whole codons over ACGTacgt; the table
operations carry their own refusals (`specStepSeq … = none`) -/
def stepOK (s : List Bytes) : PStep → Prop
  | .rc => ∀ r ∈ s, ∀ b ∈ r, isDna b = true
  | .translate => (∀ r ∈ s, r.length % 3 = 0) ∧
      ∀ r ∈ s, ∀ b ∈ r, toUpper b = 65 ∨ toUpper b = 67 ∨ toUpper b = 71 ∨ toUpper b = 84
  | _ => True

theorem replace_wf (t : Table) (nm s v : List Bytes) (wf : TableWF t nm s) (hv : v.length = t.n) :
    ∃ t', t.replace "sequence" v = .ok t' ∧ TableWF t' nm v := by
  obtain ⟨t', ht'⟩ := (table_replace_ok_iff t "sequence" v).mpr hv
  have h1 := table_get_replace _ _ _ _ ht'
  exact ⟨t', ht', h1.1, (table_get_replace_ne _ _ _ "name" _ ht' (by decide)).trans wf.hnm, h1.2 ▸ hv, h1.2 ▸ wf.hnn⟩

theorem applySeq_wf (t : Table) (nm s r : List Bytes) (f : List Bytes → Except PErr (List Bytes)) (wf : TableWF t nm s)
    (hf : f s = .ok r) (hr : r.length = t.n) : ∃ t', t.applySeq f = .ok t' ∧ TableWF t' nm r := by
  obtain ⟨t', ht', wf'⟩ := replace_wf t nm s r wf hr
  exact ⟨t', by simp only [Table.applySeq, wf.hs, hf, ht'], wf'⟩

theorem mapCols_wf (t : Table) (nm s : List Bytes) (n' : Nat) (f : List Bytes → List Bytes) (wf : TableWF t nm s)
    (hs : (f s).length = n') (hnm : (f nm).length = n') : TableWF (t.mapCols n' f) (f nm) (f s) :=
  ⟨by rw [mapCols_get, wf.hs]; rfl, by rw [mapCols_get, wf.hnm]; rfl, hs, hnm⟩

/-- C14 on tables, one step: inside the domain the step answers with what the property says of the CURRENT `sequence`
column, the names selected or unchanged -/
theorem pipeStep_spec (t : Table) (nm s s' : List Bytes) (st : PStep) (wf : TableWF t nm s) (hok : stepOK s st)
    (hspec : specStepSeq s st = some s') :
    ∃ t', pipeStep Gen.C14.ASCII Gen.C14.codon t st = .ok t' ∧ TableWF t' (specStepNames nm st) s' := by
  cases st with
  | rc =>
    cases hspec
    exact applySeq_wf t nm s _ _ wf (by simp only [revcomp_ascii s hok]) (by rw [List.length_map, wf.hn])
  | translate =>
    obtain ⟨out, h1, h2⟩ := translate s hok.1 hok.2
    cases hspec.symm.trans h2
    exact applySeq_wf t nm s _ _ wf (by simp only [h1]) (by rw [omap_length _ _ _ h2, wf.hn])
  | replace r =>
    obtain ⟨hl, h⟩ := Option.ite_none_right_eq_some.mp hspec
    cases h
    exact replace_wf t nm s _ wf (hl.trans wf.hn)
  | same =>
    cases hspec
    exact applySeq_wf t nm s s .ok wf rfl wf.hn
  | idx p =>
    obtain ⟨hp, h⟩ := Option.ite_none_right_eq_some.mp hspec
    cases h
    exact ⟨_, if_pos (wf.hn ▸ hp), mapCols_wf t nm s _ _ wf (List.length_map _) (List.length_map _)⟩
  | concat k =>
    cases hspec
    have h : TableWF _ (nm.take k ++ nm.drop k) (s.take k ++ s.drop k) :=
      mapCols_wf t nm s t.n (fun v => v.take k ++ v.drop k) wf (by simp [wf.hn]) (by simp [wf.hnn])
    rw [List.take_append_drop, List.take_append_drop] at h
    exact ⟨_, rfl, h⟩

/-- the code refuses (AssertionError for a column of another length, IndexError for a row index outside the table)
exactly where the spec has no answer -/
theorem pipeStep_refuses (T : Tab) (tab : List Nat) (t : Table) (nm s : List Bytes) (wf : TableWF t nm s) :
    (∀ r, specStepSeq s (.replace r) = none → pipeStep T tab t (.replace r) = .error .assertion) ∧
    (∀ p, specStepSeq s (.idx p) = none → pipeStep T tab t (.idx p) = .error .index) := by
  constructor
  · intro r h
    by_cases hl : r.length = s.length
    · cases (if_pos hl).symm.trans h
    · exact if_neg (wf.hn ▸ hl)
  · intro p h
    by_cases hp : (p.all fun i => decide (i < s.length)) = true
    · cases (if_pos hp).symm.trans h
    · exact if_neg (wf.hn ▸ hp)

/-- the domain of a pipeline: every step is in the domain of its function on the column the spec gives it -/
def PipeOK : List Bytes → List PStep → Prop
  | _, [] => True
  | s, st :: ss => stepOK s st ∧ ∀ s', specStepSeq s st = some s' → PipeOK s' ss

example : PipeOK [[97, 84, 71]] [.rc, .replace [[67, 65, 84]], .translate] :=
  ⟨(by decide : ∀ r ∈ [[97, 84, 71]], ∀ b ∈ r, isDna b = true), fun _ h => by
    cases h
    refine ⟨trivial, fun _ h => ?_⟩
    cases h
    exact ⟨(by decide : (∀ r ∈ [[67, 65, 84]], r.length % 3 = 0) ∧
      ∀ r ∈ [[67, 65, 84]], ∀ b ∈ r, toUpper b = 65 ∨ toUpper b = 67 ∨ toUpper b = 71 ∨ toUpper b = 84), fun _ _ => trivial⟩⟩

/-- C14 on tables, whole pipelines: in the domain the model answers, and every stage holds the `name` and `sequence`
columns that `specStages` gives -/
theorem runPipe_spec (steps : List PStep) : ∀ (t : Table) (nm s : List Bytes) (stages : List (List Bytes × List Bytes)),
    TableWF t nm s → PipeOK s steps → specStages nm s steps = some stages →
    ∃ ts, runPipe Gen.C14.ASCII Gen.C14.codon t steps = .ok ts ∧
      ts.map (fun t => (t.get "name", t.get "sequence")) = stages.map (fun p => (some p.1, some p.2)) := by
  induction steps with
  | nil =>
    intro t nm s stages wf _ h
    cases h
    exact ⟨[t], rfl, by simp [wf.hs, wf.hnm]⟩
  | cons st ss ih =>
    intro t nm s stages wf hok h
    simp only [specStages] at h
    cases hsp : specStepSeq s st with
    | none => simp [hsp] at h
    | some s' =>
      simp only [hsp, Option.map_eq_some_iff] at h
      obtain ⟨rest, hrest, rfl⟩ := h
      obtain ⟨t', ht', wf'⟩ := pipeStep_spec t nm s s' st wf hok.1 hsp
      obtain ⟨ts, hts, hmap⟩ := ih t' _ s' rest wf' (hok.2 s' hsp) hrest
      exact ⟨t :: ts, by simp [runPipe, ht', hts], by simp [wf.hs, wf.hnm, hmap]⟩

/-- C14 clause 3 on a TABLE: reverse complement twice gives back the sequence column, names unchanged -/
theorem table_rc_twice (t : Table) (nm s : List Bytes) (wf : TableWF t nm s) (hdna : ∀ r ∈ s, ∀ b ∈ r, isDna b = true) :
    ∃ t1 t2, runPipe Gen.C14.ASCII Gen.C14.codon t [.rc, .rc] = .ok [t, t1, t2] ∧
      t1.get "sequence" = some (s.map specRevComp) ∧ t2.get "sequence" = some s ∧ t2.get "name" = some nm := by
  obtain ⟨t1, h1, wf1⟩ := pipeStep_spec t nm s _ .rc wf hdna rfl
  obtain ⟨t2, h2, wf2⟩ := pipeStep_spec t1 nm _ _ .rc wf1 (rows_specRevComp_dna s hdna) rfl
  exact ⟨t1, t2, by simp [runPipe, h1, h2], wf1.hs, by rw [wf2.hs, map_specRevComp_twice], wf2.hnm⟩

/-! ### derived interval objects: the kind flag -/

/-- the running code hands `is_stranded` on in all five derivations (re-tabulated every run: a method that drops the flag
changes `Gen.C14.giFlags` and this stops compiling) -/
theorem gen_flags_keep : Gen.C14.giFlags = GFlags.keep := by decide

theorem Flag.keep_apply (b : Bool) : Flag.keep.apply b = b := by cases b <;> rfl

theorem gi_step_kind (g g' : GI) (s : GStep) (h : GI.step GFlags.keep g s = some g') : g'.stranded = g.stranded := by
  cases s with
  | idx p =>
    obtain ⟨_, h⟩ := Option.ite_none_right_eq_some.mp h
    cases h; exact Flag.keep_apply _
  | _ => cases h; exact Flag.keep_apply _

/-- with flag-keeping constructor calls, a derived object has the original's kind -/
theorem derived_keeps_kind (steps : List GStep) : ∀ (g g' : GI), runG GFlags.keep g steps = some g' →
    g'.stranded = g.stranded := by
  induction steps with
  | nil => intro g g' h; cases h; rfl
  | cons s ss ih =>
    intro g g' h
    simp only [runG] at h
    cases hs : GI.step GFlags.keep g s with
    | none => simp [hs] at h
    | some g1 =>
      simp only [hs] at h
      rw [ih g1 g' h, gi_step_kind g g1 s hs]

/-- a model in which ONE derivation (`clip`) drops the flag violates clause 4: the `-` interval comes back forward -/
theorem flag_dropped_unsound :
    let F : GFlags := { GFlags.keep with clip := ⟨false, false⟩ }
    (runG F ⟨[⟨0, 1, 9, 45⟩], true⟩ [.clip [3]]).bind (getitem Gen.C14.ACGT [[0, 1, 1]]) = some [[1, 1]] ∧
    (runG GFlags.keep ⟨[⟨0, 1, 9, 45⟩], true⟩ [.clip [3]]).bind (getitem Gen.C14.ACGT [[0, 1, 1]]) = some [[2, 2]] := by
  decide +kernel

theorem clip_in_bounds (F : GFlags) (g g' : GI) (sizes : List Nat) (h : GI.step F g (.clip sizes) = some g') :
    ∀ iv ∈ g'.ivs, iv.stop ≤ sizes.getD iv.chrom 0 := by
  cases h
  intro iv hiv
  obtain ⟨iv0, _, rfl⟩ := List.mem_map.mp hiv
  exact Nat.min_le_left _ _

theorem windows_ivs (F : GFlags) (sizes : List Nat) (flank : Nat) (locs : List (Nat × Nat × Nat)) (st : Bool) :
    (windows F sizes flank locs st).ivs =
      locs.map (fun l => ⟨l.1, l.2.1 - flank, min (sizes.getD l.1 0) (l.2.1 + flank + 1), l.2.2⟩) :=
  List.map_map

example : ((windows GFlags.keep [4] 2 [(0, 2, 45), (0, 0, 45)] true).ivs.map (fun iv => (iv.start, iv.stop))) = [(0, 4), (0, 3)] := by decide

/-- C14 clause 4 through the Genome API: with the flags of the running code, `genomic_sequence[intervals]` of any
derivation of a stranded interval object is the forward slice for `+` and its reverse complement otherwise -/
theorem getitem_derived (T : Tab) (h : tableOK T = true) (seqs : List (List Nat)) (texts : List Bytes)
    (hd : omap (decode T) seqs = some texts) (hdna : ∀ t ∈ texts, ∀ b ∈ t, isDna b = true)
    (g g' : GI) (hs : g.stranded = true) (steps : List GStep) (hg : runG Gen.C14.giFlags g steps = some g') :
    ∃ out, getitem T seqs g' = some out ∧ omap (decode T) out = some (specStrand texts g'.ivs) := by
  rw [gen_flags_keep] at hg
  rw [getitem, derived_keeps_kind steps g g' hg, hs, if_pos rfl]
  exact extract_stranded_def T h seqs texts hd hdna g'.ivs

/-- `genomic_sequence[intervals]` of an unstranded interval object: the forward slices, whatever the strand column says -/
theorem getitem_unstranded (T : Tab) (seqs : List (List Nat)) (g g' : GI) (hs : g.stranded = false) (steps : List GStep)
    (hg : runG Gen.C14.giFlags g steps = some g') : getitem T seqs g' = some (relevant seqs g'.ivs) := by
  rw [gen_flags_keep] at hg
  rw [getitem, derived_keeps_kind steps g g' hg, hs, extract_unstranded_def]
  rfl

end C14
