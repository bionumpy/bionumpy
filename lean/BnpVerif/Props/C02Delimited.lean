import BnpVerif.Gen.C02
import BnpVerif.Props.C02Columns
import BnpVerif.Props.C02Table
import BnpVerif.Base.PyLaws
/-! C02 — the delimited parser is the reference parser: offset table, then the CR rule (decided by the first line; every
row's last field loses one trailing CR), then row selection, then typed extraction give `parse_delimited`: the lines,
CR stripped, split at the delimiter and read column by column, with the same rows selected. VCF adds the shift of one
column by the constant measured on the package. -/
namespace C02
open Base

/-! ## carriage returns -/

/-- one row under the CR rule: the function `crAdjustRows` maps over the rows, under a name (`crAdjust_spec` spells it out
as the model does) -/
def adjRow (data : Bytes) (r : List (Nat × Nat)) : List (Nat × Nat) :=
  match r.getLast? with
  | none => r
  | some (s, e) => r.dropLast ++ [(s, if data.getD (e - 1) 0 = 13 then e - 1 else e)]

/-- `crAdjustRows` with its guards resolved: when the first line ends in CR every row is mapped by the model's per-row
function (its last field loses one trailing CR, if it has one); otherwise nothing changes. -/
theorem crAdjust_spec (data : Bytes) (rows : List (List (Nat × Nat))) (r0 : List (Nat × Nat)) (rest : List (List (Nat × Nat)))
    (s0 e0 : Nat) (hrows : rows = r0 :: rest) (hlast : r0.getLast? = some (s0, e0)) (he0 : e0 ≠ 0) :
    crAdjustRows data rows =
      if data.getD (e0 - 1) 0 = 13 then
        rows.map (fun r => match r.getLast? with
          | none => r
          | some (s, e) => r.dropLast ++ [(s, if data.getD (e - 1) 0 = 13 then e - 1 else e)])
      else rows := by
  subst hrows
  unfold crAdjustRows
  simp only [hlast]
  rw [if_neg he0]
  split <;> rfl

theorem slice_stripCR (data : Bytes) (s e : Nat) (he : e ≤ data.length) :
    slice data s (if data.getD (e - 1) 0 = 13 then e - 1 else e) = stripCR (slice data s e) := by
  rcases Nat.lt_or_ge s e with hse | hse
  · rw [stripCR, slice_getLast data s e hse he]
    by_cases h : data.getD (e - 1) 0 = 13
    · rw [if_pos h, if_pos (congrArg some h), slice_dropLast data s e hse he]
    · rw [if_neg h, if_neg (fun h' => h (Option.some.inj h'))]
  · rw [slice_of_le data hse, slice_of_le data (Nat.le_trans (by split; exact Nat.sub_le _ _; exact Nat.le_refl _) hse)]; rfl

/-- the adjusted (start, end) pair of a field denotes the field text without its trailing CR -/
theorem crField_spec (data : Bytes) (s e : Nat) (hse : s < e) (he : e ≤ data.length) :
    slice data s (if data.getD (e - 1) 0 = 13 then e - 1 else e) = stripCR (slice data s e) :=
  slice_stripCR data s e he

theorem adjRow_texts (data : Bytes) (d : Nat) (hd13 : d ≠ 13) (r : List (Nat × Nat)) (l : Bytes)
    (htext : r.map (fun p => slice data p.1 p.2) = splitOn d l) (hlen : ∀ p ∈ r, p.2 ≤ data.length) :
    (adjRow data r).map (fun p => slice data p.1 p.2) = splitOn d (stripCR l) := by
  obtain ⟨init, f, h1, h2⟩ := splitOn_stripCR d hd13 l
  rw [h1] at htext
  obtain ⟨r', ⟨s, e⟩, rfl⟩ : ∃ r' p, r = r' ++ [p] := by
    rcases List.eq_nil_or_concat r with rfl | ⟨r', p, rfl⟩
    · simp at htext
    · exact ⟨r', p, List.concat_eq_append⟩
  rw [List.map_append, List.map_singleton] at htext
  obtain ⟨hinit, hf⟩ := List.append_inj' htext rfl
  have hf : slice data s e = f := List.singleton_inj.mp hf
  simp only [adjRow, List.getLast?_concat, List.dropLast_concat, List.map_append, List.map_singleton, hinit, h2]
  rw [slice_stripCR data s e (hlen (s, e) (by simp)), hf]

theorem adjRow_wf (data : Bytes) (r : List (Nat × Nat)) (hwf : ∀ p ∈ r, p.1 ≤ p.2 ∧ p.2 ≤ data.length)
    (hcr : ∀ s e, r.getLast? = some (s, e) → data.getD (e - 1) 0 = 13 → s < e) :
    ∀ p ∈ adjRow data r, p.1 ≤ p.2 ∧ p.2 ≤ data.length := by
  unfold adjRow
  cases hl : r.getLast? with
  | none => exact hwf
  | some q =>
    obtain ⟨s, e⟩ := q
    intro p hp
    rcases List.mem_append.mp hp with hp | hp
    · exact hwf p (List.dropLast_subset r hp)
    · obtain rfl := List.mem_singleton.mp hp
      have hse := hwf (s, e) (List.mem_of_getLast? hl)
      by_cases h13 : data.getD (e - 1) 0 = 13
      · rw [if_pos h13]; exact ⟨Nat.le_sub_one_of_lt (hcr s e hl h13), Nat.le_trans (Nat.sub_le _ _) hse.2⟩
      · rw [if_neg h13]; exact hse

/-- an empty field that follows a delimiter does not have a CR in front of it -/
theorem wfPair_cr {d : Nat} (hd13 : d ≠ 13) {data : Bytes} {p : Nat × Nat} (hp : wfPair (isDelim d) data 0 p)
    (h13 : data.getD (p.2 - 1) 0 = 13) : p.1 < p.2 := by
  obtain ⟨h1, _, h3, h4⟩ := hp
  have hD : ∀ i, isDelim d (data.getD i 0) = true → data.getD i 0 ≠ 13 := fun i hi h => by
    rw [h] at hi; simp [isDelim, Ne.symm hd13] at hi
  refine Nat.lt_of_not_le fun hle => ?_
  have heq : p.1 = p.2 := Nat.le_antisymm h1 hle
  rcases h4 with h4 | ⟨_, h4⟩
  · -- `p = (0, 0)`: the position "before" the end is `0 - 1 = 0` itself, which holds a delimiter
    rw [← heq, h4] at h13 h3; exact hD 0 h3 h13
  · rw [heq] at h4; exact hD _ h4 h13

theorem last_pair_cr (data : Bytes) (d : Nat) (hd13 : d ≠ 13) (r : List (Nat × Nat)) (l : Bytes)
    (htext : r.map (fun p => slice data p.1 p.2) = splitOn d l) (hlen : ∀ p ∈ r, p.2 ≤ data.length)
    (hcr : l.getLast? = some 13) (s e : Nat) (hlast : r.getLast? = some (s, e)) :
    s < e ∧ data.getD (e - 1) 0 = 13 := by
  obtain ⟨l', rfl⟩ := List.getLast?_eq_some_iff.mp hcr
  obtain ⟨init, f, _, h2⟩ := splitOn_snoc d 13 (Ne.symm hd13) l'
  have hf : slice data s e = f ++ [13] := by
    have := congrArg List.getLast? htext
    rwa [List.getLast?_map, hlast, h2, List.getLast?_concat, Option.map_some, Option.some.injEq] at this
  have hlt : s < e := Nat.lt_of_not_le fun hle => by simp [slice_of_le data hle] at hf
  have := slice_getLast data s e hlt (hlen _ (List.mem_of_getLast? hlast))
  rw [hf, List.getLast?_concat] at this
  exact ⟨hlt, (Option.some.inj this).symm⟩

/-- when the first line ends in CR every row denotes its line without a trailing CR (`hcr`: an empty last field has
no CR in front of it) -/
theorem crAdjust_cr (data : Bytes) (d : Nat) (hd13 : d ≠ 13) (rows : List (List (Nat × Nat))) (lines : List Bytes)
    (htexts : rows.map (fun r => r.map (fun p => slice data p.1 p.2)) = lines.map (splitOn d))
    (hwf : ∀ r ∈ rows, ∀ p ∈ r, p.1 ≤ p.2 ∧ p.2 ≤ data.length)
    (hcr : ∀ r ∈ rows, ∀ s e, r.getLast? = some (s, e) → data.getD (e - 1) 0 = 13 → s < e)
    (hfirst : lines.head?.bind List.getLast? = some 13) :
    (crAdjustRows data rows).map (fun r => r.map (fun p => slice data p.1 p.2)) = lines.map (fun l => splitOn d (stripCR l)) ∧
    (∀ r ∈ crAdjustRows data rows, ∀ p ∈ r, p.1 ≤ p.2 ∧ p.2 ≤ data.length) := by
  have hadj : crAdjustRows data rows = rows.map (adjRow data) := by
    obtain ⟨l0, lrest, rfl⟩ := List.ne_nil_iff_exists_cons.mp (show lines ≠ [] by rintro rfl; cases hfirst)
    obtain ⟨r0, rest, rfl⟩ := List.ne_nil_iff_exists_cons.mp (show rows ≠ [] by rintro rfl; cases htexts)
    have h0 : r0.map (fun p => slice data p.1 p.2) = splitOn d l0 := (List.cons.inj htexts).1
    obtain ⟨⟨s0, e0⟩, hlast⟩ : ∃ q, r0.getLast? = some q := by
      cases hl : r0.getLast? with
      | none => rw [List.getLast?_eq_none_iff.mp hl] at h0; exact absurd h0.symm (splitOn_ne_nil d l0)
      | some q => exact ⟨q, rfl⟩
    obtain ⟨hlt, h13⟩ := last_pair_cr data d hd13 r0 l0 h0 (fun p hp => (hwf r0 List.mem_cons_self p hp).2)
      hfirst s0 e0 hlast
    rw [crAdjust_spec data _ r0 rest s0 e0 rfl hlast (Nat.ne_of_gt (Nat.zero_lt_of_lt hlt)), if_pos h13]
    rfl
  rw [hadj]
  constructor
  · rw [List.map_map]
    exact map_eq_map_of_pairwise _ _ _ _ rows lines htexts fun r hr l _ h =>
      adjRow_texts data d hd13 r l h (fun p hp => (hwf r hr p hp).2)
  · intro r hr
    obtain ⟨r', hr', rfl⟩ := List.mem_map.mp hr
    exact adjRow_wf data r' (hwf r' hr') (hcr r' hr')

/-- `crAdjust_cr` for the pairs of an offset table: by `wfPair` an empty last field has a delimiter in front of it -/
theorem crAdjust_crmode (data : Bytes) (d : Nat) (hd13 : d ≠ 13) (rows : List (List (Nat × Nat))) (lines : List Bytes)
    (htexts : rows.map (fun r => r.map (fun p => slice data p.1 p.2)) = lines.map (splitOn d))
    (hwfp : ∀ r ∈ rows, ∀ p ∈ r, wfPair (isDelim d) data 0 p)
    (hfirst : (lines.head?.bind List.getLast?) = some 13) :
    (crAdjustRows data rows).map (fun r => r.map (fun p => slice data p.1 p.2)) = lines.map (fun l => splitOn d (stripCR l)) ∧
    (∀ r ∈ crAdjustRows data rows, ∀ p ∈ r, p.1 ≤ p.2 ∧ p.2 ≤ data.length) :=
  crAdjust_cr data d hd13 rows lines htexts
    (fun r hr p hp => ⟨(hwfp r hr p hp).1, Nat.le_of_lt (hwfp r hr p hp).2.1⟩)
    (fun r hr s e hl => wfPair_cr hd13 (hwfp r hr (s, e) (List.mem_of_getLast? hl))) hfirst

theorem exists_of_map_eq_map {α β γ} {f : α → γ} {g : β → γ} {xs : List α} {ys : List β}
    (h : xs.map f = ys.map g) {x : α} (hx : x ∈ xs) : ∃ y ∈ ys, f x = g y := by
  obtain ⟨y, hy, hxy⟩ := List.mem_map.mp (h ▸ List.mem_map_of_mem hx : f x ∈ ys.map g)
  exact ⟨y, hy, hxy.symm⟩

/-- `crAdjust_cr` when every line ends in CR: the last field of every row holds that CR -/
theorem crAdjust_crlf (data : Bytes) (d : Nat) (hd13 : d ≠ 13) (rows : List (List (Nat × Nat))) (lines : List Bytes)
    (hne : lines ≠ [])
    (htexts : rows.map (fun r => r.map (fun p => slice data p.1 p.2)) = lines.map (splitOn d))
    (hwf : ∀ r ∈ rows, ∀ p ∈ r, p.1 ≤ p.2 ∧ p.2 ≤ data.length)
    (hcr : ∀ l ∈ lines, l.getLast? = some 13) :
    (crAdjustRows data rows).map (fun r => r.map (fun p => slice data p.1 p.2)) = lines.map (fun l => splitOn d l.dropLast) ∧
    (∀ r ∈ crAdjustRows data rows, ∀ p ∈ r, p.1 ≤ p.2 ∧ p.2 ≤ data.length) := by
  have hdrop : lines.map (fun l => splitOn d (stripCR l)) = lines.map (fun l => splitOn d l.dropLast) :=
    List.map_congr_left fun l hl => by rw [stripCR, if_pos (hcr l hl)]
  rw [← hdrop]
  refine crAdjust_cr data d hd13 rows lines htexts hwf (fun r hr s e hl _ => ?_) ?_
  · obtain ⟨l, hl', hrl⟩ := exists_of_map_eq_map htexts hr
    exact (last_pair_cr data d hd13 r l hrl (fun p hp => (hwf r hr p hp).2) (hcr l hl') s e hl).1
  · obtain ⟨l0, lrest, rfl⟩ := List.ne_nil_iff_exists_cons.mp hne
    exact hcr l0 List.mem_cons_self

theorem crAdjust_lf (data : Bytes) (d : Nat) (hd13 : d ≠ 13) (rows : List (List (Nat × Nat))) (lines : List Bytes)
    (htexts : rows.map (fun r => r.map (fun p => slice data p.1 p.2)) = lines.map (splitOn d))
    (hwfp : ∀ r ∈ rows, ∀ p ∈ r, wfPair (isDelim d) data 0 p)
    (hfirst : lines.head?.bind List.getLast? ≠ some 13) :
    crAdjustRows data rows = rows := by
  cases rows with
  | nil => rfl
  | cons r0 rest =>
    cases hlast : r0.getLast? with
    | none => simp only [crAdjustRows, hlast]
    | some pe =>
      obtain ⟨s0, e0⟩ := pe
      obtain ⟨l0, lrest, rfl⟩ := List.ne_nil_iff_exists_cons.mp (show lines ≠ [] by rintro rfl; cases htexts)
      have hp0 := hwfp r0 List.mem_cons_self (s0, e0) (List.mem_of_getLast? hlast)
      -- a CR before the end of the last field would be the last byte of that field, hence of the line
      have hne13 : data.getD (e0 - 1) 0 ≠ 13 := fun h13 => by
        have hlt : s0 < e0 := wfPair_cr hd13 hp0 h13
        have hf : (splitOn d l0).getLast? = some (slice data s0 e0) := by
          rw [← (List.cons.inj htexts).1, List.getLast?_map, hlast]; rfl
        have hfne : slice data s0 e0 ≠ [] := fun h0 => by
          rw [slice_pred data hlt (Nat.le_of_lt hp0.2.1)] at h0; simp at h0
        have := lastField_getLast d l0 _ hf hfne
        rw [slice_getLast data s0 e0 hlt (Nat.le_of_lt hp0.2.1), h13] at this
        exact hfirst this
      simp only [crAdjustRows, hlast, if_neg hne13, ite_self]

/-! ## row selection on the buffer commutes with parsing -/

/-- `pickIdx idx l` is `PyIdx.gather l idx`, the arguments the other way round -/
theorem pickIdx_map {α β : Type} (f : α → β) (idx : List Nat) (l : List α) :
    pickIdx idx (l.map f) = (pickIdx idx l).map f :=
  PyIdx.gather_map f l idx

theorem mem_pickIdx {α : Type} (idx : List Nat) (l : List α) (x : α) (h : x ∈ pickIdx idx l) : x ∈ l :=
  PyIdx.mem_gather l idx x h

theorem pickIdx_length {α : Type} (idx : List Nat) (l : List α) :
    (pickIdx idx l).length = (idx.filter (· < l.length)).length := by
  induction idx with
  | nil => rfl
  | cons i rest ih =>
    rw [pickIdx, List.filterMap_cons, List.filter_cons]
    rcases Nat.lt_or_ge i l.length with h | h
    · rw [List.getElem?_eq_getElem h, if_pos (by simpa using h), List.length_cons, List.length_cons, ← ih]; rfl
    · rw [List.getElem?_eq_none h, if_neg (by simpa using h), ← ih]; rfl

theorem omap_pickIdx {α β : Type} (f : α → Option β) (l : List α) (v : List β) (idx : List Nat)
    (h : omap f l = some v) : omap f (pickIdx idx l) = some (pickIdx idx v) := by
  induction idx with
  | nil => rfl
  | cons i rest ih =>
    have hi := omap_getElem? f l v h i
    rw [pickIdx, pickIdx, List.filterMap_cons, List.filterMap_cons, hi]
    cases hx : l[i]? with
    | none => exact ih
    | some x =>
      obtain ⟨y, hy⟩ := omap_mem_some h (List.mem_of_getElem? hx)
      rw [Option.bind_some, hy]
      exact omap_cons_some f x _ y _ hy ih

theorem getElem?_filterMap_of_some {α β : Type} (f : α → Option β) (l : List α) (h : ∀ a ∈ l, (f a).isSome) (i : Nat) :
    (l.filterMap f)[i]? = (l[i]?).bind f := by
  induction l generalizing i with
  | nil => rfl
  | cons a as ih =>
    obtain ⟨b, hb⟩ := Option.isSome_iff_exists.mp (h a List.mem_cons_self)
    rw [List.filterMap_cons_some hb]
    cases i with
    | zero => simp [hb]
    | succ j => simpa using ih (fun a' ha' => h a' (List.mem_cons_of_mem _ ha')) j

theorem columnOf_pickIdx {α : Type} (idx : List Nat) (recs : List (List α)) (j : Nat) (h : ∀ r ∈ recs, j < r.length) :
    columnOf (pickIdx idx recs) j = pickIdx idx (columnOf recs j) := by
  have hs : ∀ r ∈ recs, (r[j]?).isSome := fun r hr => by rw [List.getElem?_eq_getElem (h r hr)]; rfl
  simp only [columnOf, pickIdx, List.filterMap_filterMap, getElem?_filterMap_of_some _ recs hs]

/-- the two shapes a documented column reading takes (`pick_omap`, `pick_all`), each stable under row selection -/
theorem pick_omap {β : Type} (f : Bytes → Option β) (mk : List β → Col) (idx : List Nat)
    (hmk : ∀ v, colPick idx (mk v) = mk (pickIdx idx v)) {texts : List Bytes} {c : Col}
    (h : (omap f texts).map mk = some c) : (omap f (pickIdx idx texts)).map mk = some (colPick idx c) := by
  obtain ⟨v, hv, rfl⟩ := Option.map_eq_some_iff.mp h
  rw [omap_pickIdx f texts v idx hv, hmk]; rfl

theorem pick_all (q : Bytes → Bool) (idx : List Nat) {texts : List Bytes} {c : Col}
    (h : (if texts.all q then some (Col.strs texts) else none) = some c) :
    (if (pickIdx idx texts).all q then some (Col.strs (pickIdx idx texts)) else none) = some (colPick idx c) := by
  split at h
  · next hall =>
    cases h
    rw [if_pos (List.all_eq_true.mpr fun x hx => List.all_eq_true.mp hall x (mem_pickIdx idx texts x hx))]; rfl
  · cases h

theorem specColumn_pick (k : String) (texts : List Bytes) (c : Col) (idx : List Nat)
    (h : specColumn k texts = some c) : specColumn k (pickIdx idx texts) = some (colPick idx c) := by
  rcases specColumn_some_modelled h with rfl | rfl | rfl | rfl | rfl | rfl | rfl | rfl
  · rw [specColumn_int] at h ⊢; exact pick_omap _ _ idx (fun _ => rfl) h
  · rw [specColumn_sint] at h ⊢; exact pick_omap _ _ idx (fun _ => rfl) h
  · rw [specColumn_oint] at h ⊢; exact pick_omap _ _ idx (fun _ => rfl) h
  · rw [specColumn_id] at h ⊢; exact pick_all _ idx h
  · rw [specColumn_str] at h ⊢; cases h; rfl
  · rw [specColumn_float] at h ⊢; cases h; rfl
  · rw [specColumn_ilist] at h ⊢; exact pick_omap _ _ idx (fun _ => rfl) h
  · rw [specColumn_strand] at h ⊢; exact pick_all _ idx h

theorem specColumnsFrom_pick (recs : List (List Bytes)) (idx : List Nat) (j : Nat) (sks : List String) (cs : List Col)
    (n : Nat) (hrect : ∀ r ∈ recs, r.length = n) (hj : j + sks.length ≤ n)
    (h : specColumnsFrom recs j sks = some cs) :
    specColumnsFrom (pickIdx idx recs) j sks = some (cs.map (colPick idx)) := by
  induction sks generalizing j cs with
  | nil => cases h; rfl
  | cons k ks ih =>
    simp only [specColumnsFrom] at h ⊢
    split at h
    · next c cs' hc hcs =>
      cases h
      rw [List.length_cons] at hj
      rw [columnOf_pickIdx idx recs j (fun r hr => hrect r hr ▸ Nat.lt_of_lt_of_le (Nat.lt_add_of_pos_right (Nat.succ_pos _)) hj),
        specColumn_pick k _ c idx hc, ih (j + 1) cs' (by rwa [Nat.add_assoc, Nat.add_comm 1]) hcs]
      rfl
    · cases h

theorem mem_pickRows {α : Type} {sel : Option (List Nat)} {l : List α} {x : α} (h : x ∈ pickRows sel l) : x ∈ l := by
  cases sel with
  | none => exact h
  | some idx => exact mem_pickIdx idx l x h

theorem pickRows_map {α β : Type} (f : α → β) (sel : Option (List Nat)) (l : List α) :
    (pickRows sel l).map f = pickRows sel (l.map f) := by
  cases sel with
  | none => rfl
  | some idx => exact (pickIdx_map f idx l).symm

/-- A row index outside the table is an error (IndexError), never a row left out. -/
theorem parseDelimited_sel_out_of_range (S : Schema) (bs : Bytes) (t : Table) (idx : List Nat)
    (ht : fieldTable S.delim bs = .ok t) (h : ∃ i ∈ idx, (crAdjustRows (complete bs) t.rows).length ≤ i) :
    parseDelimited S bs (some idx) = .error .shape := by
  have hsel : selOK (some idx) (crAdjustRows (complete bs) t.rows).length = false := by
    obtain ⟨i, hi, hle⟩ := h
    exact Bool.eq_false_iff.mpr fun hall => Nat.not_lt.mpr hle (by simpa using List.all_eq_true.mp hall i hi)
  simp only [parseDelimited, ht, hsel]
  rfl

/-! ## the delimited parse of a whole buffer -/

theorem crlfText_first (ls : List Bytes) (h : crlfText ls = true) : (ls.head?.bind List.getLast?) = some 13 := by
  simp only [crlfText, Bool.and_eq_true, List.all_eq_true, List.any_eq_true, decide_eq_true_eq] at h
  obtain ⟨hall, l, hl, h13⟩ := h
  match ls, hall, hl with
  | [a], _, hl => rw [List.mem_singleton.mp hl] at h13; exact h13
  | a :: b :: rest, hall, _ => exact hall a List.mem_cons_self

/-- the lines as the format reads them: in a CRLF file the CR is not part of the line -/
def specLines (bs : Bytes) : List Bytes :=
  let ls := linesOf bs
  if crlfText ls then ls.map stripCR else ls

theorem specLines_eq_map_stripCR (bs : Bytes)
    (h : (∀ l ∈ linesOf bs, l.getLast? ≠ some 13) ∨ crlfText (linesOf bs) = true) :
    specLines bs = (linesOf bs).map stripCR := by
  simp only [specLines]
  split
  · rfl
  · next hcr => exact (map_stripCR_id (h.resolve_right hcr)).symm

theorem specLines_of_nocr (bs : Bytes) (h : ∀ l ∈ linesOf bs, l.getLast? ≠ some 13) : specLines bs = linesOf bs :=
  (specLines_eq_map_stripCR bs (Or.inl h)).trans (map_stripCR_id h)

/-- For every schema of modelled column kinds, every delimiter other than LF/CR, every LF or CRLF file (the last
line may lack its CR) with at least one record and one field per column on every line, and every row selection
inside the table: the code's parse (offset table → CR rule → row selection → typed extraction) is the reference
parse — the lines, CR stripped, split at the delimiter and read column by column — with the same rows selected
(`sel` defaults to `none`, the whole table). -/
theorem parse_delimited (S : Schema) (sks : List String) (bs : Bytes)
    (hk : S.cols.map (·.2) = sks.map normKind) (hd : S.delim ≠ 10) (hd13 : S.delim ≠ 13)
    (hne : linesOf bs ≠ [])
    (huni : (∀ l ∈ linesOf bs, l.getLast? ≠ some 13) ∨ crlfText (linesOf bs) = true)
    (hlen : ∀ l ∈ specLines bs, (splitOn S.delim l).length = sks.length)
    (cs : List Col)
    (hspec : specColumnsFrom ((specLines bs).map (splitOn S.delim)) 0 sks = some cs)
    (sel : Option (List Nat) := none) (hsel : selOK sel (linesOf bs).length = true := by rfl) :
    parseDelimited S bs sel = .ok (resPick sel ((linesOf bs).length, cs)) := by
  rw [specLines_eq_map_stripCR bs huni] at hlen hspec
  have hlen' : ∀ l ∈ linesOf bs, (splitOn S.delim l).length = sks.length := fun l hl => by
    obtain ⟨init, f, h1, h2⟩ := splitOn_stripCR S.delim hd13 l
    have := hlen _ (List.mem_map_of_mem hl)
    rw [h2] at this; rw [h1]; simpa using this
  generalize ht : delimTable S.delim bs sks.length = t
  have hft : fieldTable S.delim bs = .ok t := ht ▸ fieldTable_ok S.delim bs sks.length hne hlen'
  have htexts : t.rows.map (fun r => r.map (fun p => slice (complete bs) p.1 p.2)) = (linesOf bs).map (splitOn S.delim) :=
    ht ▸ table_texts S.delim bs sks.length hne hlen'
  have hwfp : ∀ r ∈ t.rows, ∀ p ∈ r, wfPair (isDelim S.delim) (complete bs) 0 p := fun r hr p hp =>
    pairs_wf _ _ p (mem_chunkF _ _ _ r (ht ▸ hr) p hp)
  -- after the CR rule the texts are the fields of the lines without their CR
  generalize hR : crAdjustRows (complete bs) t.rows = R
  obtain ⟨htx, hwf⟩ : R.map (fun r => r.map (fun p => slice (complete bs) p.1 p.2))
        = (linesOf bs).map (fun l => splitOn S.delim (stripCR l)) ∧
      ∀ r ∈ R, ∀ p ∈ r, p.1 ≤ p.2 ∧ p.2 ≤ (complete bs).length := by
    rcases huni with hnocr | hcr
    · obtain ⟨l0, rest, hl⟩ := List.ne_nil_iff_exists_cons.mp hne
      rw [← hR, crAdjust_lf (complete bs) S.delim hd13 t.rows (linesOf bs) htexts hwfp
        (by rw [hl]; exact hnocr l0 (hl ▸ List.mem_cons_self)), htexts]
      exact ⟨List.map_congr_left fun l hl => by rw [stripCR_id l (hnocr l hl)],
        fun r hr p hp => ⟨(hwfp r hr p hp).1, Nat.le_of_lt (hwfp r hr p hp).2.1⟩⟩
    · exact hR ▸ crAdjust_crmode (complete bs) S.delim hd13 t.rows (linesOf bs) htexts hwfp (crlfText_first _ hcr)
  replace hspec : specColumnsFrom (R.map (fun r => r.map (fun p => slice (complete bs) p.1 p.2))) 0 sks = some cs := by
    rw [htx]; rwa [List.map_map] at hspec
  have hlenR : R.length = (linesOf bs).length := by simpa using congrArg List.length htx
  have hcols : typedColumns (S.cols.map (·.2)) (complete bs) (pickRows sel R)
      = .ok (resPick sel ((linesOf bs).length, cs)).2 := by
    rw [typedColumns, hk]
    refine typedColumnsFrom_spec _ _ (fun r hr => hwf r (mem_pickRows hr)) sks 0 _ ?_
    rw [pickRows_map]
    cases sel with
    | none => exact hspec
    | some idx =>
      refine specColumnsFrom_pick _ idx 0 sks cs sks.length (fun r hr => ?_) (Nat.le_of_eq (Nat.zero_add _)) hspec
      obtain ⟨l, hl, rfl⟩ := List.mem_map.mp (htx ▸ hr)
      exact hlen _ (List.mem_map_of_mem hl)
  have hl : (pickRows sel R).length = (resPick sel ((linesOf bs).length, cs)).1 := by
    cases sel with
    | none => exact hlenR
    | some idx =>
      show (pickIdx idx _).length = (pickIdx idx (List.range _)).length
      rw [pickIdx_length, pickIdx_length, hlenR, List.length_range]
  unfold parseDelimited
  simp only [hft, hR, hlenR, hsel, hcols, hl]
  rfl

/-! ## VCF: the coordinate shift touches one column -/

/-- coordinate conventions measured on the running code: VCF POS is shifted by −1, BED/SAM/GTF are kept -/
theorem gen_shifts : Gen.C02.vcfPosShift = -1 ∧ Gen.C02.bedStartShift = 0 ∧ Gen.C02.samPosShift = 0 ∧
    Gen.C02.gtfStartShift = 0 := by decide +kernel

theorem shiftCol_getElem? (j : Nat) (d : Int) (cols : List Col) (i : Nat) :
    (shiftCol j d cols)[i]? = cols[i]?.map (fun c => match c with
      | .ints v => if i = j then Col.ints (v.map (· + d)) else c
      | c => c) := by
  rw [shiftCol, List.getElem?_map]
  rcases Nat.lt_or_ge i cols.length with hi | hi
  · rw [List.getElem?_eq_getElem (by simpa using hi), List.getElem?_eq_getElem hi]
    simp only [List.getElem_zip, List.getElem_range, Option.map_some]
    cases cols[i] <;> rfl
  · rw [List.getElem?_eq_none (by simpa using hi), List.getElem?_eq_none hi]; rfl

theorem shiftCol_length (j : Nat) (d : Int) (cols : List Col) : (shiftCol j d cols).length = cols.length := by
  simp [shiftCol]

/-- The coordinate shift touches column `j` only (and not even that when it does not hold integers). -/
theorem shiftCol_others (j : Nat) (d : Int) (cols : List Col) (i : Nat)
    (h : i ≠ j ∨ ∀ v, cols[i]? ≠ some (Col.ints v)) : (shiftCol j d cols)[i]? = cols[i]? := by
  rw [shiftCol_getElem?]
  cases hc : cols[i]? with
  | none => rfl
  | some c =>
    cases c with
    | ints v => exact congrArg some (if_neg (h.resolve_right (fun h' => h' v hc)))
    | _ => rfl

/-- VCF: the position column of the parse is the text's value minus one -/
theorem vcf_pos (cols : List Col) (v : List Int) (h : cols[1]? = some (Col.ints v)) :
    (shiftCol 1 Gen.C02.vcfPosShift cols)[1]? = some (Col.ints (v.map (· - 1))) := by
  rw [shiftCol_getElem?, h, gen_shifts.1]
  simp [Int.sub_eq_add_neg]

/-! ## non-vacuity -/

-- parse_delimited, BED3 on the first text
example : Gen.C02.bed3.cols.map (·.2) = ["id", "int", "int"].map normKind := by decide +kernel
example : ∀ l ∈ specLines [99,9,49,9,50,50,10,120,121,9,51,51,51,9,52,10], (splitOn 9 l).length = 3 := by decide +kernel
example : specColumnsFrom ((specLines [99,9,49,9,50,50,10,120,121,9,51,51,51,9,52,10]).map (splitOn 9)) 0 ["id", "int", "int"]
    = some [Col.strs [[99], [120, 121]], Col.ints [1, 333], Col.ints [22, 4]] := by decide +kernel
-- and on the CRLF variant "c\t1\r\nd\t22\r\n" of chrom.sizes
example : (∀ l ∈ linesOf [99,9,49,13,10,100,9,50,50,13,10], l.getLast? = some 13) ∧
    specColumnsFrom ((specLines [99,9,49,13,10,100,9,50,50,13,10]).map (splitOn 9)) 0 ["str", "int"]
      = some [Col.strs [[99], [100]], Col.ints [1, 22]] := by decide +kernel
-- parse_delimited: CRLF text whose last line has no CR
example : crlfText (linesOf [99,9,49,13,10,100,9,50,50,10]) = true := by decide +kernel

example : (shiftCol 1 (-1) [Col.strs [[99]], Col.ints [7], Col.ints [9]])[2]? = some (Col.ints [9]) := by decide +kernel

end C02
