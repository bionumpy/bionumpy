import BnpVerif.Model.C07
import BnpVerif.Base.Split
import BnpVerif.Base.PyLaws
/-! C07 property theorems: every supported structural operation commutes with decoding (is natural in the
element type); comparison agrees with comparison on the decoded text for an injective decode table; split/join
are mutually inverse; what the index semantics mean is said in plain `List` vocabulary. -/
namespace C07
open Base Py

/-! ### the building blocks commute with maps -/

theorem scatter_map {α β} (f : α → β) (l : List α) (pos : List Nat) (vs : List α) :
    (scatter l pos vs).map f = scatter (l.map f) pos (vs.map f) := by
  induction pos generalizing l vs with
  | nil => cases vs <;> rfl
  | cons p ps ih =>
    cases vs with
    | nil => rfl
    | cons v vs => exact (ih _ _).trans (congrArg (scatter · ps _) List.map_set)

theorem fitValues_map {α β} (f : α → β) (n : Nat) (v : List α) :
    fitValues n (v.map f) = (fitValues n v).map (List.map f) := by
  unfold fitValues
  rw [List.length_map]
  split
  · rfl
  · rcases v with _ | ⟨c, _ | ⟨d, v⟩⟩
    · rfl
    · exact congrArg some List.map_replicate.symm
    · rfl

theorem sliceRow_map {α β} (f : α → β) (a b : Option Int) (s : Int) (row : List α) :
    sliceRow a b s (row.map f) = (sliceRow a b s row).map (List.map f) := by
  rw [sliceRow, List.length_map, pick_map]; rfl

/-- the row function of `apply`'s `colInt` case -/
theorem colInt_row_map {α β} (f : α → β) (j : Int) (row : List α) :
    (normIdx (row.map f).length j).bind (fun p => (row.map f)[p]?) =
      ((normIdx row.length j).bind (fun p => row[p]?)).map f := by
  simp only [List.length_map, List.getElem?_map, Option.map_bind, Function.comp_def]

/-! ### naturality of one operation -/

/-- for every value, operation and element map `f` (decoding is one): the operation on the mapped value is the
mapped result of the operation; shapes, failures (IndexError etc.) and order are identical.
Scope: parametricity of the model's `apply` — the operations never look at the codes — NOT that `apply` is the
right operation: what each operation means is said by the list-vocabulary theorems below and by the independent
Python oracle; that the real code behaves like `apply` is the correspondence. -/
theorem natural {α β} (f : α → β) (v : Val α) (op : Op α) :
    apply (v.map f) (op.map f) = (apply v op).map (Val.map f) := by
  cases v with
  | scalar c => cases op <;> rfl
  | flat l =>
    cases op with
    | index ix =>
      cases ix <;>
      simp only [Val.map, Op.map, apply, List.length_map, pick_map, List.getElem?_map, Option.map_bind,
        Option.map_map, Function.comp_def]
    | concat w =>
      cases w with
      | flat m => exact congrArg (fun x => some (Val.flat x)) List.map_append.symm
      | _ => rfl
    | setFlat ix v =>
      simp only [Val.map, Op.map, apply, List.length_map, fitValues_map, scatter_map, Option.map_bind,
        Option.map_map, Function.comp_def]
    | append v => exact congrArg (fun x => some (Val.flat x)) List.map_append.symm
    | insert i v =>
      simp only [Val.map, Op.map, apply, List.length_map, Option.map_map, Function.comp_def, List.map_append,
        List.map_take, List.map_drop]
    | _ => rfl
  | rag r =>
    cases op with
    | index ix =>
      cases ix <;>
      simp only [Val.map, Op.map, apply, List.length_map, pick_map, List.getElem?_map, Option.map_bind,
        Option.map_map, Function.comp_def]
    | colSlice a b s =>
      simp only [Val.map, Op.map, apply, omap_map, sliceRow_map, omap_map_result, apply_ite (Option.map (Val.map f)),
        Option.map_map, Option.map_none, Function.comp_def]
    | colInt rows j =>
      -- two passes: `List.length_map` / `Option.map_bind` would rewrite both sides of `colInt_row_map` before it applies
      simp only [Val.map, Op.map, apply, List.length_map, pick_map, Option.map_bind, Option.bind_map,
        Option.map_map, Function.comp_def]
      simp only [omap_map, colInt_row_map, omap_map_result, Option.map_map, Function.comp_def]
    | concat w =>
      cases w with
      | rag q => exact congrArg (fun x => some (Val.rag x)) List.map_append.symm
      | _ => rfl
    | ravel => exact congrArg (fun x => some (Val.flat x)) List.map_flatten.symm
    | setRow i v =>
      simp only [Val.map, Op.map, apply, List.length_map, List.getElem?_map, fitValues_map, Option.map_bind,
        Option.bind_map, Option.map_map, Function.comp_def, List.map_set]
    | setRowSlice i a b v =>
      simp only [Val.map, Op.map, apply, List.length_map, List.getElem?_map, fitValues_map, scatter_map,
        Option.map_bind, Option.bind_map, Option.map_map, Function.comp_def, List.map_set]
    | _ => rfl

/-- every finite sequence of operations: the decoded final result is the same program run on the decoded input
(or both fail at the same step) -/
theorem programs {α β} (f : α → β) (ops : List (Op α)) (v : Val α) :
    run (v.map f) (ops.map (Op.map f)) = (run v ops).map (Val.map f) := by
  induction ops generalizing v with
  | nil => rfl
  | cons op ops ih =>
    simp only [List.map_cons, run, natural, Option.bind_map, Option.map_bind, Function.comp_def, ih]

/-! ### comparison -/

theorem decide_map_eq {α β} [DecidableEq α] [DecidableEq β] (f : α → β) {x c : α} (h : f x = f c → x = c) :
    decide (f x = f c) = decide (x = c) :=
  decide_eq_decide.2 ⟨h, congrArg f⟩

/-- comparison needs injectivity only on the characters present -/
theorem eq_char_on {α β} [DecidableEq α] [DecidableEq β] (f : α → β) (c : α) (l : List α)
    (hf : ∀ x ∈ l, f x = f c → x = c) : eqChar (f c) ((Val.flat l).map f) = eqChar c (Val.flat l) := by
  simp only [Val.map, eqChar, List.map_map]
  exact congrArg Val.flat (List.map_congr_left fun x hx => decide_map_eq f (hf x hx))

/-- comparing codes with a character's code gives the same boolean array as comparing the decoded text with the
character, for an injective decoding (a Gen obligation of C06 for the alphabet encodings) -/
theorem eq_char {α β} [DecidableEq α] [DecidableEq β] (f : α → β) (hf : Function.Injective f)
    (c : α) (v : Val α) : eqChar (f c) (v.map f) = eqChar c v := by
  have h (x : α) : decide (f x = f c) = decide (x = c) := decide_map_eq f (@hf x c)
  cases v <;> simp only [Val.map, eqChar, List.map_map, Function.comp_def, h]

/-- `str_equal(rows, s)` on codes marks the same rows as on the decoded texts -/
theorem strEqual_map {α β} [DecidableEq α] [DecidableEq β] (f : α → β) (hf : Function.Injective f)
    (s : List α) (r : List (List α)) : strEqual (s.map f) (r.map (List.map f)) = strEqual s r := by
  rw [strEqual, List.map_map]
  exact List.map_congr_left fun row _ => decide_eq_decide.2 (List.map_inj_right fun _ _ e => hf e)

/-- `v == "text"` / `v == other` on codes equals the comparison of the decoded texts -/
theorem eqStr_map {α β} [DecidableEq α] [DecidableEq β] (f : α → β) (hf : Function.Injective f) (s : List α) (v : Val α) :
    eqStr (s.map f) (v.map f) = eqStr s v := by
  cases v with
  | flat l =>
    simp only [Val.map, eqStr, List.length_map, List.zip_map, List.map_map]
    congr 2
    exact List.map_congr_left fun p _ => decide_map_eq f (@hf p.1 p.2)
  | rag r => rfl
  | scalar c => rfl

/-! ### observations other than the text commute with decoding -/

/-- `np.where(m, a, b)` on codes decodes to `np.where` of the decoded texts -/
theorem whereFlat_map {α β} (f : α → β) (m : List Bool) (a b : List α) :
    whereFlat m (a.map f) (b.map f) = (whereFlat m a b).map (List.map f) := by
  rw [whereFlat, whereFlat, List.length_map, List.length_map, apply_ite (Option.map (List.map f)), List.zip_map,
    List.zip_map_right, List.map_map, Option.map_some, List.map_map]
  exact congrArg (ite _ · _) (congrArg some (List.map_congr_left fun p _ => (apply_ite f ..).symm))

theorem vlen_map {α β} (f : α → β) (v : Val α) : vlen (v.map f) = vlen v := by
  cases v <;> simp only [Val.map, vlen, List.length_map]

/-- every modelled observation other than the text (`== string/array`, `!= char`, `np.where`, `len`) computed on
the codes is the observation of the decoded characters -/
theorem observe_natural {α β} [DecidableEq α] [DecidableEq β] (f : α → β) (hf : Function.Injective f)
    (o : Obs α) (v : Val α) : observe (o.map f) (v.map f) = (observe o v).map (ObsRes.map f) := by
  cases o with
  | eqStr s => simp only [Obs.map, observe, eqStr_map f hf, Option.map_map]; rfl
  | neChar c => simp only [Obs.map, observe, neChar, eq_char f hf, Option.map_some, ObsRes.map]
  | whereWith m w =>
    cases v with
    | flat l => simp only [Obs.map, Val.map, observe, whereFlat_map, Option.map_map]; rfl
    | rag r => rfl
    | scalar c => rfl
  | len => simp only [Obs.map, observe, vlen_map, Option.map_map]; rfl

/-- programs followed by an observation commute with decoding -/
theorem programs_observe {α β} [DecidableEq α] [DecidableEq β] (f : α → β) (hf : Function.Injective f)
    (ops : List (Op α)) (o : Obs α) (v : Val α) :
    (run (v.map f) (ops.map (Op.map f))).bind (observe (o.map f)) = ((run v ops).bind (observe o)).map (ObsRes.map f) := by
  simp only [programs, Option.bind_map, Option.map_bind, Function.comp_def, observe_natural f hf]

example : observe (.whereWith [true, false, true] [9, 9, 9]) (Val.flat [1, 2, 3]) = some (.text [1, 9, 3]) := by decide +kernel
example : observe (.eqStr [1, 5, 3]) (Val.flat [1, 2, 3]) = some (.boolList [true, false, true]) := by decide +kernel

/-! ### split / join -/

theorem split_eq {α} [DecidableEq α] (sep : α) (s : List α) : split sep s = segments (· = sep) s :=
  segments_of_acc (splitAux sep) (fun _ => rfl) (fun _ _ _ => rfl) [] s

theorem join_eq {α} (sep : α) (rows : List (List α)) : join sep rows = List.intercalate [sep] rows := by
  rw [join, List.flatMap_def, dropLast_terminated]

/-- splitting the joined rows gives the rows back, whenever no row contains
the separator and there is at least one row. -/
theorem split_join {α} [DecidableEq α] (sep : α) (rows : List (List α)) (hne : rows ≠ [])
    (h : ∀ r ∈ rows, sep ∉ r) : split sep (join sep rows) = rows := by
  rw [join_eq, split_eq]
  exact segments_intercalate (P := (· = sep)) rfl rows hne fun r hr x hx e => h r hr (e ▸ hx)

example : split 44 (join 44 [[65],[],[66,67]]) = [[65],[],[66,67]] := by decide +kernel

/-- `join(split(s, sep), sep) = s` for every text (no hypothesis) -/
theorem join_split {α} [DecidableEq α] (sep : α) (s : List α) : join sep (split sep s) = s := by
  rw [join_eq, split_eq]; exact intercalate_segments sep s

/-! ### integer indices

From here on a theorem whose proof is the `Py` lemma of the same statement is that law of `Base/PyLaws`, under the name by which
this property's audit lists it. -/

/-- `normIdx` is Python's index rule -/
theorem normIdx_spec (len : Nat) (i : Int) (p : Nat) :
    normIdx len i = some p ↔ ((0 ≤ i ∧ i < len ∧ (p : Int) = i) ∨ (i < 0 ∧ -(len : Int) ≤ i ∧ (p : Int) = len + i)) :=
  normIdx_eq_some_iff len i p

/-- an integer index in `[-len, len)` does not raise -/
theorem int_index_defined {α} (l : List α) (i : Int) (h : -(l.length : Int) ≤ i ∧ i < l.length) :
    (apply (.flat l) (.index (.int i))).isSome = true := by
  obtain ⟨p, hp, hlt⟩ := normIdx_of_inRange l.length i h
  show ((normIdx l.length i).bind fun p => l[p]?.map Val.scalar).isSome = true
  rw [hp, Option.bind_some, List.getElem?_eq_getElem hlt]
  rfl

/-! ### fancy indexing -/

theorem pick_length {α} (l : List α) (pos : List Nat) (r : List α) (h : pick l pos = some r) :
    r.length = pos.length := omap_length _ pos r h

/-- fancy indexing reads element `pos[k]` into place `k` -/
theorem pick_getElem {α} (l : List α) : ∀ (pos : List Nat) (r : List α), pick l pos = some r →
    ∀ k, k < pos.length → r[k]? = l[pos[k]!]? := by
  intro pos r h k hk
  rw [omap_getElem? _ pos r h k, getElem!_pos pos k hk, List.getElem?_eq_getElem hk]
  rfl

/-- fancy indexing raises exactly when a position is out of range -/
theorem pick_isSome_iff {α} (l : List α) (pos : List Nat) :
    (pick l pos).isSome ↔ ∀ p ∈ pos, p < l.length :=
  Py.pick_isSome_iff l pos

/-- fancy indexing composes: `f[ix][jx]` is `f[ix[jx]]`, the one raising exactly when the other does -/
theorem pick_pick {α} (l : List α) (ix : List Nat) (r : List α) (h : pick l ix = some r) :
    ∀ (jx kx : List Nat), pick ix jx = some kx → pick r jx = pick l kx := by
  intro jx kx hk
  calc pick r jx = omap (fun j => ix[j]?.bind (l[·]?)) jx :=
        omap_congr _ _ _ fun j _ => omap_getElem? _ ix r h j
    _ = (pick ix jx).bind (pick l) := (omap_bind ..).symm
    _ = pick l kx := by rw [hk]; rfl

example : apply (Val.rag [[0,1,2,3],[0,1]]) (Op.index (.list [1, -2, 1])) = some (Val.rag [[0,1],[0,1,2,3],[0,1]]) := by decide +kernel

/-- non-vacuity: `"ACGT"[[3,0,2]][[1,1,0]]` = `"ACGT"[[0,0,3]]` = `"AAT"` -/
example : pick [65, 67, 71, 84] [3, 0, 2] = some [84, 65, 71] ∧ pick [3, 0, 2] [1, 1, 0] = some [0, 0, 3]
    ∧ pick [84, 65, 71] [1, 1, 0] = some [65, 65, 84] ∧ pick [65, 67, 71, 84] [0, 0, 3] = some [65, 65, 84] := by decide +kernel

/-- `np.concatenate([f, g])[ix] = f[ix]` for positions inside `f` -/
theorem pick_concat_left {α} (l m : List α) (pos : List Nat) (h : ∀ p ∈ pos, p < l.length) :
    pick (l ++ m) pos = pick l pos :=
  omap_congr _ _ _ fun p hp => List.getElem?_append_left (h p hp)

/-- `np.concatenate([f, g])[len(f) + ix] = g[ix]`, raising exactly when `g[ix]` does -/
theorem pick_concat_right {α} (l m : List α) (pos : List Nat) :
    pick (l ++ m) (pos.map (· + l.length)) = pick m pos :=
  pick_append_right l m pos

/-- non-vacuity: `"AC" ++ "GT"` at `[1, 0]` and at `[2+1, 2+0]` -/
example : pick ([65, 67] ++ [71, 84]) [1, 0] = some [67, 65] ∧ pick ([65, 67] ++ [71, 84]) ([1, 0].map (· + 2)) = some [84, 71] := by decide +kernel

/-! ### slices -/

/-- a slice never selects a position outside the sequence (slicing cannot raise), whatever start, stop, step -/
theorem slice_in_range (len : Nat) (a b : Option Int) (step : Int) (hstep : step ≠ 0) :
    ∀ x ∈ sliceIdx len a b step, x < len :=
  resolve_lt (ix := .slice a b step) (if_neg hstep)

/-- every slice `a:b:step` (non-zero step; bounds present, omitted, negative or out of range): with `(s, e)`
CPython's adjusted bounds the selection is exactly `range(s, e, step)` — position `k` is `s + k·step`, and `k` is
selected iff that lies before `e` in the direction of the step -/
theorem slice_general (len : Nat) (a b : Option Int) (step : Int) (hstep : step ≠ 0) :
    let s := (sliceBounds len a b step).1
    let e := (sliceBounds len a b step).2
    (∀ k, k < (sliceIdx len a b step).length → (sliceIdx len a b step)[k]? = some (s + k * step).toNat) ∧
    (∀ k : Nat, (if 0 < step then s + k * step < e else s + k * step > e) → k < (sliceIdx len a b step).length) ∧
    (∀ k, k < (sliceIdx len a b step).length → (if 0 < step then s + k * step < e else s + k * step > e)) := by
  have hl := lt_length_sliceIdx len a b step
  exact ⟨fun k hk => (getElem?_sliceIdx len a b step k).trans (if_pos ((hl k).1 hk)),
    fun k h => (hl k).2 ((Before_iff hstep).2 h), fun k h => (Before_iff hstep).1 ((hl k).1 h)⟩

example : sliceIdx 7 (some 5) (some 0) (-2) = [5, 3, 1] ∧ sliceIdx 7 (some (-1)) none (-3) = [6, 3, 0] ∧
    sliceIdx 7 (some 1) (some 100) 3 = [1, 4] := by decide +kernel
example : apply (Val.flat [0,1,2,3]) (Op.index (.slice (some 3) none (-2))) = some (Val.flat [3,1]) := by decide +kernel

/-- on positions: `[::-1]` selects every position, last first (`slice_reverse`: the same on elements) -/
theorem reverse_slice (len : Nat) : sliceIdx len none none (-1) = (List.range len).reverse :=
  sliceIdx_reverse len

/-! on elements: unit-step and reversing slices in list vocabulary -/

/-- a unit-step slice `l[a:b]` is `drop`/`take` between CPython's adjusted bounds, for every `a`, `b` (present or
omitted) -/
theorem slice_take_drop {α} (l : List α) (a b : Option Int) :
    pick l (sliceIdx l.length a b 1) =
      some ((l.drop (sliceBounds l.length a b 1).1.toNat).take
        ((sliceBounds l.length a b 1).2 - (sliceBounds l.length a b 1).1).toNat) :=
  Py.slice_take_drop l a b

/-- `l[:]` is `l` -/
theorem slice_full {α} (l : List α) : pick l (sliceIdx l.length none none 1) = some l :=
  Py.slice_full l

/-- on elements: `l[::-1]` is `l.reverse` -/
theorem slice_reverse {α} (l : List α) : pick l (sliceIdx l.length none none (-1)) = some l.reverse :=
  Py.slice_reverse l

/-! ### `apply` in list vocabulary -/

theorem apply_slice {α} (a b : Option Int) {s : Int} (hs : s ≠ 0) :
    (∀ l : List α, apply (.flat l) (.index (.slice a b s)) = (pick l (sliceIdx l.length a b s)).map .flat) ∧
    (∀ r : List (List α), apply (.rag r) (.index (.slice a b s)) = (pick r (sliceIdx r.length a b s)).map .rag) := by
  constructor <;> intro l <;> show (if s = 0 then none else some (sliceIdx l.length a b s)).bind _ = _ <;>
    rw [if_neg hs] <;> rfl

/-- slicing never raises (rows or elements), whatever the bounds -/
theorem slice_defined {α} (v : Val α) (hv : ∀ c, v ≠ .scalar c) (a b : Option Int) (s : Int) (hs : s ≠ 0) :
    (apply v (.index (.slice a b s))).isSome = true := by
  have key {γ} (l : List γ) : (pick l (sliceIdx l.length a b s)).isSome :=
    (pick_isSome_iff _ _).2 (slice_in_range _ a b s hs)
  cases v with
  | scalar c => exact absurd rfl (hv c)
  | flat l => rw [(apply_slice a b hs).1, Option.isSome_map]; exact key l
  | rag r => rw [(apply_slice a b hs).2, Option.isSome_map]; exact key r

theorem apply_reverse {α} :
    (∀ l : List α, apply (.flat l) (.index (.slice none none (-1))) = some (.flat l.reverse)) ∧
    (∀ r : List (List α), apply (.rag r) (.index (.slice none none (-1))) = some (.rag r.reverse)) := by
  have h := apply_slice (α := α) none none (s := -1) (by decide)
  constructor <;> intro l
  · rw [h.1, slice_reverse]; rfl
  · rw [h.2, slice_reverse]; rfl

/-- reversing twice (`v[::-1][::-1]`, rows or elements) gives back the operand -/
theorem reverse_involutive {α} (v : Val α) (hv : ∀ c, v ≠ .scalar c) :
    run v [.index (.slice none none (-1)), .index (.slice none none (-1))] = some v := by
  cases v with
  | scalar c => exact absurd rfl (hv c)
  | flat l | rag l =>
    show (apply _ _).bind (fun v' => (apply v' _).bind some) = _
    simp only [apply_reverse.1, apply_reverse.2, Option.bind_some, List.reverse_reverse]

/-- `r[:, ::-1]` reverses every row -/
theorem colSlice_reverse {α} (r : List (List α)) :
    apply (.rag r) (.colSlice none none (-1)) = some (.rag (r.map List.reverse)) := by
  show (omap (sliceRow none none (-1)) r).map Val.rag = _
  rw [omap_some_map (sliceRow none none (-1)) List.reverse r (fun row _ => slice_reverse row)]
  rfl

example : apply (Val.rag [[0,1,2,3],[0,1],[],[2,2,3,1,0]]) (Op.colSlice none none (-1)) =
    some (Val.rag [[3,2,1,0],[1,0],[],[0,1,3,2,2]]) := by decide +kernel

/-- concatenation then ravel is ravel then concatenation -/
theorem ravel_concat {α} (r q : List (List α)) :
    run (.rag r) [.concat (.rag q), .ravel] = run (.flat r.flatten) [.concat (.flat q.flatten)] :=
  congrArg (fun x => some (Val.flat x)) List.flatten_append

/-- `np.append(f, v)` is `np.insert(f, len(f), v)` -/
theorem append_insert {α} (l v : List α) :
    apply (.flat l) (.append v) = apply (.flat l) (.insert l.length v) := by
  show _ = (insertPos l.length l.length).map _
  rw [insertPos, if_pos (Int.natCast_nonneg _), Int.toNat_natCast, if_pos (Nat.le_refl _), Option.map_some,
    List.take_length, List.drop_length, List.append_nil]
  rfl

/-! ### item assignment -/

/-- item assignment keeps the length -/
theorem scatter_length {α} : ∀ (pos : List Nat) (l vs : List α), (scatter l pos vs).length = l.length := by
  intro pos
  induction pos with
  | nil => intro l vs; cases vs <;> rfl
  | cons p ps ih =>
    intro l vs
    cases vs with
    | nil => rfl
    | cons v vs => exact (ih _ vs).trans List.length_set

/-- positions that are not assigned keep their value -/
theorem scatter_other {α} (q : Nat) : ∀ (pos : List Nat) (l vs : List α), q ∉ pos →
    (scatter l pos vs)[q]? = l[q]? := by
  intro pos
  induction pos with
  | nil => intro l vs _; cases vs <;> rfl
  | cons p ps ih =>
    intro l vs hq
    cases vs with
    | nil => rfl
    | cons v vs =>
      exact (ih _ vs fun h => hq (List.mem_cons_of_mem _ h)).trans
        (List.getElem?_set_ne fun h : p = q => hq (h ▸ List.mem_cons_self))

/-- after `f[ix] = v` (distinct in-range positions) `f[ix]` reads back `v` -/
theorem scatter_get {α} : ∀ (pos : List Nat) (l vs : List α), pos.Nodup → (∀ p ∈ pos, p < l.length) →
    vs.length = pos.length → pick (scatter l pos vs) pos = some vs := by
  intro pos
  induction pos with
  | nil => intro l vs _ _ hl; rw [List.eq_nil_of_length_eq_zero hl]; rfl
  | cons p ps ih =>
    intro l vs hnd hin hl
    cases vs with
    | nil => cases hl
    | cons v vs =>
      have hnd' := List.nodup_cons.mp hnd
      refine omap_cons_some _ _ _ _ _ ?_ (ih (l.set p v) vs hnd'.2 (fun q hq => ?_) (Nat.succ.inj hl))
      · rw [scatter, scatter_other p ps _ vs hnd'.1, List.getElem?_set_self (hin p List.mem_cons_self)]
      · rw [List.length_set]; exact hin q (List.mem_cons_of_mem _ hq)

/-! ### boolean masks -/

/-- boolean-mask indexing `l[m]` is `[x for x, b in zip(l, m) if b]` -/
theorem mask_filter {α} (l : List α) (m : List Bool) (h : m.length = l.length) :
    pick l (maskPositions 0 m) = some (((l.zip m).filter (·.2)).map (·.1)) :=
  Py.mask_filter l m h

theorem maskPositions_bounds : ∀ (m : List Bool) (i : Nat), ∀ p ∈ maskPositions i m, i ≤ p ∧ p < i + m.length :=
  Py.maskPositions_bounds

theorem maskPositions_nodup : ∀ (m : List Bool) (i : Nat), (maskPositions i m).Nodup :=
  fun m i => (maskPositions_sorted m i).imp Nat.ne_of_lt

/-- `f[m] = v` followed by `f[m]` reads back `v` (mask of the operand's length, one value per selected position) -/
theorem mask_assign_get {α} (l vs : List α) (m : List Bool) (h : m.length = l.length)
    (hv : vs.length = (maskPositions 0 m).length) :
    pick (scatter l (maskPositions 0 m) vs) (maskPositions 0 m) = some vs :=
  scatter_get _ l vs (maskPositions_nodup m 0)
    (fun p hp => by rw [← h, ← Nat.zero_add m.length]; exact (maskPositions_bounds m 0 p hp).2) hv

/-- positions outside the mask keep their character -/
theorem mask_assign_other {α} (l vs : List α) (m : List Bool) (q : Nat) (hq : q ∉ maskPositions 0 m) :
    (scatter l (maskPositions 0 m) vs)[q]? = l[q]? :=
  scatter_other q _ l vs hq

/-- non-vacuity: `f = "ACGT"; f[[T,F,T,F]] = "NN"` gives `"NCNT"` and reads back `"NN"` -/
example : scatter [65, 67, 71, 84] (maskPositions 0 [true, false, true, false]) [78, 78] = [78, 67, 78, 84]
    ∧ pick [78, 67, 78, 84] (maskPositions 0 [true, false, true, false]) = some [78, 78] := by decide +kernel

end C07
