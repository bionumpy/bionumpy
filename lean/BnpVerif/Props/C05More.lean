import BnpVerif.Props.C05Core
import BnpVerif.Props.C04Core
/-! C05, further: tables nobody assigned to never get an overlay, so a lazy write is the source bytes of the selected records
(`untouched_writes`); the row-list abstraction of the buffer is what the C04 extractor denotes (`buffer_index_refines`,
`buffer_concat_refines`), and `Lazy.index` / `concatNew` commute with it;
reading in chunks is reading whole; the size guard `RunOK` is necessary; the predicate that chooses between the two machines. -/
namespace C05
open PyIdx

/-- operations that do not modify a column -/
def Op.pure : Op → Bool
  | .replace _ _ _ => false
  | .setattr _ _ _ => false
  | _ => true

/-- the register file of plain row lists the lazy registers' buffers follow -/
def stepBuf (op : Op) (bufs : List (List FRow)) : List (List FRow) :=
  match op with
  | .index a d ix => match bufs[a]? with
    | some b => match pyIndex b ix with
      | some b' => bufs.set d b'
      | none => bufs
    | none => bufs
  | .cat a b => match bufs[a]?, bufs[b]? with
    | some x, some y => bufs.set a (x ++ y)
    | _, _ => bufs
  | _ => bufs

/-- what an untouched table writes: the original bytes of its records -/
def writeObs (bufs : List (List FRow)) (a : Nat) : Obs :=
  match bufs[a]? with
  | some b => .bytes (b.map (·.raw)).flatten
  | none => .err

/-- the write observations of a program over plain row lists -/
def writeTrace : List Op → List (List FRow) → List Obs
  | [], _ => []
  | op :: ops, bufs => (match op with | .write a => writeObs bufs a | _ => Obs.unit) :: writeTrace ops (stepBuf op bufs)

def onlyWrites : List Op → List Obs → List Obs
  | op :: ops, o :: os => (if op.isWrite then o else Obs.unit) :: onlyWrites ops os
  | _, _ => []

/-- a table nobody assigned to -/
def Untouched (l : Lazy) : Prop := Coh l ∧ l.set = []

theorem set_same_buf (rs : List Lazy) (a : Nat) (l l' : Lazy) (hl : rs[a]? = some l) (hb : l'.buf = l.buf) :
    (rs.set a l').map (·.buf) = rs.map (·.buf) := by
  rw [List.map_set, hb]
  exact set_self_of_getElem? _ _ _ (by rw [List.getElem?_map, hl]; rfl)

theorem concat_unset (nF : Nat) (la lb : Lazy) (ha : la.set = []) (hb : lb.set = []) :
    ∃ r, concatNew nF false [la, lb] = some (r, [la, lb]) ∧ r.set = [] ∧ r.buf = la.buf ++ lb.buf := by
  -- no operand has an overlay, so no field is read and the operands stay as they are
  have hn : setNames nF false [la, lb] = [] :=
    List.filter_eq_nil_iff.2 fun n _ => by rw [List.any_cons, List.any_cons, ha, hb]; exact Bool.false_ne_true
  unfold concatNew
  simp only [hn]
  exact ⟨_, rfl, rfl, congrArg _ (List.append_nil _)⟩

/-- one step of an operation that modifies no column. The write observation is stated with the trace functions on the one-step
program, so that `unset_writes` is `cons` of it and of the induction hypothesis. -/
theorem pure_step (k : Cfg) (hfc : k.fixedConcat = true) (hbc : k.bufferConcat = true) (op : Op) (hp : op.pure = true)
    (rs : List Lazy) (h : ∀ l ∈ rs, l.set = []) :
    (∀ l ∈ (stepLazy k op rs).2, l.set = []) ∧
    (stepLazy k op rs).2.map (·.buf) = stepBuf op (rs.map (·.buf)) ∧
    onlyWrites [op] [(stepLazy k op rs).1] = writeTrace [op] (rs.map (·.buf)) := by
  have hu {a : Nat} {l : Lazy} (hl : rs[a]? = some l) : l.set = [] := h l (List.mem_of_getElem? hl)
  cases op with
  | len a => dsimp only [stepLazy]; cases rs[a]? <;> exact ⟨h, rfl, rfl⟩
  | get a f =>
    dsimp only [stepLazy]
    cases hl : rs[a]? with
    | none => exact ⟨h, rfl, rfl⟩
    | some l =>
      dsimp only
      by_cases hf : f < k.nF
      · rw [if_pos hf]
        have hg := get_recached l f
        exact ⟨forall_mem_set h a (hg.set.trans (hu hl)), set_same_buf rs a l _ hl hg.buf, rfl⟩
      · rw [if_neg hf]
        exact ⟨h, rfl, rfl⟩
  | index a d ix =>
    dsimp only [stepLazy, stepBuf, Lazy.index, pyIndex, Lazy.len]
    rw [List.getElem?_map]
    cases hl : rs[a]? with
    | none => exact ⟨h, rfl, rfl⟩
    | some l =>
      dsimp only [Option.map_some]
      cases ix.toList l.buf.length with
      | none => exact ⟨h, rfl, rfl⟩
      | some ixs =>
        exact ⟨forall_mem_set h d (by rw [Lazy.select, hu hl]; rfl), List.map_set, rfl⟩
  | row a i =>
    dsimp only [stepLazy]
    cases rs[a]? with
    | none => exact ⟨h, rfl, rfl⟩
    | some l => dsimp only; cases norm l.len i <;> exact ⟨h, rfl, rfl⟩
  | cat a b =>
    dsimp only [stepLazy, stepBuf]
    rw [List.getElem?_map, List.getElem?_map]
    cases hla : rs[a]? with
    | none => exact ⟨h, rfl, rfl⟩
    | some la =>
      cases hlb : rs[b]? with
      | none => exact ⟨h, rfl, rfl⟩
      | some lb =>
        obtain ⟨r, hr, hur, hbuf⟩ := concat_unset k.nF la lb (hu hla) (hu hlb)
        dsimp only [Option.map_some]
        rw [hfc, if_pos rfl, hbc, Bool.not_true, hr]
        dsimp only
        rw [set_self_of_getElem? rs b lb hlb, ite_self]
        exact ⟨forall_mem_set h a hur, by rw [List.map_set, hbuf], rfl⟩
  | replace a d kw => cases hp
  | setattr a f c => cases hp
  | tolist a =>
    dsimp only [stepLazy]
    cases hl : rs[a]? with
    | none => exact ⟨h, rfl, rfl⟩
    | some l =>
      have ⟨d1, d2⟩ := dataObject_buf_set k.nF l
      exact ⟨forall_mem_set h a (d2.trans (hu hl)), set_same_buf rs a l _ hl d1, rfl⟩
  | write a =>
    refine ⟨by rw [stepLazy_write_snd]; exact h, by rw [stepLazy_write_snd]; rfl, congrArg (fun o => [o]) ?_⟩
    dsimp only [stepLazy, writeObs]
    rw [List.getElem?_map]
    cases hl : rs[a]? with
    | none => rfl
    | some l =>
      dsimp only [Option.map_some]
      rw [write_of_set_nil _ _ l (hu hl), hu hl, List.isEmpty_nil, Bool.not_true, Bool.and_false,
        if_neg Bool.false_ne_true]
      rfl

/-- an empty overlay is all the write observations depend on (what the cache holds does not matter) -/
theorem unset_writes (k : Cfg) (hfc : k.fixedConcat = true) (hbc : k.bufferConcat = true) (ops : List Op)
    (hp : ∀ op ∈ ops, op.pure = true) :
    ∀ (rs : List Lazy), (∀ l ∈ rs, l.set = []) → onlyWrites ops (runLazy k ops rs) = writeTrace ops (rs.map (·.buf)) := by
  induction ops with
  | nil => intro rs _; rfl
  | cons op ops ih =>
    intro rs h
    obtain ⟨s1, s2, s3⟩ := pure_step k hfc hbc op (hp op (.head _)) rs h
    exact List.cons_eq_cons.2 ⟨(List.cons.inj s3).1, s2 ▸ ih (fun o ho => hp o (.tail _ ho)) _ s1⟩

/-- C04's rule inside the lazy register machine: for EVERY program without `replace` / attribute assignment over delimited
tables (buffer type with `concatenate`), starting from untouched registers, every `write` step hands out exactly the ORIGINAL
BYTES of the records the same program selects on plain lists of file rows (whatever `supports_modified_write` says) -/
theorem untouched_writes (k : Cfg) (hfc : k.fixedConcat = true) (hbc : k.bufferConcat = true) (ops : List Op)
    (hp : ∀ op ∈ ops, op.pure = true) :
    ∀ (rs : List Lazy), (∀ l ∈ rs, Untouched l) → onlyWrites ops (runLazy k ops rs) = writeTrace ops (rs.map (·.buf)) :=
  fun rs h => unset_writes k hfc hbc ops hp rs fun l hl => (h l hl).2

theorem untouched_ofFile (buf : List FRow) : Untouched (Lazy.ofFile buf) := ⟨fun _ _ h => (nomatch h), rfl⟩

theorem ofFile_bufs (bufs : List (List FRow)) : (bufs.map Lazy.ofFile).map (·.buf) = bufs := by
  induction bufs with
  | nil => rfl
  | cons b bs ih => simp only [List.map_cons, ih]; rfl

/-- the same for tables as read from files -/
theorem untouched_writes_files (k : Cfg) (hfc : k.fixedConcat = true) (hbc : k.bufferConcat = true) (ops : List Op)
    (hp : ∀ op ∈ ops, op.pure = true) (bufs : List (List FRow)) :
    onlyWrites ops (runLazy k ops (bufs.map Lazy.ofFile)) = writeTrace ops bufs := by
  rw [untouched_writes k hfc hbc ops hp _ (List.forall_mem_map.2 fun b _ => untouched_ofFile b), ofFile_bufs]

/-! the buffer abstraction is justified by C04: an item getter over the pass-through extractor denotes the list of parsed file rows -/

/-- the file rows an extractor denotes, given the per-record parser (C02: parsing is a function of the record) -/
def rowsOfExt (parse : C04.Rec → FRow) (e : C04.Ext) : List FRow := e.abs.map parse

/-- `ItemGetter.__getitem__` (= `buffer[idx]`) on the extractor is NumPy indexing of the rows it denotes -/
theorem buffer_index_refines (parse : C04.Rec → FRow) (e : C04.Ext) (h : C04.LenWF e) (ix : Idx) :
    (e.index ix).map (rowsOfExt parse) = pyIndex (rowsOfExt parse e) ix := by
  unfold rowsOfExt
  rw [pyIndex_map, ← C04.select_refines e h ix]
  cases e.index ix <;> rfl

/-- `ItemGetter.concatenate` (= `buffer.concatenate`) appends the denoted rows -/
theorem buffer_concat_refines (parse : C04.Rec → FRow) (es : List C04.Ext) (h : ∀ e ∈ es, C04.WF e) :
    rowsOfExt parse (C04.Ext.concat es) = (es.map (rowsOfExt parse)).flatten := by
  unfold rowsOfExt
  rw [C04.concat_refines es h, List.map_flatten, List.map_map]
  rfl

/-- `LazyBNPDataClass.__getitem__` over an item getter whose buffer is the pass-through extractor `e`: the rows of the resulting
lazy table are the rows the INDEXED EXTRACTOR denotes, and it fails exactly when the extractor's indexing fails -/
theorem lazy_index_buffer (parse : C04.Rec → FRow) (e : C04.Ext) (h : C04.LenWF e) (l : Lazy) (hl : l.buf = rowsOfExt parse e)
    (ix : Idx) : (l.index ix).map (·.buf) = (e.index ix).map (rowsOfExt parse) := by
  rw [buffer_index_refines parse e h ix, ← hl]
  unfold Lazy.index pyIndex Lazy.len
  cases ix.toList l.buf.length <;> rfl

/-- `np.concatenate` of lazy tables over extractors: the rows of the result are the rows the
CONCATENATED EXTRACTOR (`TextThroughputExtractor.concatenate`) denotes -/
theorem lazy_concat_buffer (parse : C04.Rec → FRow) (es : List C04.Ext) (hwf : ∀ e ∈ es, C04.WF e) (nF : Nat) (af : Bool)
    (ls : List Lazy) (hne : ls ≠ []) (hc : ∀ a ∈ ls, Coh a) (ha : ∀ a ∈ ls, Aligned a)
    (hb : ls.map (·.buf) = es.map (rowsOfExt parse)) :
    ∃ r rest, concatNew nF af ls = some (r, rest) ∧ r.buf = rowsOfExt parse (C04.Ext.concat es) := by
  obtain ⟨r, hr, _, _, _, c4, _⟩ := concatNew_spec nF af ls hne hc ha
  exact ⟨r, _, hr, by rw [c4, hb, buffer_concat_refines parse es hwf]⟩

/-- a file read in two chunks and concatenated (`np.concatenate(list(read_chunks()))`) IS the file read whole: the lazy
concatenation of the chunk tables is related to the eager table of the whole file, its rows are the file's rows, and the eager
concatenation of the eager chunk tables is the eager whole-file table -/
theorem chunked_read (nF : Nat) (af : Bool) (c1 c2 : List FRow) :
    ∃ r ls', concatNew nF af [Lazy.ofFile c1, Lazy.ofFile c2] = some (r, ls') ∧
      R nF r (Eager.ofFile nF (c1 ++ c2)) ∧ r.buf = c1 ++ c2 ∧
      Eager.concat [Eager.ofFile nF c1, Eager.ofFile nF c2] = some (Eager.ofFile nF (c1 ++ c2)) := by
  have h1 := R_ofFile nF c1
  have h2 := R_ofFile nF c2
  obtain ⟨r, _, _, h⟩ := concat_pair nF af _ _ ⟨h1.1, h1.2.1⟩ ⟨h2.1, h2.2.1⟩
  have hE : (⟨appendCols (Eager.ofFile nF c1).cols (Eager.ofFile nF c2).cols⟩ : Eager) = Eager.ofFile nF (c1 ++ c2) :=
    congrArg Eager.mk ((appendCols_map nF _ _).trans (List.map_congr_left fun f _ => (fileCol_append c1 c2 f).symm))
  exact ⟨r, _, h.eq, hE ▸ h.R h1 h2, h.buf, congrArg some hE⟩

/-- hence: any program run on the chunk-read lazy table and on the whole-read eager table gives
the same observations, the payload of writes masked -/
theorem chunked_read_programs (k : Cfg) (hn : 0 < k.nF) (hfc : k.fixedConcat = true) (hfs : k.fixedSetattr = true)
    (hmw : k.modWrite = true) (hew : k.eagerWrite = true) (c1 c2 : List FRow) (ops : List Op) :
    ∃ r ls', concatNew k.nF (!k.bufferConcat) [Lazy.ofFile c1, Lazy.ofFile c2] = some (r, ls') ∧
      (RunOK k ops [r] → maskPayload (runLazy k ops [r]) = maskPayload (runEager k ops [Eager.ofFile k.nF (c1 ++ c2)])) := by
  obtain ⟨r, ls', h1, h2, _, _⟩ := chunked_read k.nF (!k.bufferConcat) c1 c2
  refine ⟨r, ls', h1, fun hok => ?_⟩
  refine programs_values k hn hfc hfs hmw hew ops [r] [Eager.ofFile k.nF (c1 ++ c2)] ⟨rfl, fun i l e hl he => ?_⟩ hok
  cases i with
  | zero => cases hl; cases he; exact h2
  | succ i => cases hl

/-- outside `RunOK` (a one-value column assigned to a two-row table) the model's two sides
show different rows, as the real tables do (the real lazy table fails at `tolist`, the real eager one zips to the shortest column):
replacement columns of the wrong length are a caller error the property does not cover -/
theorem illsized_setattr_diverges :
    runLazy demoCfg [.setattr 0 0 [[55]], .tolist 0] [Lazy.ofFile [demoRow 49 50, demoRow 51 52]] ≠
      runEager demoCfg [.setattr 0 0 [[55]], .tolist 0] [Eager.ofFile 2 [demoRow 49 50, demoRow 51 52]] ∧
    runOKb demoCfg [.setattr 0 0 [[55]], .tolist 0] [Lazy.ofFile [demoRow 49 50, demoRow 51 52]] = false := by
  decide +kernel

/-- a field number outside the entry type fails on both sides (no guard needed) -/
example : runLazy demoCfg [.get 0 7] [Lazy.ofFile [demoRow 49 50]] = [.err] ∧
    runEager demoCfg [.get 0 7] [Eager.ofFile 2 [demoRow 49 50]] = [.err] := by decide +kernel

/-- the predicate of the code is the documented rule: the `lazy=` keyword wins, without it the
global `config.LAZY` decides, and an excluded buffer type is never lazy (all 12 combinations) -/
theorem shouldBeLazy_precedence (cfgLazy : Bool) (kw : Option Bool) (excluded : Bool) :
    shouldBeLazy cfgLazy kw excluded = ((kw.getD cfgLazy) && !excluded) := by
  cases kw with
  | none => cases cfgLazy <;> rfl
  | some b => cases b <;> cases cfgLazy <;> rfl

end C05
