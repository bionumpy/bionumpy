import BnpVerif.Props.C04Core
/-! C04 — extractors whose data is laid out block after block (a line and its newline, a k-line entry, a BAM record), whatever
the format: the arrays are computed from each block and the offset at which it starts (`walk`); rows that lie on their
blocks (`RowFits`) give the invariant and "the records are the blocks" (`inv_of_walk`), hence the end-to-end statement
for every program (`passthrough_map`). -/
namespace C04

section
variable {α β γ δ : Type} (blk : α → Bytes)

/-- `f` applied to every block of a file, together with the offset at which the block starts -/
def walk (f : Nat → α → β) : Nat → List α → List β
  | _, [] => []
  | k, x :: xs => f k x :: walk f (k + (blk x).length) xs

theorem walk_length (f : Nat → α → β) (k : Nat) (xs : List α) : (walk blk f k xs).length = xs.length := by
  induction xs generalizing k with
  | nil => rfl
  | cons x xs ih => simp only [walk, List.length_cons, ih]

theorem walk_map (f : Nat → α → β) (g : β → γ) (k : Nat) (xs : List α) :
    (walk blk f k xs).map g = walk blk (fun k x => g (f k x)) k xs := by
  induction xs generalizing k with
  | nil => rfl
  | cons x xs ih => simp only [walk, List.map_cons, ih]

theorem walk_zipWith (f : Nat → α → β) (g : Nat → α → γ) (F : β → γ → δ) (k : Nat) (xs : List α) :
    List.zipWith F (walk blk f k xs) (walk blk g k xs) = walk blk (fun k x => F (f k x) (g k x)) k xs := by
  induction xs generalizing k with
  | nil => rfl
  | cons x xs ih => simp only [walk, List.zipWith_cons_cons, ih]

theorem walk_congr (f g : Nat → α → β) (xs : List α) (h : ∀ x ∈ xs, ∀ k, f k x = g k x) (k : Nat) :
    walk blk f k xs = walk blk g k xs := by
  induction xs generalizing k with
  | nil => rfl
  | cons x xs ih => rw [walk, walk, h x List.mem_cons_self, ih (fun y hy => h y (List.mem_cons_of_mem _ hy))]

theorem mem_walk (f : Nat → α → β) (xs : List α) (y : β) : ∀ k, y ∈ walk blk f k xs → ∃ x ∈ xs, ∃ k', y = f k' x := by
  induction xs with
  | nil => intro k h; simp [walk] at h
  | cons x xs ih =>
    intro k h
    rcases List.mem_cons.mp h with rfl | h
    · exact ⟨x, List.mem_cons_self, k, rfl⟩
    · obtain ⟨x', hx', k', e⟩ := ih _ h
      exact ⟨x', List.mem_cons_of_mem _ hx', k', e⟩

/-- block starts and block ends as walks: the ends are the starts shifted one place plus the end of the file — the form in
which the BAM and SAM builders get `eStart` / `eEnd` out of one list of positions (`ends_spec`) -/
theorem starts_ends (xs : List α) : ∀ k,
    walk blk (fun k _ => k) k xs ++ [k + (xs.map blk).flatten.length] = k :: walk blk (fun k x => k + (blk x).length) k xs := by
  induction xs with
  | nil => intro k; rfl
  | cons x xs ih =>
    intro k
    simp only [walk, List.map_cons, List.flatten_cons, List.length_append, List.cons_append, ← Nat.add_assoc, ih]

theorem ends_spec (xs : List α) (hne : xs ≠ []) (k : Nat) :
    k :: (walk blk (fun k x => k + (blk x).length) k xs).dropLast = walk blk (fun k _ => k) k xs ∧
      (walk blk (fun k x => k + (blk x).length) k xs).getLast? = some (k + (xs.map blk).flatten.length) := by
  have h := starts_ends blk xs k
  have he : walk blk (fun k x => k + (blk x).length) k xs ≠ [] := by
    cases xs with
    | nil => exact absurd rfl hne
    | cons x xs => simp [walk]
  have h2 := congrArg List.getLast? h
  rw [List.getLast?_concat, List.getLast?_cons, List.getLast?_eq_some_getLast he] at h2
  exact ⟨by rw [← List.dropLast_cons_of_ne_nil he, ← h, List.dropLast_concat],
    by rw [List.getLast?_eq_some_getLast he]; exact h2.symm⟩

variable (d : Bytes) (c : Bool) (f1 f2 : Nat → α → List Nat) (f3 f4 : Nat → α → Nat) (k : Nat) (xs : List α)

theorem rows_walk : (Ext.mk d (walk blk f1 k xs) (walk blk f2 k xs) (walk blk f3 k xs) (walk blk f4 k xs) c).rows =
    walk blk (fun k x => ⟨f1 k x, f2 k x, f3 k x, f4 k x⟩) k xs := by
  simp only [Ext.rows, List.zip_eq_zipWith, walk_zipWith]

theorem lenWF_walk : LenWF (Ext.mk d (walk blk f1 k xs) (walk blk f2 k xs) (walk blk f3 k xs) (walk blk f4 k xs) c) := by
  simp only [LenWF, walk_length, and_self]

/-- row `r` lies on the block `b` that starts at offset `k`: `RowWF` with the record pinned to the block -/
def RowFits (k : Nat) (b : Bytes) (r : Row) : Prop :=
  r.eS = k ∧ r.eE = k + b.length ∧ r.fS.length = r.fL.length ∧ (∀ s ∈ r.fS, k ≤ s) ∧
    ∀ p ∈ List.zip r.fS r.fL, p.1 + p.2 ≤ k + b.length

/-- `A`: what is already laid out in front of the blocks (the induction moves one block into it) -/
theorem walk_rows_spec (row : Nat → α → Row) (xs : List α) (h : ∀ x ∈ xs, ∀ k, RowFits k (blk x) (row k x)) (A : Bytes) :
    ((walk blk row A.length xs).map (absRow (A ++ (xs.map blk).flatten))).map (·.raw) = xs.map blk ∧
      ∀ r ∈ walk blk row A.length xs, RowWF (A ++ (xs.map blk).flatten).length r := by
  induction xs generalizing A with
  | nil => exact ⟨rfl, nofun⟩
  | cons x xs ih =>
    obtain ⟨h1, h2, h3, h4, h5⟩ := h x List.mem_cons_self A.length
    obtain ⟨i1, i2⟩ := ih (fun y hy => h y (List.mem_cons_of_mem _ hy)) (A ++ blk x)
    have e : A ++ ((x :: xs).map blk).flatten = A ++ blk x ++ (xs.map blk).flatten := (List.append_assoc ..).symm
    have hs := slice_append_mid A (blk x) (xs.map blk).flatten 0 (blk x).length (Nat.le_of_eq (Nat.zero_add _))
    rw [List.length_append] at i1 i2
    rw [Nat.add_zero] at hs
    rw [e]
    refine ⟨?_, fun r hr => ?_⟩
    · simp only [walk, List.map_cons, i1, absRow, h1, h2, Nat.add_sub_cancel_left, hs, slice_zero_all]
    · rcases List.mem_cons.mp hr with rfl | hr
      · exact ⟨by rw [h1, h2]; exact Nat.le_add_right _ _,
          by rw [h2, List.length_append, List.length_append]; exact Nat.le_add_right _ _,
          h3, by rw [h1]; exact h4, by rw [h2]; exact h5⟩
      · exact i2 r hr

/-- an extractor whose data is the blocks of `xs` one after another and whose `i`-th row is `row k x` for the `i`-th block `x`
and its offset `k`, each lying on its block, satisfies the invariant, and its records are the blocks -/
theorem inv_of_walk (row : Nat → α → Row) (xs : List α) (e : Ext) (hl : LenWF e) (hd : e.data = (xs.map blk).flatten)
    (hr : e.rows = walk blk row 0 xs) (h : ∀ x ∈ xs, ∀ k, RowFits k (blk x) (row k x)) :
    Inv e ∧ e.abs.map (·.raw) = xs.map blk := by
  obtain ⟨s1, s2⟩ := walk_rows_spec blk row xs h []
  simp only [List.length_nil, List.nil_append, ← hr, ← hd] at s1 s2
  exact ⟨⟨⟨hl, s2⟩, fun _ => by rw [specBytes, show e.abs = e.rows.map (absRow e.data) from rfl, s1, hd]⟩, s1⟩

end

/-- pass-through end to end for any construction `mk` of an extractor from a source table `t` whose records are the byte
blocks `src t`: every program writes the selected source blocks in the selected order, or fails as it does on lists -/
theorem passthrough_map {α} (mk : α → Ext) (src : α → List Bytes) (tables : List α)
    (h : ∀ t ∈ tables, Inv (mk t) ∧ (mk t).abs.map (·.raw) = src t) (p : Prog) :
    (p.evalExt (tables.map mk)).map Ext.bytes = (p.evalSpec (tables.map src)).map List.flatten := by
  have hI : ∀ e ∈ tables.map mk, Inv e := List.forall_mem_map.mpr (fun t ht => (h t ht).1)
  have hs : tables.map src = ((tables.map mk).map Ext.abs).map (·.map (·.raw)) := by
    rw [List.map_map, List.map_map]
    exact List.map_congr_left (fun t ht => (h t ht).2.symm)
  rw [program_bytes _ hI p, hs, evalSpec_map]
  cases p.evalSpec ((tables.map mk).map Ext.abs) with
  | none => rfl
  | some recs => simp [specBytes]

end C04
