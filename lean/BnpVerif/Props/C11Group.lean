import BnpVerif.Model.C11
/-! C11, group-by over a chunked stream: `runs` (the specification) through its step `push` and `runs_induction`; joining
the per-chunk groups gives the runs of the whole (`join_runs`, no hypothesis); one chunk by change-point slicing or by
the first = last shortcut, which is right exactly when such a chunk has one key (`FastOK`, `groupby_fast_iff`). -/
-- some lemmas of the group-by section do not use its `[DecidableEq κ]`
set_option linter.unusedSectionVars false
namespace C11
open Base

section groupby
variable {α κ : Type} [DecidableEq κ]

/-- the step of `runs` -/
def push (k : κ) (a : α) : List (κ × List α) → List (κ × List α)
  | (k', g) :: r => if k = k' then (k', a :: g) :: r else (k, [a]) :: (k', g) :: r
  | [] => [(k, [a])]

theorem runs_cons (key : α → κ) (a : α) (l : List α) : runs key (a :: l) = push (key a) a (runs key l) := rfl

theorem push_cases (k : κ) (a : α) (R : List (κ × List α)) :
    (push k a R = (k, [a]) :: R ∧ ∀ k' g r, R = (k', g) :: r → k ≠ k') ∨
      ∃ g r, R = (k, g) :: r ∧ push k a R = (k, a :: g) :: r := by
  match R with
  | [] => exact .inl ⟨rfl, nofun⟩
  | (k', g) :: r =>
    by_cases h : k = k'
    · subst h; exact .inr ⟨g, r, rfl, if_pos rfl⟩
    · exact .inl ⟨if_neg h, fun _ _ _ e => by cases e; exact h⟩

theorem runs_head (key : α → κ) (b : α) (t : List α) : ∃ g r, runs key (b :: t) = (key b, g) :: r := by
  rcases push_cases (key b) b (runs key t) with ⟨e, _⟩ | ⟨g, r, _, e⟩
  · exact ⟨_, _, e⟩
  · exact ⟨_, _, e⟩

theorem runs_induction (key : α → κ) {motive : List α → List (κ × List α) → Prop} (nil : motive [] [])
    (new : ∀ a l R, motive l R → (∀ k' g r, R = (k', g) :: r → key a ≠ k') → motive (a :: l) ((key a, [a]) :: R))
    (join : ∀ a l g r, motive l ((key a, g) :: r) → motive (a :: l) ((key a, a :: g) :: r)) :
    ∀ l, motive l (runs key l) := by
  intro l
  induction l with
  | nil => exact nil
  | cons a l ih =>
    rw [runs_cons]
    rcases push_cases (key a) a (runs key l) with ⟨e, h⟩ | ⟨g, r, hR, e⟩ <;> rw [e]
    · exact new a l _ ih h
    · exact join a l g r (hR ▸ ih)

theorem runs_group_key (key : α → κ) (l : List α) : ∀ p ∈ runs key l, ∀ x ∈ p.2, key x = p.1 :=
  runs_induction key (motive := fun _ R => ∀ p ∈ R, ∀ x ∈ p.2, key x = p.1) nofun
    (fun _ _ _ ih _ => List.forall_mem_cons.2 ⟨fun x hx => by rw [List.mem_singleton.mp hx], ih⟩)
    (fun _ _ _ _ ih => have ⟨h1, h2⟩ := List.forall_mem_cons.1 ih
      List.forall_mem_cons.2 ⟨List.forall_mem_cons.2 ⟨rfl, h1⟩, h2⟩) l

/-- neighbours differ -/
def AdjNe : List κ → Prop
  | a :: b :: r => a ≠ b ∧ AdjNe (b :: r)
  | _ => True

/-- the runs are maximal -/
theorem runs_adjacent_ne (key : α → κ) (l : List α) : AdjNe ((runs key l).map (·.1)) :=
  runs_induction key (motive := fun _ R => AdjNe (R.map Prod.fst)) trivial
    (fun a _ R ih h => by
      cases R with
      | nil => trivial
      | cons p r => exact ⟨h p.1 p.2 r rfl, ih⟩)
    (fun _ _ _ _ ih => ih) l

theorem runs_flatten (key : α → κ) (l : List α) : ((runs key l).map (·.2)).flatten = l :=
  runs_induction key (motive := fun l R => (R.map (·.2)).flatten = l) rfl
    (fun _ _ _ ih _ => congrArg (_ :: ·) ih) (fun _ _ _ _ ih => congrArg (_ :: ·) ih) l

/-- joining moves no entry to another key: groups that carry their entries' key after joining did so before -/
theorem group_key_of_joinGroups (key : α → κ) (L : List (κ × List α))
    (h : ∀ p ∈ joinGroups L, ∀ x ∈ p.2, key x = p.1) : ∀ p ∈ L, ∀ x ∈ p.2, key x = p.1 := by
  induction L with
  | nil => nofun
  | cons p L ih =>
    obtain ⟨k, g⟩ := p
    rw [joinGroups] at h
    cases hJ : joinGroups L with
    | nil =>
      rw [hJ] at h
      exact List.forall_mem_cons.2 ⟨h _ List.mem_cons_self, ih (hJ ▸ nofun)⟩
    | cons q r =>
      obtain ⟨k', g'⟩ := q
      rw [hJ] at h ih
      dsimp only at h
      by_cases hk : k = k'
      · subst hk
        rw [if_pos rfl, List.forall_mem_cons] at h
        exact List.forall_mem_cons.2 ⟨fun x hx => h.1 x (List.mem_append_left _ hx),
          ih (List.forall_mem_cons.2 ⟨fun x hx => h.1 x (List.mem_append_right _ hx), h.2⟩)⟩
      · rw [if_neg hk, List.forall_mem_cons] at h
        exact List.forall_mem_cons.2 ⟨h.1, ih h.2⟩

theorem joinGroups_push (k : κ) (a : α) (R L : List (κ × List α)) :
    joinGroups (push k a R ++ L) = push k a (joinGroups (R ++ L)) := by
  have h1 : ∀ Z, joinGroups ((k, [a]) :: Z) = push k a (joinGroups Z) := fun Z => by
    rw [joinGroups]
    split
    · next k' g' r h => rw [h]; by_cases hk : k = k' <;> simp [push, hk]
    · next h => rw [h]; rfl
  rcases push_cases k a R with ⟨e, _⟩ | ⟨g, r, rfl, e⟩ <;> rw [e]
  · exact h1 _
  · simp only [List.cons_append, joinGroups]
    split
    · next k' g' r' h => by_cases hk : k = k' <;> simp [push, hk]
    · simp [push]

/-- no hypothesis on the keys -/
theorem join_runs (key : α → κ) (cs : List (List α)) :
    joinGroups ((cs.map (runs key)).flatten) = runs key cs.flatten := by
  induction cs with
  | nil => rfl
  | cons c cs ih =>
    rw [List.map_cons, List.flatten_cons, List.flatten_cons]
    induction c with
    | nil => exact ih
    | cons a c ihc => rw [runs_cons, joinGroups_push, ihc]; rfl

/-! ### one chunk: change-point slicing and the first = last shortcut -/

theorem sliceGroups_single [Inhabited α] (key : α → κ) (c : List α) (s : Nat) : sliceGroups key c [s] = [] := rfl

theorem sliceGroups_cons2 [Inhabited α] (key : α → κ) (c : List α) (s e : Nat) (B : List Nat) :
    sliceGroups key c (s :: e :: B) = (key c[s]!, (c.drop s).take (e - s)) :: sliceGroups key c (e :: B) := rfl

theorem sliceGroups_shift [Inhabited α] (key : α → κ) (a : α) (c : List α) (B : List Nat) :
    sliceGroups key (a :: c) (B.map (· + 1)) = sliceGroups key c B := by
  induction B with
  | nil => rfl
  | cons s B ih =>
    cases B with
    | nil => rfl
    | cons e B =>
      rw [List.map_cons, List.map_cons, sliceGroups_cons2, show sliceGroups key (a :: c) (_ :: B.map _) = _ from ih,
        sliceGroups_cons2, List.getElem!_cons_succ, List.drop_succ_cons, Nat.add_sub_add_right]

theorem sliceGroups_zero_shift [Inhabited α] (key : α → κ) (a : α) (c : List α) (e : Nat) (B : List Nat) :
    sliceGroups key (a :: c) (0 :: (e :: B).map (· + 1)) = (key a, a :: c.take e) :: sliceGroups key c (e :: B) := by
  rw [← sliceGroups_shift key a c (e :: B)]; rfl

theorem changePoints_cons2 (a b : κ) (r : List κ) :
    changePoints (a :: b :: r) = (if a ≠ b then [1] else []) ++ (changePoints (b :: r)).map (· + 1) := by
  rw [changePoints]; split <;> rfl

theorem changePoints_pos (ks : List κ) : ∀ e ∈ changePoints ks, 1 ≤ e := by
  match ks with
  | [] => nofun
  | [_] => nofun
  | a :: b :: rest =>
    rw [changePoints_cons2]
    intro e he
    rcases List.mem_append.mp he with he | he
    · split at he
      · exact Nat.le_of_eq (List.mem_singleton.mp he).symm
      · nomatch he
    · obtain ⟨x, _, rfl⟩ := List.mem_map.mp he
      exact Nat.le_add_left 1 x

theorem sliceGroups_eq_runs [Inhabited α] (key : α → κ) (c : List α) (hc : c ≠ []) :
    sliceGroups key c (0 :: changePoints (c.map key) ++ [c.length]) = runs key c := by
  induction c with
  | nil => exact absurd rfl hc
  | cons a c ih =>
    cases c with
    | nil => rfl
    | cons b t =>
      have ih := ih (List.cons_ne_nil b t)
      obtain ⟨g, r, hr⟩ := runs_head key b t
      rw [runs_cons, hr, List.cons_append]
      rw [hr, List.cons_append] at ih
      -- the bounds after 0: a 1 if the first two keys differ, then the tail's bounds shifted
      have hb : changePoints ((a :: b :: t).map key) ++ [(a :: b :: t).length] = (if key a ≠ key b then [1] else []) ++
          (changePoints ((b :: t).map key) ++ [(b :: t).length]).map (· + 1) := by
        rw [List.map_cons, List.map_cons, changePoints_cons2, List.append_assoc, List.map_append]; rfl
      rw [hb]
      by_cases hk : key a = key b
      · rw [if_neg (not_not_intro hk), List.nil_append, push, if_pos hk]
        cases hE : changePoints ((b :: t).map key) ++ [(b :: t).length] with
        | nil => simp at hE
        | cons e E =>
          rw [hE, sliceGroups_cons2] at ih
          rw [sliceGroups_zero_shift]
          obtain ⟨h1, h2⟩ := List.cons.inj ih
          rw [h2, ← (Prod.mk.inj h1).2, hk]; rfl
      · rw [if_pos hk, push, if_neg hk, ← ih]
        exact sliceGroups_zero_shift key a (b :: t) 0 _

theorem runs_const (key : α → κ) (k : κ) (c : List α) (hc : c ≠ []) (h : ∀ x ∈ c, key x = k) :
    runs key c = [(k, c)] := by
  induction c with
  | nil => exact absurd rfl hc
  | cons a t ih =>
    have ha := h a List.mem_cons_self
    cases t with
    | nil => rw [← ha]; rfl
    | cons b t =>
      rw [runs_cons, ih (List.cons_ne_nil b t) fun x hx => h x (List.mem_cons_of_mem _ hx), push, if_pos ha]

/-- what the first = last shortcut needs of one chunk -/
def FastOK (key : α → κ) (c : List α) : Prop :=
  (c.map key).head? = (c.map key).getLast? → ∀ x ∈ c, ∀ y ∈ c, key x = key y

theorem groupbyChunk_eq_runs [Inhabited α] (fast : Bool) (key : α → κ) (c : List α)
    (h : fast = true → FastOK key c) : groupbyChunk fast key c = some (runs key c) := by
  cases c with
  | nil => rfl
  | cons a t =>
    simp only [groupbyChunk]
    split
    · next hf =>
      rw [Bool.and_eq_true, decide_eq_true_eq] at hf
      rw [runs_const key (key a) (a :: t) (List.cons_ne_nil a t) fun x hx => h hf.1 hf.2 x hx a List.mem_cons_self]
      rfl
    · rw [sliceGroups_eq_runs key (a :: t) (List.cons_ne_nil a t)]

theorem groupbyStream_eq_runs [Inhabited α] (fast : Bool) (key : α → κ) (cs : List (List α))
    (h : fast = true → ∀ c ∈ cs, FastOK key c) : groupbyStream fast key cs = some (runs key cs.flatten) := by
  have h1 : omap (groupbyChunk fast key) cs = some (cs.map (runs key)) :=
    omap_some_map _ _ _ fun c hc => groupbyChunk_eq_runs fast key c fun hf => h hf c hc
  simp only [groupbyStream, h1, join_runs]

theorem contig_fastOK (key : α → κ) (c : List α) (hc : Contig (c.map key)) : FastOK key c := by
  have hall : ∀ ks : List κ, Contig ks → ks.head? = ks.getLast? → ∀ y ∈ ks, some y = ks.head? := by
    intro ks hc hl y hy
    cases ks with
    | nil => nomatch hy
    | cons a t =>
      rcases List.eq_nil_or_concat t with rfl | ⟨mid, z, rfl⟩
      · rw [List.mem_singleton.mp hy]; rfl
      · rw [List.concat_eq_append] at hc hl hy
        have hz : a = z := by
          rw [← List.cons_append, List.getLast?_concat] at hl
          exact Option.some.inj hl
        subst hz
        rcases List.mem_cons.mp hy with rfl | hy
        · rfl
        · rcases List.mem_append.mp hy with hy | hy
          · obtain ⟨q, r, rfl⟩ := List.append_of_mem hy
            rw [hc [] q (r ++ [a]) a y (by simp) (by simp)]; rfl
          · rw [List.mem_singleton.mp hy]; rfl
  intro hl x hx y hy
  have hx := hall _ hc hl _ (List.mem_map_of_mem hx)
  rw [← hall _ hc hl _ (List.mem_map_of_mem hy)] at hx
  exact Option.some.inj hx

theorem contig_chunk (key : α → κ) (cs : List (List α)) (h : Contig (cs.flatten.map key))
    (c : List α) (hc : c ∈ cs) : Contig (c.map key) := by
  obtain ⟨L, R, rfl⟩ := List.append_of_mem hc
  intro p q r x y hm hx
  exact h (L.flatten.map key ++ p) q (r ++ R.flatten.map key) x y (by simp [hm]) (List.mem_append_left _ hx)

/-- **group-by on a sorted key**: for every chunking (chunks of one entry, cuts inside a group, …) with contiguous equal
keys, grouping each chunk and joining equal consecutive keys gives the runs of the whole data -/
theorem groupby_chunks [Inhabited α] (fast : Bool) (key : α → κ) (data : List α) (cs : List (List α))
    (hcs : IsChunking data cs) (hcon : Contig (data.map key)) :
    groupbyStream fast key cs = some (runs key data) := by
  cases (hcs : cs.flatten = data)
  exact groupbyStream_eq_runs fast key cs fun _ c hc => contig_fastOK key c (contig_chunk key cs hcon c hc)

/-- without the shortcut (string / integer key columns) no hypothesis on the keys is needed -/
theorem groupby_chunks_any_keys [Inhabited α] (key : α → κ) (data : List α) (cs : List (List α))
    (hcs : IsChunking data cs) : groupbyStream false key cs = some (runs key data) := by
  cases (hcs : cs.flatten = data)
  exact groupbyStream_eq_runs false key cs nofun

theorem groupby_chunking_independent {α κ : Type} [DecidableEq κ] [Inhabited α] (fast : Bool) (key : α → κ)
    (cs cs' : List (List α)) (h : cs.flatten = cs'.flatten) (hcon : Contig (cs.flatten.map key)) :
    groupbyStream fast key cs = groupbyStream fast key cs' := by
  rw [groupby_chunks fast key cs.flatten cs rfl hcon, groupby_chunks fast key cs.flatten cs' h.symm hcon]

/-- the shortcut needs contiguous keys: on 1,2,1 in one chunk it returns a single group -/
theorem groupby_fast_needs_contig :
    groupbyStream true (fun x : Nat => x) [[1, 2, 1]] ≠ some (runs (fun x : Nat => x) [1, 2, 1]) := by decide +kernel

/-- `G`: the groups as a function of the chunk (`groupbyChunk` never fails), the form `omap_some_map` wants -/
theorem groupbyChunk_group_key [Inhabited α] (key : α → κ) :
    ∃ G : List α → List (κ × List α), ∀ c, groupbyChunk true key c = some (G c) ∧
      ((∀ p ∈ G c, ∀ x ∈ p.2, key x = p.1) → FastOK key c) := by
  refine ⟨fun c => (groupbyChunk true key c).getD [], fun c => ?_⟩
  cases c with
  | nil => exact ⟨rfl, fun _ _ => nofun⟩
  | cons a t =>
    simp only [groupbyChunk]
    split
    · exact ⟨rfl, fun he _ x hx y hy =>
        (he _ List.mem_cons_self x hx).trans (he _ List.mem_cons_self y hy).symm⟩
    · next hnf => exact ⟨rfl, fun _ hf => absurd hf (by simpa using hnf)⟩

/-- **completeness of group-by with the shortcut**: contiguous keys are sufficient; what is necessary is that every chunk
whose first and last key agree has one key only -/
theorem groupby_fast_iff [Inhabited α] (key : α → κ) (cs : List (List α)) :
    groupbyStream true key cs = some (runs key cs.flatten) ↔ ∀ c ∈ cs, FastOK key c := by
  refine ⟨fun h c hc => ?_, fun h => groupbyStream_eq_runs true key cs fun _ => h⟩
  -- in `runs` every group carries its entries' key; so did the per-chunk groups before joining
  obtain ⟨G, hG⟩ := groupbyChunk_group_key key
  rw [groupbyStream, omap_some_map _ G cs fun c _ => (hG c).1] at h
  have hq := runs_group_key key cs.flatten
  rw [← Option.some.inj h] at hq
  exact (hG c).2 fun p hp => group_key_of_joinGroups key _ hq p
    (List.mem_flatten.mpr ⟨G c, List.mem_map_of_mem hc, hp⟩)

example : FastOK (fun x : Nat => x) [1, 1, 2] := by intro h; simp at h
example : ¬ FastOK (fun x : Nat => x) [1, 2, 1] := by
  intro h
  have := h (by simp) 1 (by simp) 2 (by simp)
  simp at this

end groupby

theorem sorted_contig (ks : List Nat) (h : ks.Pairwise (· ≤ ·)) : Contig ks := by
  intro p q r x y hk hx
  subst hk
  rw [List.pairwise_append] at h
  obtain ⟨_, h2, h3⟩ := h
  exact Nat.le_antisymm ((List.pairwise_cons.mp h2).1 x hx) (h3 x (by simp) y (by simp))

example : IsChunking [1, 2, 3] [[1], [], [2, 3]] := rfl
example : Contig [1, 1, 2, 5, 5] := sorted_contig _ (by decide)
example : groupbyStream true (fun x : Nat × Nat => x.1) [[(1, 0), (1, 1)], [(1, 2), (2, 3)], [(3, 4)]]
    = some [(1, [(1, 0), (1, 1), (1, 2)]), (2, [(2, 3)]), (3, [(3, 4)])] := by decide +kernel

/-- the shipped `groupby` raised on an empty table in the stream; the repaired one (5241510) yields no groups, and
e.g. the stream `[[1], [], [1, 2], []]` groups like the concatenated data -/
theorem groupbyChunkOld_unsound :
    groupbyChunkOld false (fun x : Nat => x) [] = none ∧ groupbyChunk false (fun x : Nat => x) [] = some [] ∧
    groupbyStream true (fun x : Nat => x) [[1], [], [1, 2], []] = some [(1, [1, 1]), (2, [2])] := by decide +kernel

end C11
