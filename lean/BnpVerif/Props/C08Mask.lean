import BnpVerif.Props.C08Core
import BnpVerif.Props.C09
/-! C08 — `get_boolean_mask` and what is computed from masks (contingency table, Jaccard, Forbes, `unique_intersect`).
The mask is laid out by `from_intervals`, whose correctness is C09's: hence after `Props/C09`. -/
namespace C08
open Base.Rle

/-- C09's dense specification for intervals that all carry `v` -/
theorem valueAt_const {V : Type} (v d : V) (K : List Iv) (p : Nat) :
    C09.valueAt d (K.map fun iv => (iv.1, iv.2, v)) p = if covered K p then v else d := by
  induction K with
  | nil => rfl
  | cons x K ih =>
    rw [List.map_cons, C09.valueAt_cons, ih]
    by_cases h : x.1 ≤ p ∧ p < x.2
    · rw [if_pos h, if_pos ((covered_cons x K p).2 (.inl h))]
    · rw [if_neg h, show covered (x :: K) p = covered K p from
        Bool.eq_iff_iff.2 ((covered_cons x K p).trans (or_iff_right h))]

/-- `from_intervals` with a scalar value on separated intervals, through the array branch -/
theorem fromIntervals_sep {V : Type} (v d : V) (K : List Iv) (size : Nat) (hsep : Sep K) (hle : ∀ iv ∈ K, iv.2 ≤ size)
    (hsz : 0 < size) :
    (fromIntervals (K.map (·.1)) (K.map (·.2)) size v d).WF ∧
    (fromIntervals (K.map (·.1)) (K.map (·.2)) size v d).toDense = (List.range size).map fun p => if covered K p then v else d := by
  have hrecs := C09.fromIntervalsArr_eq d (K.map fun iv => (iv.1, iv.2, v)) size (fun _ => hsz) (List.pairwise_map.2 hsep.1)
  simp only [List.map_map, Function.comp_def, List.map_const'] at hrecs
  rw [C09.fromIntervals_eq_arr _ _ (by rw [List.length_map, List.length_map]), List.length_map, hrecs]
  refine (C09.ofPairs_fill d _ size ⟨List.pairwise_map.2 (hsep.1.imp Nat.le_of_lt), fun r hr => ?_⟩ fun r hr => ?_).imp_right
    fun h => h.trans (List.map_congr_left fun p _ => valueAt_const v d K p)
  all_goals obtain ⟨iv, hiv, rfl⟩ := List.mem_map.1 hr
  · exact hsep.2 iv hiv
  · exact hle iv hiv

/-- `get_boolean_mask`: the array the code builds is well formed and expands to `cov > 0` at every base, for every
multiset of intervals inside the contig (any order, nested, duplicated, touching, empty) -/
theorem mask_dense (I : List Iv) (size : Nat) (hsz : 0 < size) (hI : ∀ iv ∈ I, iv.1 ≤ iv.2 ∧ iv.2 ≤ size) :
    (mask I size).WF ∧ maskDense I size = specMask I size := by
  have hperm := isort_perm startLe I
  have hsorted : SortedByStart (isort startLe I) := isort_sorted_key (α := Iv) (·.1) I
  -- written as a function of the kept runs, so that `generalize` below meets them once
  have hmask : mask I size = (fun K : List Iv => fromIntervals (K.map (·.1)) (K.map (·.2)) size true false)
      ((mergeVec 0 (isort startLe I)).filter (fun iv => iv.1 != iv.2)) := rfl
  generalize isort startLe I = J at hperm hsorted hmask
  have hJ : ∀ iv ∈ J, iv.1 ≤ iv.2 ∧ iv.2 ≤ size := fun iv hiv => hI iv (hperm.mem_iff.1 hiv)
  have hsep : Sep ((mergeVec 0 J).filter (fun iv => iv.1 != iv.2)) := by
    refine ⟨(merge_separated 0 J hsorted).filter _, fun iv hiv => ?_⟩
    have := merge_width 0 0 J (fun iv hiv => (hJ iv hiv).1) iv (List.mem_filter.1 hiv).1
    have : iv.1 ≠ iv.2 := by simpa using (List.mem_filter.1 hiv).2
    omega
  have hle : ∀ iv ∈ (mergeVec 0 J).filter (fun iv => iv.1 != iv.2), iv.2 ≤ size := fun iv hiv =>
    (merge_all (fun _ => True) (· ≤ size) 0 J (fun b hb => ⟨trivial, (hJ b hb).2⟩) iv (List.mem_filter.1 hiv).1).2
  obtain ⟨hwf, hd⟩ := fromIntervals_sep true false _ size hsep hle hsz
  refine ⟨hmask ▸ hwf, ?_⟩
  rw [maskDense, hmask, ← C09.toArrayBool, C09.toArray_dense_bool _ hwf, hd, specMask]
  refine List.map_congr_left fun p _ => ?_
  -- `cov_filter_nonempty` and `cov_perm` speak of `cov`, `merge0_covered` of `covered`: `decide_cov_pos` goes between them
  rw [show (if covered _ p = true then true else false) = covered _ p from Bool.decide_eq_true,
    ← decide_cov_pos, cov_filter_nonempty _ fun iv h => Nat.le_of_eq (Eq.symm (by simpa using h)), decide_cov_pos,
    merge0_covered J hsorted, ← decide_cov_pos, cov_perm hperm]

-- as in `Props/C08Core`: the hypotheses of `mask_dense` can be met
example : (0 : Nat) < 20 ∧ ∀ iv ∈ [((3 : Nat), (8 : Nat)), (5, 7), (10, 12), (0, 0), (12, 20)], iv.1 ≤ iv.2 ∧ iv.2 ≤ 20 := by decide

example : maskDense [(3, 8), (5, 7), (0, 0), (0, 1)] 9 = [true, false, false, true, true, true, true, true, false] := by decide

theorem mask_perm {I J : List Iv} (h : I.Perm J) (size : Nat) (hsz : 0 < size) (hI : ∀ iv ∈ I, iv.1 ≤ iv.2 ∧ iv.2 ≤ size) :
    maskDense I size = maskDense J size := by
  rw [(mask_dense I size hsz hI).2, (mask_dense J size hsz (fun iv hiv => hI iv (h.mem_iff.2 hiv))).2]
  exact List.map_congr_left fun p _ => by rw [cov_perm h p]

theorem countBoth_map (f g : Nat → Bool) (l : List Nat) (bx bY : Bool) :
    countBoth (l.map f) (l.map g) bx bY = l.countP (fun p => f p == bx && g p == bY) := by
  simp only [countBoth, List.zip_map', List.countP_map]
  rfl

/-- the Jaccard/Forbes contingency table is the table of per-base counts -/
theorem contingency_spec (A B : List Iv) (size : Nat) (hsz : 0 < size)
    (hA : ∀ iv ∈ A, iv.1 ≤ iv.2 ∧ iv.2 ≤ size) (hB : ∀ iv ∈ B, iv.1 ≤ iv.2 ∧ iv.2 ≤ size) :
    contingency A B size = specContingency A B size := by
  simp only [contingency, specContingency, (mask_dense A size hsz hA).2, (mask_dense B size hsz hB).2, specMask,
    countBoth_map]

/-- Jaccard / Forbes over several contigs: the same IEEE quotient of the same counts -/
theorem jaccard_forbes_spec (cs : List Contig2)
    (h : ∀ c ∈ cs, 0 < c.1 ∧ (∀ iv ∈ c.2.1, iv.1 ≤ iv.2 ∧ iv.2 ≤ c.1) ∧ (∀ iv ∈ c.2.2, iv.1 ≤ iv.2 ∧ iv.2 ≤ c.1)) :
    jaccard cs = specJaccard cs ∧ forbes cs = specForbes cs := by
  have key : ∀ c ∈ cs, contingency c.2.1 c.2.2 c.1 = specContingency c.2.1 c.2.2 c.1 := fun c hc =>
    contingency_spec _ _ _ (h c hc).1 (h c hc).2.1 (h c hc).2.2
  have : contingencyGenome cs = specContingencyGenome cs :=
    congrArg (List.foldl add4 (0, 0, 0, 0)) (List.map_congr_left key)
  exact ⟨congrArg jaccardF this, congrArg forbesF this⟩

example : ∀ c ∈ [((5 : Nat), [((0 : Nat), (3 : Nat))], [((2 : Nat), (5 : Nat))]), (3, [], [(1, 2)])],
    0 < c.1 ∧ (∀ iv ∈ c.2.1, iv.1 ≤ iv.2 ∧ iv.2 ≤ c.1) ∧ (∀ iv ∈ c.2.2, iv.1 ≤ iv.2 ∧ iv.2 ≤ c.1) := by decide

theorem any_drop_take_map (f : Nat → Bool) (size s e : Nat) (he : e ≤ size) :
    ((((List.range size).map f).drop s).take (e - s)).any id =
      (List.range e).any (fun p => decide (s ≤ p) && f p) := by
  rw [← List.map_drop, ← List.map_take, List.range_eq_range', List.drop_range',
    List.take_range'_of_length_ge (by omega), List.any_map, Bool.eq_iff_iff]
  simp only [List.any_eq_true, List.mem_range'_1, List.mem_range, Function.comp, id, Bool.and_eq_true,
    decide_eq_true_eq, Nat.zero_add, Nat.mul_one]
  exact ⟨fun ⟨p, ⟨h1, h2⟩, h3⟩ => ⟨p, by omega, h1, h3⟩, fun ⟨p, h1, h2, h3⟩ => ⟨p, ⟨h2, by omega⟩, h3⟩⟩

/-- `unique_intersect` keeps exactly the entries of `A` that contain a base covered by `B` -/
theorem uniqueIntersect_spec (A B : List Iv) (size : Nat) (hsz : 0 < size)
    (hA : ∀ iv ∈ A, iv.2 ≤ size) (hB : ∀ iv ∈ B, iv.1 ≤ iv.2 ∧ iv.2 ≤ size) :
    uniqueIntersect A B size = specUniqueIntersect A B := by
  simp only [uniqueIntersect, specUniqueIntersect, (mask_dense B size hsz hB).2, specMask]
  exact List.filter_congr fun iv hiv => any_drop_take_map _ size iv.1 iv.2 (hA iv hiv)

end C08
