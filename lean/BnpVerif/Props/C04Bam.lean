import BnpVerif.Props.C04Walk
/-! C04 — the BAM construction (`BamBuffer._find_starts` + `from_raw_buffer`) for ALL record lists:
a decompressed BAM body is a sequence of `block_size`-prefixed records. -/
namespace C04

/-- little-endian 32-bit encoding of the block size -/
def enc32 (n : Nat) : Bytes := [n % 256, n / 256 % 256, n / 65536 % 256, n / 16777216 % 256]

/-- one BAM record: `block_size` then the body -/
def bamBlock (body : Bytes) : Bytes := enc32 body.length ++ body
def dumpBam (bodies : List Bytes) : Bytes := (bodies.map bamBlock).flatten

theorem byteAt_append_right (A B : Bytes) (i : Nat) : byteAt (A ++ B) (A.length + i) = byteAt B i := by
  unfold byteAt
  simp [List.getD_eq_getElem?_getD, List.getElem?_append_right]

theorem le32_enc (A B : Bytes) (n : Nat) (hn : n < 4294967296) : le32 (A ++ (enc32 n ++ B)) A.length = n := by
  have h0 : byteAt (A ++ (enc32 n ++ B)) A.length = byteAt (enc32 n ++ B) 0 := byteAt_append_right A _ 0
  rw [le32, h0, byteAt_append_right, byteAt_append_right, byteAt_append_right]
  simp only [enc32, byteAt, List.cons_append, List.getD_cons_zero, List.getD_cons_succ]
  -- three division steps by 256; the fourth digit is the quotient itself
  have h3 : n / 16777216 % 256 = n / 16777216 := Nat.mod_eq_of_lt (Nat.div_lt_of_lt_mul hn)
  have a := Nat.mod_add_div n 256
  have b := Nat.mod_add_div (n / 256) 256
  have c := Nat.mod_add_div (n / 65536) 256
  rw [Nat.div_div_eq_div_mul] at b c
  omega

theorem bamBlock_length (b : Bytes) : (bamBlock b).length = b.length + 4 := by
  simp [bamBlock, enc32]

theorem dumpBam_cons (b : Bytes) (bs : List Bytes) : dumpBam (b :: bs) = bamBlock b ++ dumpBam bs := rfl

/-- `_find_starts` on a dumped body finds the start of every record, then the end of the body -/
theorem bamStarts_dump (bodies : List Bytes) (hb : ∀ b ∈ bodies, b.length < 4294967296) :
    ∀ (A : Bytes) (fuel : Nat), (dumpBam bodies).length < fuel →
      bamStarts (A ++ dumpBam bodies) fuel A.length =
        walk bamBlock (fun k _ => k) A.length bodies ++ [A.length + (dumpBam bodies).length] := by
  induction bodies with
  | nil =>
    intro A fuel hf
    cases fuel with
    | zero => exact absurd hf (Nat.not_lt_zero _)
    | succ f =>
      rw [show dumpBam [] = [] from rfl, List.append_nil, bamStarts, if_pos (Nat.le_refl _), if_neg (by omega)]
      rfl
  | cons b bs ih =>
    intro A fuel hf
    cases fuel with
    | zero => exact absurd hf (Nat.not_lt_zero _)
    | succ f =>
      have hlen : (dumpBam (b :: bs)).length = b.length + 4 + (dumpBam bs).length := by
        rw [dumpBam_cons, List.length_append, bamBlock_length]
      have := ih (fun x hx => hb x (List.mem_cons_of_mem _ hx)) (A ++ bamBlock b) f (by rw [hlen] at hf; omega)
      rw [List.length_append, bamBlock_length, List.append_assoc, ← dumpBam_cons, ← Nat.add_assoc] at this
      have hle : le32 (A ++ dumpBam (b :: bs)) A.length = b.length := by
        rw [dumpBam_cons, bamBlock, List.append_assoc]; exact le32_enc A _ _ (hb b List.mem_cons_self)
      rw [bamStarts, if_pos (by rw [List.length_append]; omega), if_pos (by rw [List.length_append, hlen]; omega), hle, this,
        walk, List.cons_append, bamBlock_length, hlen]
      simp only [Nat.add_assoc]

/-- **C04.build_bam_records** — for every list of BAM record bodies (each shorter than 2^32 bytes) the extractor
`BamBuffer.from_raw_buffer` constructs (`_find_starts` following the block sizes) satisfies the invariant and its records
are exactly the `block_size`-prefixed records, in order -/
theorem build_bam_records (bodies : List Bytes) (hb : ∀ b ∈ bodies, b.length < 4294967296) :
    Inv (buildBam (dumpBam bodies)) ∧ (buildBam (dumpBam bodies)).abs.map (·.raw) = bodies.map bamBlock := by
  have hst : bamStarts (dumpBam bodies) ((dumpBam bodies).length + 1) 0 =
      walk bamBlock (fun k _ => k) 0 bodies ++ [0 + (dumpBam bodies).length] :=
    bamStarts_dump bodies hb [] _ (Nat.lt_succ_self _)
  have he : buildBam (dumpBam bodies) = Ext.mk (dumpBam bodies) (walk bamBlock (fun _ _ => []) 0 bodies)
      (walk bamBlock (fun _ _ => []) 0 bodies) (walk bamBlock (fun k _ => k) 0 bodies)
      (walk bamBlock (fun k b => k + (bamBlock b).length) 0 bodies) true := by
    have hse : _ ++ [0 + (dumpBam bodies).length] = _ := starts_ends bamBlock bodies 0
    simp only [buildBam, hst]
    rw [List.getLastD_concat, List.dropLast_concat, hse, List.drop_succ_cons, List.drop_zero, walk_map, Nat.zero_add,
      List.take_length]
  rw [he]
  exact inv_of_walk bamBlock _ bodies _ (lenWF_walk ..) rfl (rows_walk ..) (fun b _ k => ⟨rfl, rfl, rfl, nofun, nofun⟩)

/-- **C04.passthrough_bam** — end to end for BAM: every program writes the selected records' original bytes -/
theorem passthrough_bam (tables : List (List Bytes)) (hb : ∀ t ∈ tables, ∀ b ∈ t, b.length < 4294967296) (p : Prog) :
    (p.evalExt (tables.map (fun t => buildBam (dumpBam t)))).map Ext.bytes =
      (p.evalSpec (tables.map (·.map bamBlock))).map List.flatten :=
  passthrough_map (fun t => buildBam (dumpBam t)) (·.map bamBlock) tables (fun t ht => build_bam_records t (hb t ht)) p

/-! three records, the second with an empty body: every record is four bytes longer than its body -/
example : (buildBam (dumpBam [[1, 2, 3], [], [7]])).eStart = [0, 7, 11] ∧ (buildBam (dumpBam [[1, 2, 3], [], [7]])).eEnd = [7, 11, 16] := by decide +kernel

end C04
