import BnpVerif.Model.C12
import BnpVerif.Gen.C12
/-! C12: the synchronising generators (`iter_chromosomes`, `SynchedStream`, `left_join`) are the specification `specSync`.
The specification is read as one pass along the order (`merge`, equal to it for a duplicate-free order). Each generator keeps a
relation "this state has still to serve the contigs `ord` from the groups `K`" in step with that pass (`Tracks`), and so does
the one-item look-ahead around it (`Tracks.wrapped`). What a pull-all consumer gets, and what a consumer gets that stops after
the last contig of the wrapped generator, is proved once for every such generator. -/
namespace C12

/-- **C12.gen_flags** — obligations regenerated from the running code on every run: `chromosome_order`
covers every included name, and both synchronising generators look one item ahead. -/
theorem gen_flags : Gen.C12.orderSkipsUnderscore = false ∧ Gen.C12.iterLookahead = true ∧ Gen.C12.syncLookahead = true := by
  decide +kernel

-- `C11.join_runs` (Props/C11Group) is the fact of this block for C11's model of `groupby` and `join_groupbys` (any key function).
theorem joinOne_singleton (e : Name × Nat) (Z : List Group) :
    joinOne { name := e.1, items := [e.2] } Z = consEntry e Z := by
  cases Z with
  | nil => rfl
  | cons h t => simp [joinOne, consEntry]

theorem foldr_joinOne_consEntry (e : Name × Nat) (X Z : List Group) :
    (consEntry e Z).foldr joinOne X = consEntry e (Z.foldr joinOne X) := by
  cases Z with
  | nil => exact joinOne_singleton e X
  | cons g t =>
    simp only [consEntry, List.foldr_cons]
    by_cases hg : g.name = e.1
    · rw [if_pos hg, List.foldr_cons]
      cases List.foldr joinOne X t with
      | nil => simp [joinOne, hg]
      | cons h t' => by_cases hh : h.name = e.1 <;> simp [joinOne, hg, hh]
    · rw [if_neg hg, List.foldr_cons, List.foldr_cons]
      exact joinOne_singleton e _

theorem foldr_join_chunk (a : List (Name × Nat)) (X : List Group) :
    (chunkGroups a).foldr joinOne X = a.foldr consEntry X := by
  induction a with
  | nil => rfl
  | cons e a ih => rw [List.foldr_cons, ← ih, ← foldr_joinOne_consEntry]; rfl

/-- **C12.groups_chunking** — for every chunking of the entries, grouping each chunk and joining equal consecutive keys across
the chunk borders gives the runs of equal contig name of the whole entry list. -/
theorem groups_chunking (chunks : List (List (Name × Nat))) :
    groupsOfChunks chunks = chunkGroups chunks.flatten := by
  unfold groupsOfChunks
  induction chunks with
  | nil => rfl
  | cons c rest ih =>
    simp only [List.map_cons, List.flatten_cons, joinGroups, List.foldr_append]
    rw [foldr_join_chunk]
    simp only [joinGroups] at ih
    rw [ih, chunkGroups, chunkGroups, List.foldr_append]

/-- empty chunks, also strictly inside a contig's run -/
example : groupsOfChunks [[], [(1, 0)], [], [(1, 1), (2, 2)], [], [(2, 3)], []] = [⟨1, [0, 1]⟩, ⟨2, [2, 3]⟩] := by decide +kernel

/-- **C12.sync_chunking_independent** — two chunkings of the same entries (any cut positions, empty chunks anywhere)
give the same groups, hence every consumer's result is the same. -/
theorem sync_chunking_independent (c₁ c₂ : List (List (Name × Nat))) (h : c₁.flatten = c₂.flatten) :
    groupsOfChunks c₁ = groupsOfChunks c₂ := by
  rw [groups_chunking, groups_chunking, h]

/-- the hypothesis of `sync_chunking_independent` for two chunkings, one with an empty chunk -/
example : ([[(1, 0)], [], [(1, 1), (2, 2)]] : List (List (Name × Nat))).flatten = [[(1, 0), (1, 1)], [(2, 2)]].flatten := by decide +kernel

/-- **C12.ragged_change_iff** — on a `str`-typed key column the change-point detection of `groupby` marks a
boundary between two adjacent rows exactly when the two names differ — also when one name is a proper
prefix of the other (`chr1` followed by `chr10`) and whatever follows in the chunk; without the comparison
of the row lengths a name would swallow a following name that extends it (witness). -/
theorem ragged_change_iff (a b after : List Nat) :
    (raggedChange true a b after = true ↔ a ≠ b) ∧
    raggedChange false [99, 104, 114, 49] [99, 104, 114, 49, 48] [99, 104, 114, 50] = false := by
  refine ⟨?_, by decide +kernel⟩
  have hwin : ∀ j d (h : j < b.length), (b ++ after).getD j d = b[j] := fun j d h => by
    rw [List.getD_eq_getElem?_getD, List.getElem?_append_left h, List.getElem?_eq_getElem h]; rfl
  -- no change is marked iff the lengths agree and so does every position of `a`, which then lies inside `b`
  rw [← Bool.not_eq_false]
  refine not_congr ?_
  simp only [raggedChange, Bool.true_and, Bool.or_eq_false_iff, bne_eq_false_iff_eq, List.any_eq_false, List.mem_range,
    Bool.not_eq_true]
  constructor
  · rintro ⟨hl, h⟩
    refine List.ext_getElem hl fun j h1 h2 => ?_
    rw [← hwin j _ h2, ← h j h1, List.getD_eq_getElem?_getD, List.getElem?_eq_getElem h1]; rfl
  · rintro rfl
    exact ⟨rfl, fun j hj => by rw [hwin j _ hj, List.getD_eq_getElem?_getD, List.getElem?_eq_getElem hj]; rfl⟩

/-- **C12.compatible_iff_sublist** — the specification's "the contigs of the data come in an order compatible with the
genome" is pinned by a standard notion: the data's contig names form a `List.Sublist` of the genome order. -/
theorem compatible_iff_sublist (l ord : List Name) : compatible l ord = true ↔ l.Sublist ord := by
  induction ord generalizing l with
  | nil => cases l <;> simp [compatible]
  | cons b ord ih =>
    cases l with
    | nil => simp [compatible]
    | cons a l =>
      simp only [compatible]
      by_cases hab : a = b
      · rw [if_pos hab, ih, hab, List.cons_sublist_cons]
      · rw [if_neg hab, ih]
        constructor
        · exact .cons b
        · intro h
          cases h with
          | cons _ h' => exact h'
          | cons_cons _ h' => exact absurd rfl hab

/-- what `pullAll` does with the result of its first pull, as a function of that result, so that `pullAll_succ` is an equation
without a `match` -/
def cont {σ : Type} (pull : σ → Step σ) (fuel : Nat) : Step σ → Option (List Item)
  | .error => none
  | .done => some []
  | .yield x s' => (pullAll pull fuel s').map (x :: ·)

theorem pullAll_succ {σ : Type} (pull : σ → Step σ) (f : Nat) (s : σ) :
    pullAll pull (f + 1) s = cont pull f (pull s) := by
  rw [pullAll]
  cases pull s <;> rfl

theorem takeN_succ_eq_some {σ : Type} {pull : σ → Step σ} {n : Nat} {s s₁ : σ} {xs : List Item} :
    takeN pull (n + 1) s = some (xs, s₁) ↔
      ∃ x s' xs', pull s = .yield x s' ∧ takeN pull n s' = some (xs', s₁) ∧ xs = x :: xs' := by
  rw [takeN]
  cases pull s with
  | yield x s' =>
    simp only [Option.map_eq_some_iff, Prod.exists, Prod.mk.injEq, Step.yield.injEq]
    constructor
    · rintro ⟨xs', t, h, rfl, rfl⟩; exact ⟨x, s', xs', ⟨rfl, rfl⟩, h, rfl⟩
    · rintro ⟨_, _, xs', ⟨rfl, rfl⟩, h, rfl⟩; exact ⟨xs', s₁, h, rfl, rfl⟩
  | done => simp
  | error => simp

theorem takeN_zero_eq_some {σ : Type} {pull : σ → Step σ} {s s₁ : σ} {xs : List Item} :
    takeN pull 0 s = some (xs, s₁) ↔ xs = [] ∧ s₁ = s :=
  ⟨fun h => by cases h; exact ⟨rfl, rfl⟩, fun ⟨h1, h2⟩ => by rw [h1, h2]; rfl⟩

theorem lookPull_fresh {σ : Type} {pull : σ → Step σ} {s s₁ : σ} {x : Item} (h : pull s = .yield x s₁) :
    lookPull pull (s, .fresh) = lookPull pull (s₁, .holding x) := by
  simp only [lookPull, h]

theorem pullAll_look_holding {σ : Type} (pull : σ → Step σ) (n : Nat) : ∀ (s : σ) (y : Item),
    pullAll (lookPull pull) (n + 1) (s, .holding y) = (pullAll pull n s).map (y :: ·) := by
  induction n with
  | zero => intro s y; simp only [pullAll, lookPull]; cases pull s <;> rfl
  | succ n ih =>
    intro s y
    rw [pullAll_succ, pullAll_succ]
    simp only [lookPull]
    cases pull s with
    | error => rfl
    | done => rfl
    | yield z s₂ => simp only [cont, ih s₂ z]

/-- **C12.look_transparent** — for a pull-all consumer the one-item look-ahead of the repair changes nothing, for any generator
and any fuel (the wrapper only moves errors earlier for consumers that stop early). -/
theorem look_transparent {σ : Type} (pull : σ → Step σ) (n : Nat) (s : σ) :
    pullAll (lookPull pull) n (s, .fresh) = pullAll pull n s := by
  cases n with
  | zero => rfl
  | succ n =>
    rw [pullAll_succ pull, pullAll_succ]
    cases hp : pull s with
    | error => simp only [lookPull, hp]; rfl
    | done => simp only [lookPull, hp]; rfl
    | yield x s₁ => rw [lookPull_fresh hp, ← pullAll_succ, pullAll_look_holding]; rfl

section
variable {σ τ : Type} {emb : σ → τ} {p : σ → Step σ} {q : τ → Step τ}

def Step.map (f : σ → τ) : Step σ → Step τ
  | .yield x s => .yield x (f s)
  | .done => .done
  | .error => .error

/-- the arguments of `zip` are generators embedded in `M` -/
def Embeds (emb : σ → τ) (p : σ → Step σ) (q : τ → Step τ) : Prop :=
  ∀ s, q (emb s) = (p s).map emb

theorem Embeds.pullAll_eq (h : Embeds emb p q) (n : Nat) : ∀ s, pullAll q n (emb s) = pullAll p n s := by
  induction n with
  | zero => intro s; rfl
  | succ n ih =>
    intro s
    rw [pullAll_succ, pullAll_succ, h s]
    cases p s with
    | yield x s' => simp only [Step.map, cont, ih s']
    | done => rfl
    | error => rfl

theorem Embeds.pullUpTo_eq (h : Embeds emb p q) (k : Nat) : ∀ s, pullUpTo q k (emb s) = pullUpTo p k s := by
  induction k with
  | zero => intro s; rfl
  | succ k ih =>
    intro s
    simp only [pullUpTo, h s]
    cases p s with
    | yield x s' => simp only [Step.map, ih s']
    | done => rfl
    | error => rfl

theorem Embeds.takeN_eq (h : Embeds emb p q) (n : Nat) :
    ∀ s, takeN q n (emb s) = (takeN p n s).map fun r => (r.1, emb r.2) := by
  induction n with
  | zero => intro s; rfl
  | succ n ih =>
    intro s
    simp only [takeN, h s]
    cases p s with
    | yield x s' => simp only [Step.map, ih s', Option.map_map]; rfl
    | done => rfl
    | error => rfl

end

theorem embeds_lookIter : Embeds (fun p : IterSt × Hold => M.lookIter p.1 p.2) (lookPull IterSt.pull) M.pull := by
  intro s; rw [M.pull]; cases lookPull IterSt.pull (s.1, s.2) <;> rfl

theorem embeds_lookSync : Embeds (fun p : SyncSt × Hold => M.lookSync p.1 p.2) (lookPull SyncSt.pull) M.pull := by
  intro s; rw [M.pull]; cases lookPull SyncSt.pull (s.1, s.2) <;> rfl

/-- the groups the generator does not skip -/
def kept (I : List Name) (src : List Group) : List Group := src.filter (fun g => !I.contains g.name)

/-- `specSync` on an already filtered group list: `specSync order ignored gs` is `spec' order (kept ignored gs)` by `rfl`
(`specSync_eq`), and facts about `spec'` are used for it without a rewriting step -/
def spec' (ord : List Name) (l : List Group) : Option (List Item) :=
  if compatible (l.map (·.name)) ord then some (ord.map (itemsOf l)) else none

theorem specSync_eq (order ignored : List Name) (gs : List Group) :
    specSync order ignored gs = spec' order (kept ignored gs) := rfl

theorem compatible_mem (l ord : List Name) (h : compatible l ord = true) : ∀ a ∈ l, a ∈ ord :=
  fun _ ha => ((compatible_iff_sublist l ord).mp h).subset ha

theorem compatible_nil (ord : List Name) : compatible [] ord = true := by
  cases ord <;> rfl

theorem spec'_eq_some {ord : List Name} {K : List Group} {out : List Item} (h : spec' ord K = some out) :
    compatible (K.map (·.name)) ord = true ∧ out = ord.map (itemsOf K) := by
  unfold spec' at h
  split at h
  · exact ⟨‹_›, (Option.some.inj h).symm⟩
  · cases h

theorem kept_cons (I : List Name) (g : Group) (r : List Group) :
    kept I (g :: r) = if I.contains g.name then kept I r else g :: kept I r := by
  simp only [kept, List.filter_cons]
  cases I.contains g.name <;> rfl

theorem mem_kept {I : List Name} {gs : List Group} {g : Group} : g ∈ kept I gs ↔ g ∈ gs ∧ g.name ∉ I := by
  simp [kept]

theorem kept_nil_ignored (gs : List Group) : kept [] gs = gs := by
  simp [kept]

theorem itemsOf_cons_eq (g : Group) (l : List Group) (n : Name) (h : g.name = n) : itemsOf (g :: l) n = g.items := by
  simp [itemsOf, h]

theorem itemsOf_cons_ne (g : Group) (l : List Group) (n : Name) (h : g.name ≠ n) : itemsOf (g :: l) n = itemsOf l n := by
  simp [itemsOf, h]

theorem itemsOf_not_mem (l : List Group) (n : Name) (h : ∀ g ∈ l, g.name ≠ n) : itemsOf l n = [] := by
  induction l with
  | nil => rfl
  | cons g l ih =>
    rw [itemsOf_cons_ne g l n (h g (List.mem_cons_self ..))]
    exact ih (fun x hx => h x (List.mem_cons_of_mem _ hx))

/-- The specification as one pass along the order: a group is handed out at the contig of its name, a contig that the first
group left does not name gets the empty table, and a group left at the end is an error. For a duplicate-free order this is
`spec'` (`merge_eq_spec'`). -/
def merge : List Name → List Group → Option (List Item)
  | [], [] => some []
  | [], _ :: _ => none
  | _ :: rest, [] => (merge rest []).map ([] :: ·)
  | n :: rest, g :: K => if g.name = n then (merge rest K).map (g.items :: ·) else (merge rest (g :: K)).map ([] :: ·)

theorem merge_skip {n : Name} {K : List Group} (rest : List Name) (h : ∀ g, K.head? = some g → g.name ≠ n) :
    merge (n :: rest) K = (merge rest K).map ([] :: ·) := by
  cases K with
  | nil => rfl
  | cons g K => rw [merge, if_neg (h g rfl)]

/-- a group that no contig still to come names is never handed out -/
theorem merge_eq_none {ord : List Name} {g : Group} (K : List Group) (h : g.name ∉ ord) : merge ord (g :: K) = none := by
  induction ord with
  | nil => rfl
  | cons n rest ih =>
    rw [merge, if_neg fun (e : g.name = n) => h (e ▸ List.mem_cons_self), ih fun m => h (List.mem_cons_of_mem _ m)]
    rfl

theorem merge_eq_spec' (ord : List Name) : ∀ K, ord.Nodup → merge ord K = spec' ord K := by
  induction ord with
  | nil => intro K _; cases K <;> rfl
  | cons n rest ih =>
    intro K hnd
    obtain ⟨hn, hr⟩ := List.nodup_cons.mp hnd
    by_cases hK : ∀ g, K.head? = some g → g.name ≠ n
    · -- `n` gets the empty table: the names in `K`, if compatible, are among `rest`, and `n` is not
      have hcomp : compatible (K.map (·.name)) (n :: rest) = compatible (K.map (·.name)) rest := by
        cases K with
        | nil => rw [List.map_nil, compatible_nil, compatible_nil]
        | cons g K => simp [compatible, hK g rfl]
      rw [merge_skip rest hK, ih K hr]
      simp only [spec', hcomp]
      split
      · rename_i hc
        rw [Option.map_some, List.map_cons]
        congr 2
        exact (itemsOf_not_mem K n fun g hg h => hn (h ▸ compatible_mem _ _ hc g.name (List.mem_map_of_mem hg))).symm
      · rfl
    · -- `n` gets the first group, which no later contig reads: `n ∉ rest`
      cases K with
      | nil => exact absurd nofun hK
      | cons g K =>
        have hg : g.name = n := Decidable.by_contra fun h => hK fun _ e => Option.some.inj e ▸ h
        rw [merge, if_pos hg, ih K hr]
        simp only [spec', List.map_cons, compatible, hg, if_true]
        split
        · rw [Option.map_some, itemsOf_cons_eq g K n hg]
          congr 2
          exact (List.map_congr_left fun m hm => itemsOf_cons_ne g K m (by rw [hg]; intro h; exact hn (h ▸ hm))).symm
        · rfl

section
variable {σ : Type} {pull : σ → Step σ} {R : σ → List Name → List Group → Prop}

/-- One pull from a state that has still to serve the contigs `ord` from the groups `K`, in step with `merge`: an error only
where it gives none, the end only when nothing is left, a `yield` of what it puts first into a state that has the rest to
serve (`R`). The two ways to yield are `InStep.serve` and `InStep.skip`. -/
def InStep (R : σ → List Name → List Group → Prop) (ord : List Name) (K : List Group) : Step σ → Prop
  | .error => merge ord K = none
  | .done => ord = [] ∧ K = []
  | .yield x s' => ∃ n rest K', ord = n :: rest ∧ R s' rest K' ∧ merge ord K = (merge rest K').map (x :: ·)

theorem InStep.serve {g : Group} {n : Name} {rest : List Name} {K : List Group} {s' : σ} (hg : g.name = n) (h : R s' rest K) :
    InStep R (n :: rest) (g :: K) (.yield g.items s') :=
  ⟨n, rest, K, rfl, h, by rw [merge, if_pos hg]⟩

theorem InStep.skip {n : Name} {rest : List Name} {K : List Group} {s' : σ} (hK : ∀ g, K.head? = some g → g.name ≠ n)
    (h : R s' rest K) : InStep R (n :: rest) K (.yield [] s') :=
  ⟨n, rest, K, rfl, h, merge_skip rest hK⟩

/-- `R s ord K`: the state `s` has still to serve the contigs `ord` from the groups `K`; every pull from such a state is in step
with `merge` and leads to such a state. -/
def Tracks (pull : σ → Step σ) (R : σ → List Name → List Group → Prop) : Prop :=
  ∀ s ord K, R s ord K → InStep R ord K (pull s)

theorem Tracks.pullAll_eq_merge (h : Tracks pull R) (fuel : Nat) :
    ∀ s ord K, R s ord K → ord.length + 1 ≤ fuel → pullAll pull fuel s = merge ord K := by
  induction fuel with
  | zero => intro s ord K _ hf; cases hf
  | succ f ih =>
    intro s ord K hR hf
    have hs := h s ord K hR
    rw [pullAll_succ]
    cases hp : pull s with
    | error => rw [hp] at hs; exact hs.symm
    | done => rw [hp] at hs; rw [hs.1, hs.2]; rfl
    | yield x s' =>
      rw [hp] at hs
      obtain ⟨n, rest, K', rfl, hR', hs⟩ := hs
      rw [hs, cont, ih s' rest K' hR' (Nat.le_of_succ_le_succ hf)]

/-- The look-ahead wrapper around a tracking generator has the same contigs to serve from the same groups: an item in hand is a
`yield` of the inner generator that the wrapper has still to make, `last` is its `done`. A fresh wrapper has not pulled yet: with
no contig to serve it would pass for finished before the generator's last check has run, hence `ord ≠ []`. -/
def Look (R : σ → List Name → List Group → Prop) : σ × Hold → List Name → List Group → Prop
  | (s, .fresh), ord, K => R s ord K ∧ ord ≠ []
  | (s, .holding y), ord, K => InStep R ord K (.yield y s)
  | (_, .last), ord, K => InStep R ord K .done

theorem Tracks.wrapped (h : Tracks pull R) : Tracks (lookPull pull) (Look R) := by
  have holding : ∀ s y ord K, InStep R ord K (.yield y s) → InStep (Look R) ord K (lookPull pull (s, .holding y)) := by
    rintro s y _ K ⟨n, rest, K', rfl, hR, hm⟩
    have hs := h s rest K' hR
    simp only [lookPull]
    cases hp : pull s <;> rw [hp] at hs
    case yield => exact ⟨n, rest, K', rfl, hs, hm⟩
    case done => exact ⟨n, rest, K', rfl, hs, hm⟩
    case error =>
      -- raised one item early
      show merge _ _ = none
      rw [hm, hs]; rfl
  rintro ⟨s, hold⟩ ord K hL
  cases hold with
  | holding y => exact holding s y ord K hL
  | last => exact hL
  | fresh =>
    have hs := h s ord K hL.1
    cases hp : pull s <;> rw [hp] at hs
    case yield => rw [lookPull_fresh hp]; exact holding _ _ ord K hs
    case done => simp only [lookPull, hp]; exact hs
    case error => simp only [lookPull, hp]; exact hs

/-- after one item per contig nothing of the order is left -/
theorem Tracks.takeN_merge (h : Tracks pull R) (ord : List Name) : ∀ s K xs s', R s ord K →
    takeN pull ord.length s = some (xs, s') → ∃ K', R s' [] K' ∧ merge ord K = (merge [] K').map (xs ++ ·) := by
  induction ord with
  | nil =>
    intro s K xs s' hR ht
    obtain ⟨rfl, rfl⟩ := takeN_zero_eq_some.mp ht
    exact ⟨K, hR, by cases merge [] K <;> rfl⟩
  | cons n rest ih =>
    intro s K xs s' hR ht
    obtain ⟨x, s₁, xs', hp, ht', rfl⟩ := takeN_succ_eq_some.mp ht
    have hs := h s _ K hR
    rw [hp] at hs
    obtain ⟨_, _, K₁, h0, hR', hs⟩ := hs
    cases h0
    obtain ⟨K', hR'', hm⟩ := ih s₁ K₁ xs' s' hR' ht'
    exact ⟨K', hR'', by rw [hs, hm, Option.map_map]; rfl⟩

/-- A consumer that has one item per contig from the wrapper leaves it with nothing to serve, which is its state `last`: the
generator has ended with no group left. -/
theorem Tracks.look (h : Tracks pull R) {s : σ} {ord : List Name} {K : List Group} (hR : R s ord K) (hpos : 0 < ord.length)
    {xs : List Item} {st : σ × Hold} (ht : takeN (lookPull pull) ord.length (s, .fresh) = some (xs, st)) :
    lookPull pull st = .done ∧ merge ord K = some xs := by
  obtain ⟨K', hL, hm⟩ := h.wrapped.takeN_merge ord (s, .fresh) K xs st ⟨hR, List.ne_nil_of_length_pos hpos⟩ ht
  obtain ⟨s', hold⟩ := st
  cases hold with
  | fresh => exact absurd rfl hL.2
  | holding y => obtain ⟨_, _, _, h0, _⟩ := hL; cases h0
  | last => rw [hm, hL.2]; exact ⟨rfl, congrArg some (List.append_nil xs)⟩

end

/-- the duplicate-free list `all` of the contigs, split into those a generator has served and those it has still to serve -/
def Served (all done ord : List Name) : Prop := all = done ++ ord ∧ all.Nodup

namespace Served
variable {all done ord rest : List Name} {n m : Name}

theorem step (h : Served all done (n :: rest)) : Served all (done ++ [n]) rest :=
  ⟨by rw [h.1, List.append_assoc]; rfl, h.2⟩

theorem disjoint (h : Served all done ord) (hm : m ∈ done) : m ∉ ord :=
  fun ho => (List.nodup_append.mp (h.1 ▸ h.2)).2.2 m hm m ho rfl

theorem mem_ord (h : Served all done ord) (hm : m ∈ all) (hd : m ∉ done) : m ∈ ord :=
  (List.mem_append.mp (h.1 ▸ hm)).resolve_left hd

theorem not_mem_ord (h : Served all done ord) (hm : m ∉ all) : m ∉ ord :=
  fun ho => hm (h.1 ▸ List.mem_append_right _ ho)

end Served

/-- fetching the next group: a group that cannot be served any more (unknown, or its contig has been served) is an error of
the specification; otherwise its contig is still to come -/
theorem nextIncluded_served {all done ord : List Name} (h : Served all done ord) (I : List Name) (src : List Group) :
    match nextIncluded all I src with
    | none => merge ord (kept I src) = none
    | some (nx, r) => kept I src = nx.toList ++ kept I r ∧ (nx = none → kept I r = []) ∧
        ∀ g, nx = some g → (g.name ∈ done → merge ord (kept I src) = none) ∧ (g.name ∉ done → g.name ∈ ord) := by
  induction src with
  | nil => exact ⟨rfl, fun _ => rfl, nofun⟩
  | cons g r ih =>
    rw [nextIncluded, kept_cons]
    by_cases hi : I.contains g.name = true
    · rw [if_pos hi, if_pos hi]; exact ih
    · rw [if_neg hi, if_neg hi]
      by_cases ho : all.contains g.name = true
      · rw [if_pos ho]
        exact ⟨rfl, nofun, fun _ e => Option.some.inj e ▸
          ⟨fun hd => merge_eq_none _ (h.disjoint hd), h.mem_ord (by simpa using ho)⟩⟩
      · rw [if_neg ho]; exact merge_eq_none _ (h.not_mem_ord (by simpa using ho))

theorem nextIncluded_of_kept_nil (all I : List Name) (src : List Group) (h : kept I src = []) :
    nextIncluded all I src = some (none, []) := by
  induction src with
  | nil => rfl
  | cons g r ih =>
    rw [kept_cons] at h
    split at h
    · rw [nextIncluded, if_pos ‹_›]; exact ih h
    · cases h

/-- At the top of `for name in real_order`, with `ord` still to serve from the groups `K` (the one in hand, then the source) -/
def IterSt.AtTop (t : IterSt) (ord : List Name) (K : List Group) : Prop :=
  t.order = ord ∧ Served t.included t.seen ord ∧ K = t.next.toList ++ kept t.ignored t.src ∧
    (∀ g, t.next = some g → g.name ∈ ord) ∧ (t.next = none → kept t.ignored t.src = [])

/-- the next pull raises, where the specification demands it, or arrives at the top of the loop -/
def IterSt.Pending (s : IterSt) (ord : List Name) (K : List Group) : Prop :=
  (s.pull = .error ∧ merge ord K = none) ∨ ∃ t : IterSt, s.pull = t.serve ∧ t.AtTop ord K

/-- suspended at `yield next_group` for the contig `name` -/
theorem afterGroup_pending (s : IterSt) (name : Name) (rest : List Name) (hp : s.phase = .afterGroup name)
    (ho : s.order = rest) (hsv : Served s.included s.seen (name :: rest)) : s.Pending rest (kept s.ignored s.src) := by
  have h := nextIncluded_served hsv.step s.ignored s.src
  cases hni : nextIncluded s.included s.ignored s.src with
  | none => rw [hni] at h; exact Or.inl ⟨by simp only [IterSt.pull, hp, hni], h⟩
  | some p =>
    obtain ⟨nx, src'⟩ := p
    rw [hni] at h
    obtain ⟨hk, hnil, hg⟩ := h
    simp only [IterSt.Pending, IterSt.pull, hp, hni]
    cases nx with
    | none => exact Or.inr ⟨_, rfl, ho, hsv.step, hk, nofun, hnil⟩
    | some g =>
      -- the generator's test `next_name in seen or next_name == name`
      by_cases hs : g.name ∈ s.seen ++ [name]
      · rw [if_pos (by simpa using hs)]
        exact Or.inl ⟨rfl, (hg g rfl).1 hs⟩
      · rw [if_neg (by simpa using hs)]
        exact Or.inr ⟨_, rfl, ho, hsv.step, hk, fun _ e => Option.some.inj e ▸ (hg g rfl).2 hs, nofun⟩

theorem serve_inStep (t : IterSt) (ord : List Name) (K : List Group) (h : t.AtTop ord K) :
    InStep IterSt.Pending ord K t.serve := by
  obtain ⟨ho, hsv, rfl, hnx, hnone⟩ := h
  cases ord with
  | nil =>
    cases hn : t.next with
    | some g => cases hnx g hn
    | none =>
      simp [IterSt.serve, ho, nextIncluded_of_kept_nil _ _ _ (hnone hn), hnone hn, InStep]
  | cons name rest =>
    cases hn : t.next with
    | none =>
      simp only [IterSt.serve, ho, hn, hnone hn]
      exact .skip nofun (Or.inr ⟨_, rfl, rfl, hsv.step, (hnone hn).symm, nofun, fun _ => hnone hn⟩)
    | some g =>
      simp only [IterSt.serve, ho, hn]
      by_cases hg : g.name = name
      · rw [if_pos hg]
        exact .serve hg (afterGroup_pending _ name rest rfl rfl hsv)
      · rw [if_neg hg]
        exact .skip (fun _ h => Option.some.inj h ▸ hg) (Or.inr ⟨_, rfl, rfl, hsv.step, rfl,
          fun _ h => Option.some.inj h ▸ (List.mem_cons.mp (hnx g hn)).resolve_left hg, nofun⟩)

theorem iter_tracks : Tracks IterSt.pull IterSt.Pending := by
  rintro s ord K (⟨he, hn⟩ | ⟨t, ht, hat⟩)
  · rw [he]; exact hn
  · rw [ht]; exact serve_inStep t ord K hat

/-- `included := order`: `chromosome_order` covers every included name (`gen_flags`; otherwise `underscore_unsound`) -/
theorem init_pending (order ignored : List Name) (gs : List Group) (hord : order.Nodup) :
    (IterSt.init order order ignored gs).Pending order (kept ignored gs) := by
  have hsv : Served order [] order := ⟨rfl, hord⟩
  have h := nextIncluded_served hsv ignored gs
  simp only [IterSt.Pending, IterSt.pull, IterSt.init]
  cases hni : nextIncluded order ignored gs with
  | none => rw [hni] at h; exact Or.inl ⟨rfl, h⟩
  | some p =>
    rw [hni] at h
    exact Or.inr ⟨_, rfl, rfl, hsv, h.1, fun g e => (h.2.2 g e).2 List.not_mem_nil, h.2.1⟩

theorem names_covered {order ignored : List Name} {gs : List Group} {out : List Item}
    (h : specSync order ignored gs = some out) : ∀ g ∈ gs, g.name ∈ order ∨ g.name ∈ ignored := by
  intro g hg
  by_cases hi : g.name ∈ ignored
  · exact Or.inr hi
  · exact Or.inl (compatible_mem _ _ (spec'_eq_some h).1 g.name (List.mem_map_of_mem (mem_kept.mpr ⟨hg, hi⟩)))

/-- **C12.sync_complete** — for every duplicate-free genome order, ignored set and sequence of groups (a name may even
repeat: after repair f720bbc an error like any other incompatible order), pull-all evaluation of `iter_chromosomes` (a `for`
loop, `list(...)`, `compute` of one stream) is exactly the specification: it completes iff every non-ignored group name is in
the order and the names occur in an order compatible with it, and then output `i` is the group named `order[i]` or the empty
table; otherwise an error is raised. -/
theorem sync_complete (order ignored : List Name) (gs : List Group) (fuel : Nat)
    (hord : order.Nodup) (hf : order.length + 2 ≤ fuel) :
    pullAll IterSt.pull fuel (IterSt.init order order ignored gs) = specSync order ignored gs ∧
    (∀ out, specSync order ignored gs = some out →
      out = order.map (itemsOf (kept ignored gs)) ∧
      ∀ g ∈ gs, g.name ∈ order ∨ g.name ∈ ignored) :=
  ⟨(iter_tracks.pullAll_eq_merge fuel _ _ _ (init_pending order ignored gs hord) (Nat.le_of_succ_le hf)).trans
      (merge_eq_spec' order _ hord),
    fun _ hout => ⟨(spec'_eq_some hout).2, names_covered hout⟩⟩

/-- the hypothesis `order.Nodup` on a concrete order -/
example : [0, 1, 2].Nodup := by decide +kernel

/-- **C12.sync_complete_any_consumer** — with the one-item look-ahead of the repair, any consumer that obtains all `|order|`
items from `iter_chromosomes`, whether or not it ever pulls again (`zip` next to other streams, the computation graph, a plain
loop), has obtained exactly the specification's per-contig tables: nothing is dropped or re-assigned silently by cutting the
evaluation short. -/
theorem sync_complete_any_consumer (order ignored : List Name) (gs : List Group)
    (hord : order.Nodup) (hpos : 0 < order.length)
    (xs : List Item) (st : IterSt × Hold)
    (h : takeN (lookPull IterSt.pull) order.length (IterSt.init order order ignored gs, .fresh) = some (xs, st)) :
    specSync order ignored gs = some xs :=
  (merge_eq_spec' order _ hord).symm.trans (iter_tracks.look (init_pending order ignored gs hord) hpos h).2

example : (takeN (lookPull IterSt.pull) 2 (IterSt.init [0, 1] [0, 1] [] [⟨1, [2]⟩], .fresh)).map (·.1) = some [[], [2]] := by
  decide +kernel

/-- **C12.sync_complete_look** — what actually runs (`checked_to_the_end(iter_chromosomes)`, and the driver's `M.lookIter`):
pull-all evaluation equals the specification. -/
theorem sync_complete_look (order ignored : List Name) (gs : List Group) (fuel : Nat)
    (hord : order.Nodup) (hf : order.length + 2 ≤ fuel) :
    pullAll (lookPull IterSt.pull) fuel (IterSt.init order order ignored gs, .fresh) = specSync order ignored gs ∧
    pullAll M.pull fuel (.lookIter (IterSt.init order order ignored gs) .fresh) = specSync order ignored gs := by
  have h := (sync_complete order ignored gs fuel hord hf).1
  exact ⟨by rw [look_transparent, h], by rw [embeds_lookIter.pullAll_eq _ (_, _), look_transparent, h]⟩

/-- A `SynchedStream` with `ord` still to serve holds the groups `K`: the one being placed, then, until the `for` loop over the
groups has ended, the source. -/
def SyncSt.Pending (s : SyncSt) (ord : List Name) (K : List Group) : Prop :=
  s.rest = ord ∧ K = s.cur.toList ++ (if s.tail then [] else s.src) ∧ (∀ g, s.cur = some g → g.name ∈ ord) ∧
    (s.tail = false → Served s.order s.seen ord)

theorem place_inStep (t : SyncSt) (g : Group) (ord : List Name) (hr : t.rest = ord) (hg : g.name ∈ ord)
    (ho : t.tail = false → Served t.order t.seen ord) :
    InStep SyncSt.Pending ord (g :: if t.tail then [] else t.src) (t.place g) := by
  cases ord with
  | nil => cases hg
  | cons n rest =>
    simp only [SyncSt.place, hr]
    by_cases hgn : g.name = n
    · rw [if_neg (show ¬ g.name ≠ n from (· hgn))]
      exact .serve hgn ⟨rfl, rfl, nofun, fun h => (ho h).step⟩
    · rw [if_pos (show g.name ≠ n from hgn)]
      exact .skip (fun _ h => Option.some.inj h ▸ hgn)
        ⟨rfl, rfl, fun _ h => Option.some.inj h ▸ (List.mem_cons.mp hg).resolve_left hgn, fun h => (ho h).step⟩

theorem sync_tracks : Tracks SyncSt.pull SyncSt.Pending := by
  rintro s ord K ⟨hr, rfl, hcur, ho⟩
  unfold SyncSt.pull
  cases hc : s.cur with
  | some g => exact place_inStep s g ord hr (hcur g hc) ho
  | none =>
    -- no group left: the model's branches `tail` and `src = []`, which differ only in the `src` of the next state
    have hempty : ∀ src, InStep SyncSt.Pending ord [] (match s.rest with
        | _ :: r => .yield [] { order := s.order, rest := r, seen := s.seen, src := src, cur := none, tail := true }
        | [] => .done) := by
      intro src
      rw [hr]
      cases ord with
      | nil => exact ⟨rfl, rfl⟩
      | cons n rest => exact .skip nofun ⟨rfl, rfl, nofun, nofun⟩
    cases ht : s.tail with
    | true => exact hempty _
    | false =>
      cases hsrc : s.src with
      | nil => exact hempty _
      | cons g r =>
        simp only [Bool.false_eq_true, if_false, Option.toList, List.nil_append]
        by_cases hseen : g.name ∈ s.seen
        · rw [if_pos (by simpa using hseen)]
          exact merge_eq_none r ((ho ht).disjoint hseen)
        · rw [if_neg (by simpa using hseen)]
          by_cases hin : g.name ∈ s.order
          · rw [if_neg (by simpa using hin)]
            exact place_inStep _ g ord hr ((ho ht).mem_ord hin hseen) fun _ => ho ht
          · rw [if_pos (by simpa using hin)]
            exact merge_eq_none r ((ho ht).not_mem_ord hin)

theorem syncInit_pending (order : List Name) (gs : List Group) (hord : order.Nodup) :
    (SyncSt.init order gs).Pending order (kept [] gs) :=
  ⟨rfl, kept_nil_ignored gs, nofun, fun _ => ⟨rfl, hord⟩⟩

/-- **C12.synched_complete** — pull-all evaluation of `SynchedStream` (a `MultiStream` attribute) over any duplicate-free
contig order is exactly the specification (a repeated group name is an incompatible order). -/
theorem synched_complete (order : List Name) (gs : List Group) (fuel : Nat) (hord : order.Nodup)
    (hf : order.length + 1 ≤ fuel) :
    pullAll SyncSt.pull fuel (SyncSt.init order gs) = specSync order [] gs :=
  (sync_tracks.pullAll_eq_merge fuel _ _ _ (syncInit_pending order gs hord) hf).trans (merge_eq_spec' order _ hord)

/-- **C12.synched_complete_any_consumer** — the same for a `SynchedStream` (the `zip` inside `streamable`, hence `forbes` and
`jaccard`, for every operand position). -/
theorem synched_complete_any_consumer (order : List Name) (gs : List Group) (hord : order.Nodup)
    (hpos : 0 < order.length) (xs : List Item) (st : SyncSt × Hold)
    (h : takeN (lookPull SyncSt.pull) order.length (SyncSt.init order gs, .fresh) = some (xs, st)) :
    specSync order [] gs = some xs :=
  (merge_eq_spec' order _ hord).symm.trans (sync_tracks.look (syncInit_pending order gs hord) hpos h).2

/-- **C12.synched_complete_look** — the same for the look-ahead `SynchedStream` (and the driver's `M.lookSync`). -/
theorem synched_complete_look (order : List Name) (gs : List Group) (fuel : Nat) (hord : order.Nodup)
    (hf : order.length + 1 ≤ fuel) :
    pullAll (lookPull SyncSt.pull) fuel (SyncSt.init order gs, .fresh) = specSync order [] gs ∧
    pullAll M.pull fuel (.lookSync (SyncSt.init order gs) .fresh) = specSync order [] gs := by
  have h := synched_complete order gs fuel hord hf
  exact ⟨by rw [look_transparent, h], by rw [embeds_lookSync.pullAll_eq _ (_, _), look_transparent, h]⟩

/-- at the top of the loop body of a started `left_join`, with `ord` still to serve from the groups `K`: `nr`, then `right` -/
def LjSt.AtBody (t : LjSt) (ord : List Name) (K : List Group) : Prop :=
  t.started = true ∧ t.left = ord ∧ K = t.nr.toList ++ t.right ∧ (t.nr = none → t.right = [])

/-- the next pull arrives at the loop body (the first one after fetching the first group) -/
def LjSt.Pending (s : LjSt) (ord : List Name) (K : List Group) : Prop :=
  ∃ t : LjSt, s.pull = t.body ∧ t.AtBody ord K

theorem LjSt.AtBody.pending {t : LjSt} {ord : List Name} {K : List Group} (h : t.AtBody ord K) : t.Pending ord K :=
  ⟨t, if_pos h.1, h⟩

theorem body_inStep (t : LjSt) (ord : List Name) (K : List Group) (h : t.AtBody ord K) : InStep LjSt.Pending ord K t.body := by
  obtain ⟨hs, hl, rfl, hinv⟩ := h
  cases ord with
  | nil =>
    cases hn : t.nr with
    | none => simp [LjSt.body, hl, hn, hinv hn, InStep]
    | some g => simp [LjSt.body, hl, hn, InStep, merge]
  | cons n rest =>
    cases hnr : t.nr with
    | none =>
      simp only [LjSt.body, hl, hnr, hinv hnr]
      exact .skip nofun (LjSt.AtBody.pending ⟨hs, rfl, rfl, fun _ => rfl⟩)
    | some g =>
      simp only [LjSt.body, hl, hnr]
      by_cases hg : g.name = n
      · rw [if_pos hg]
        exact .serve hg (LjSt.AtBody.pending
          ⟨hs, rfl, by cases t.right <;> rfl, fun h => by rw [List.head?_eq_none_iff.mp h]; rfl⟩)
      · rw [if_neg hg]
        exact .skip (fun _ h => Option.some.inj h ▸ hg) (LjSt.AtBody.pending ⟨hs, rfl, rfl, nofun⟩)

theorem lj_tracks : Tracks LjSt.pull LjSt.Pending := by
  rintro s ord K ⟨t, hp, h⟩
  rw [hp]
  exact body_inStep t ord K h

theorem ljInit_pending (left : List Name) (gs : List Group) : (LjSt.init left gs).Pending left (kept [] gs) :=
  ⟨{ left := left, right := gs.tail, nr := gs.head?, started := true }, rfl, rfl, rfl,
    by rw [kept_nil_ignored]; cases gs <;> rfl, fun h => by rw [List.head?_eq_none_iff.mp h]; rfl⟩

/-- **C12.left_join_complete** — `left_join` of the contig list with a grouped stream, consumed to the end (`dict(...)`), is
exactly the specification; the error for an unknown name or an incompatible order is the check after the loop. -/
theorem left_join_complete (left : List Name) (gs : List Group) (fuel : Nat) (hl : left.Nodup)
    (hf : left.length + 1 ≤ fuel) :
    pullAll LjSt.pull fuel (LjSt.init left gs) = specSync left [] gs :=
  (lj_tracks.pullAll_eq_merge fuel _ _ _ (ljInit_pending left gs) hf).trans (merge_eq_spec' left _ hl)

theorem zipRound_row (ms : List M) : ∀ (xs : List Item) (ms' : List M), zipRound ms = .row xs ms' →
    ∀ (i : Nat) (m : M), ms[i]? = some m → ∃ m', m.pull = .yield (xs.getD i []) m' ∧ ms'[i]? = some m' := by
  induction ms with
  | nil => intro xs ms' _ i m hm; cases hm
  | cons m₀ r ih =>
    intro xs ms' h i m hm
    rw [zipRound] at h
    cases hp : m₀.pull with
    | error => rw [hp] at h; cases h
    | done => rw [hp] at h; cases h
    | yield x m₀' =>
      cases hr : zipRound r with
      | error => rw [hp, hr] at h; cases h
      | stop => rw [hp, hr] at h; cases h
      | row xs₀ ms₀ =>
        rw [hp, hr] at h
        cases h
        cases i with
        | zero => cases hm; exact ⟨m₀', hp, rfl⟩
        | succ i => exact ih xs₀ ms₀ hr i m hm

theorem zipAll_column (f : Nat) : ∀ (ms : List M) (rows : List (List Item)), zipAll f ms = some rows →
    ∀ (i : Nat) (m : M), ms[i]? = some m →
      ∃ m', takeN M.pull rows.length m = some (rows.map (fun r => r.getD i []), m') := by
  induction f with
  | zero => intro ms rows h; cases h
  | succ f ih =>
    intro ms rows h i m hm
    rw [zipAll] at h
    cases hr : zipRound ms with
    | error => rw [hr] at h; cases h
    | stop => rw [hr] at h; cases h; exact ⟨m, rfl⟩
    | row xs ms' =>
      rw [hr] at h
      obtain ⟨rows', hz, rfl⟩ := Option.map_eq_some_iff.mp h
      obtain ⟨m₁, hp, hm₁⟩ := zipRound_row ms xs ms' hr i m hm
      obtain ⟨m', hm'⟩ := ih ms' rows' hz i m₁ hm₁
      exact ⟨m', takeN_succ_eq_some.mpr ⟨_, m₁, _, hp, hm', rfl⟩⟩

/-- **C12.zip_columns_complete** — the `zip` consumer (`streamable._args_stream`, hence `forbes` / `jaccard`, and the argument
evaluation of the computation graph) with the repaired generators: if `zip` over any list of iterators completes with one row
per contig, every column that comes from `iter_chromosomes` or a `SynchedStream`, at any position, is the specification of its
own stream; a mis-ordered, unknown or left-over group in any operand cannot pass silently. -/
theorem zip_columns_complete (order : List Name) (hord : order.Nodup) (hpos : 0 < order.length)
    (f : Nat) (ms : List M) (rows : List (List Item)) (hz : zipAll f ms = some rows)
    (hrows : rows.length = order.length) (i : Nat) (hi : i < ms.length) :
    (∀ ignored gs,
      ms[i] = .lookIter (IterSt.init order order ignored gs) .fresh →
      specSync order ignored gs = some (rows.map (fun r => r.getD i []))) ∧
    (∀ gs, ms[i] = .lookSync (SyncSt.init order gs) .fresh →
      specSync order [] gs = some (rows.map (fun r => r.getD i []))) := by
  obtain ⟨m', hm'⟩ := zipAll_column f ms rows hz i ms[i] (List.getElem?_eq_getElem hi)
  rw [hrows] at hm'
  constructor
  · intro ignored gs hmi
    rw [hmi, embeds_lookIter.takeN_eq _ (_, _)] at hm'
    obtain ⟨⟨xs, st⟩, hst, h⟩ := Option.map_eq_some_iff.mp hm'
    cases h
    exact sync_complete_any_consumer order ignored gs hord hpos _ st hst
  · intro gs hmi
    rw [hmi, embeds_lookSync.takeN_eq _ (_, _)] at hm'
    obtain ⟨⟨xs, st⟩, hst, h⟩ := Option.map_eq_some_iff.mp hm'
    cases h
    exact synched_complete_any_consumer order gs hord hpos _ st hst

/-- `hord` of `specSync_conserves` for the order of the example under it -/
example : [0, 1, 2].Nodup := by decide +kernel

theorem merge_flatten (ord : List Name) : ∀ (K : List Group) (out : List Item), merge ord K = some out →
    out.flatten = (K.map (·.items)).flatten := by
  induction ord with
  | nil => intro K out h; cases K <;> cases h; rfl
  | cons n rest ih =>
    intro K out h
    -- in each case of the recursion the head `x` of the answer is what `K` loses on the way to `K'`
    have key : ∀ (x : Item) (K' : List Group), (merge rest K').map (x :: ·) = some out →
        out.flatten = x ++ (K'.map (·.items)).flatten := by
      intro x K' h
      obtain ⟨o, ho, rfl⟩ := Option.map_eq_some_iff.mp h
      rw [List.flatten_cons, ih K' o ho]
    cases K with
    | nil => exact key [] [] h
    | cons g K' =>
      rw [merge] at h
      split at h
      · exact key g.items K' h
      · exact key [] (g :: K') h

theorem mem_itemsOf_iff (K : List Group) (hK : (K.map (·.name)).Nodup) (n : Name) (x : Nat) :
    x ∈ itemsOf K n ↔ ∃ g ∈ K, g.name = n ∧ x ∈ g.items := by
  induction K with
  | nil => simp [itemsOf]
  | cons g K ih =>
    obtain ⟨hg', hK'⟩ := List.nodup_cons.mp hK
    simp only [List.mem_cons, or_and_right, exists_or, exists_eq_left]
    by_cases hg : g.name = n
    · have : ¬ ∃ g' ∈ K, g'.name = n ∧ x ∈ g'.items := fun ⟨g', hm, hn', _⟩ =>
        hg' (List.mem_map.mpr ⟨g', hm, hn'.trans hg.symm⟩)
      rw [itemsOf_cons_eq g K n hg, or_iff_left this, and_iff_right hg]
    · rw [itemsOf_cons_ne g K n hg, ih hK', or_iff_right (fun h => hg h.1)]

/-- **C12.specSync_conserves** — the specification's answer in plain list vocabulary: one table per contig; concatenated, the
tables are the non-ignored groups' entries in data order (nothing lost or duplicated); every group name is in the order or
ignored; an entry is in table `i` iff it belongs to a non-ignored group named `order[i]` (nothing re-assigned). -/
theorem specSync_conserves (order ignored : List Name) (gs : List Group) (out : List Item) (hord : order.Nodup)
    (h : specSync order ignored gs = some out) :
    out.length = order.length ∧
    out.flatten = ((gs.filter (fun g => !ignored.contains g.name)).map (·.items)).flatten ∧
    (∀ g ∈ gs, g.name ∈ order ∨ g.name ∈ ignored) ∧
    (∀ i (hi : i < order.length) (ho : i < out.length) (x : Nat),
      x ∈ out[i] ↔ ∃ g ∈ gs, g.name ∉ ignored ∧ g.name = order[i] ∧ x ∈ g.items) := by
  have h' := specSync_eq order ignored gs ▸ h
  obtain ⟨hc, hout⟩ := spec'_eq_some h'
  have hK : ((kept ignored gs).map (·.name)).Nodup := ((compatible_iff_sublist _ _).mp hc).nodup hord
  refine ⟨by rw [hout, List.length_map], merge_flatten order _ out (merge_eq_spec' order _ hord ▸ h'), names_covered h, fun i hi ho x => ?_⟩
  have : out[i] = itemsOf (kept ignored gs) order[i] := by simp [hout]
  rw [this, mem_itemsOf_iff _ hK]
  simp only [mem_kept, and_assoc]

example : specSync [0, 1, 2] [7] [⟨1, [3]⟩, ⟨7, [9]⟩, ⟨2, [4]⟩] = some [[], [3], [4]] := by decide +kernel

theorem plain_pull_cons (x : Item) (r : List Item) : (M.plain (x :: r)).pull = .yield x (.plain r) := rfl
theorem plain_pull_nil : (M.plain []).pull = .done := rfl

theorem graphColumn_eq_pullUpTo (k : Nat) : ∀ (fuel : Nat) (data : M), k + 1 ≤ fuel →
    graphColumn fuel k data = pullUpTo M.pull k data := by
  induction k with
  | zero =>
    intro fuel data hf
    obtain ⟨f, rfl⟩ := Nat.exists_eq_add_of_le' hf
    rfl
  | succ k ih =>
    intro fuel data hf
    obtain ⟨f, rfl⟩ := Nat.exists_eq_add_of_le' hf
    -- the fuel re-bracketed as a successor, for `zipAll` to unfold
    show graphColumn (f + (k + 1) + 1) (k + 1) data = _
    simp only [graphColumn, List.replicate_succ, zipAll, zipRound, plain_pull_cons, pullUpTo]
    cases data.pull with
    | error => rfl
    | done => rfl
    | yield x d' =>
      -- reduces the `match`es on `.yield x d'` that the case split has left
      simp only []
      rw [← ih _ d' (Nat.le_add_left _ f), graphColumn, Option.map_map, Option.map_map]
      rfl

/-- `pullAll` needs one unit of fuel per item and one for the pull that finds the end; `j` is what the caller has beyond that
(`graph_column_complete` has one). -/
theorem pullUpTo_eq_pullAll {σ : Type} (pull : σ → Step σ) (j k : Nat) : ∀ (s : σ),
    (∀ xs s', takeN pull k s = some (xs, s') → pull s' = .done) →
    pullUpTo pull k s = pullAll pull (j + (k + 1)) s := by
  induction k with
  | zero => intro s h; rw [pullUpTo, ← Nat.add_assoc, pullAll_succ, h [] s rfl]; rfl
  | succ k ih =>
    intro s h
    rw [pullUpTo, ← Nat.add_assoc, pullAll_succ]
    cases hp : pull s with
    | error => rfl
    | done => rfl
    | yield x s₁ =>
      exact congrArg (Option.map (x :: ·))
        (ih s₁ fun xs s' ht => h (x :: xs) s' (takeN_succ_eq_some.mpr ⟨x, s₁, xs, hp, ht, rfl⟩))

/-- **C12.graph_column_complete** — the computation-graph consumer the driver runs for `genome_mask` / `track` / `mem_pair`
(`graphColumn`: name stream first, then the data stream, then the sizes; no pull after the last contig) over the repaired
`iter_chromosomes` EQUALS the specification: complete, unpadded column for compatible data, an error otherwise. -/
theorem graph_column_complete (order ignored : List Name) (gs : List Group) (fuel : Nat) (hord : order.Nodup)
    (hpos : 0 < order.length) (hf : order.length + 1 ≤ fuel) :
    graphColumn fuel order.length (.lookIter (IterSt.init order order ignored gs) .fresh) = specSync order ignored gs := by
  rw [graphColumn_eq_pullUpTo _ _ _ hf, embeds_lookIter.pullUpTo_eq _ (_, _),
    pullUpTo_eq_pullAll (lookPull IterSt.pull) 1 order.length _ fun _ _ ht =>
      (iter_tracks.look (init_pending order ignored gs hord) hpos ht).1]
  -- `j = 1`: `sync_complete_look` is stated for `order.length + 2 ≤ fuel`, one more than the generator needs
  -- (`Tracks.pullAll_eq_merge` asks for `+ 1`), so the fuel handed to it has one unit to spare
  exact (sync_complete_look order ignored gs _ hord (Nat.le_of_eq (Nat.add_comm _ 1))).1

example : graphColumn 8 2 (.lookIter (IterSt.init [0, 1] [0, 1] [] [⟨1, [2]⟩]) .fresh) = some [[], [2]] := by decide +kernel

/-! Witnesses that the harness replays on the implementation. The fuel `8` is any bound above the number of rows plus one. -/

/-- **C12.zip_second_unsound** — without look-ahead, a mis-ordered stream that is not the first argument of `zip` completes
silently (genome order `[0, 1]`, second operand `[1, 0]`: two rows, its entries of contig 0 left out, although `specSync = none`);
the same mis-order in the first operand raises. For `iter_chromosomes` and for `SynchedStream` (forbes / jaccard). -/
theorem zip_second_unsound :
    let good : List Group := [⟨0, [1]⟩, ⟨1, [2]⟩]
    let bad : List Group := [⟨1, [2]⟩, ⟨0, [1]⟩]
    specSync [0, 1] [] bad = none ∧
    zipAll 8 [.iter (IterSt.init [0, 1] [0, 1] [] good), .iter (IterSt.init [0, 1] [0, 1] [] bad)] =
      some [[[1], []], [[2], [2]]] ∧
    zipAll 8 [.iter (IterSt.init [0, 1] [0, 1] [] bad), .iter (IterSt.init [0, 1] [0, 1] [] good)] = none ∧
    zipAll 8 [.sync (SyncSt.init [0, 1] good), .sync (SyncSt.init [0, 1] bad), .plain [[16], [17]]] =
      some [[[1], [], [16]], [[2], [2], [17]]] ∧
    zipAll 8 [.sync (SyncSt.init [0, 1] bad), .sync (SyncSt.init [0, 1] good), .plain [[16], [17]]] = none := by
  decide +kernel

/-- **C12.graph_single_stream_unsound** — the same happens with a single data stream when the consumer
pulls another stream first (the computation graph evaluates the chromosome-name stream before the
data stream): the mis-ordered data `[1, 0]` completes with contig 0's entries dropped. -/
theorem graph_single_stream_unsound :
    zipAll 8 [.plain [[], []], .iter (IterSt.init [0, 1] [0, 1] [] [⟨1, [2]⟩, ⟨0, [1]⟩]), .plain [[], []]] =
      some [[[], [], []], [[], [2], []]] := by
  decide +kernel

/-- **C12.underscore_unsound** — with `chromosome_order` leaving out an included name (contig 1 carries
a `_` and the filter is disabled: order `[0, 2]`, included `[0, 1, 2]`), pull-all evaluation completes
with contig 1's entries dropped, and sorted data is rejected. -/
theorem underscore_unsound :
    pullAll IterSt.pull 8 (IterSt.init [0, 2] [0, 1, 2] [] [⟨1, [3]⟩]) = some [[], []] ∧
    specSync [0, 1, 2] [] [⟨1, [3]⟩] = some [[], [3], []] ∧
    pullAll IterSt.pull 8 (IterSt.init [0, 2] [0, 1, 2] [] [⟨1, [3]⟩, ⟨2, [4]⟩]) = none ∧
    specSync [0, 1, 2] [] [⟨1, [3]⟩, ⟨2, [4]⟩] = some [[], [3], [4]] := by
  decide +kernel

/-- **C12.repeated_group_unsound** — the rule shipped before repair f720bbc: when the data returns to the contig that
was just handed out with only an ignored contig in between (`chr1, chr1_alt, chr1`; contig 0, ignored 7), pull-all
evaluation completed and the second group's entries were dropped; the repaired generator raises. -/
theorem repeated_group_unsound :
    pullAll IterSt.pullOld 8 (IterSt.init [0, 1] [0, 1] [7] [⟨0, [1]⟩, ⟨7, [2]⟩, ⟨0, [3]⟩]) = some [[1], []] ∧
    pullAll IterSt.pull 8 (IterSt.init [0, 1] [0, 1] [7] [⟨0, [1]⟩, ⟨7, [2]⟩, ⟨0, [3]⟩]) = none ∧
    specSync [0, 1] [7] [⟨0, [1]⟩, ⟨7, [2]⟩, ⟨0, [3]⟩] = none := by
  decide +kernel

/-- **C12.zip_fixed_witness** — with the look-ahead of the repair the witnesses of `zip_second_unsound` and
`graph_single_stream_unsound` raise, and two well-ordered operands still complete. -/
theorem zip_fixed_witness :
    let good : List Group := [⟨0, [1]⟩, ⟨1, [2]⟩]
    let bad : List Group := [⟨1, [2]⟩, ⟨0, [1]⟩]
    zipAll 8 [.lookIter (IterSt.init [0, 1] [0, 1] [] good) .fresh, .lookIter (IterSt.init [0, 1] [0, 1] [] bad) .fresh] = none ∧
    zipAll 8 [.lookSync (SyncSt.init [0, 1] good) .fresh, .lookSync (SyncSt.init [0, 1] bad) .fresh, .plain [[16], [17]]] = none ∧
    zipAll 8 [.plain [[], []], .lookIter (IterSt.init [0, 1] [0, 1] [] bad) .fresh, .plain [[], []]] = none ∧
    zipAll 8 [.lookIter (IterSt.init [0, 1] [0, 1] [] good) .fresh, .lookIter (IterSt.init [0, 1] [0, 1] [] good) .fresh] =
      some [[[1], [1]], [[2], [2]]] := by
  decide +kernel

end C12
