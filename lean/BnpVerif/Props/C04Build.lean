import BnpVerif.Props.C04Walk

/-! C04 — the construction of the extractor from a raw chunk: the dump of a table of fields, its delimiter and start tables
in closed form, and `buildDelimited_eq`: on the dump of any table of clean fields `buildDelimited` returns `expExtG`.
What that extractor denotes is proved in `C04Cr`. -/
namespace C04

def dumpLine (sep : Nat) (fields : List Bytes) : Bytes := intercalate [sep] fields ++ [10]
def dumpFile (sep : Nat) (lines : List (List Bytes)) : Bytes := (lines.map (dumpLine sep)).flatten

/-- CR is allowed: a CRLF file is the LF dump of the table whose last column carries the CR -/
def cleanField (sep : Nat) (f : Bytes) : Prop := ∀ b ∈ f, b ≠ sep ∧ b ≠ 10

/-- delimiter positions of one dumped line that starts at offset k (the last one is the newline) -/
def lineDelims : Nat → List Bytes → List Nat
  | k, [] => [k]
  | k, [f] => [k + f.length]
  | k, f :: g :: r => (k + f.length) :: lineDelims (k + f.length + 1) (g :: r)

theorem dumpLine_length_intercalate (sep : Nat) (l : List Bytes) : (dumpLine sep l).length = (intercalate [sep] l).length + 1 := by
  simp [dumpLine]

theorem posFrom_eq (p : Nat → Bool) (k : Nat) (l : Bytes) : posFrom p k l = Py.maskPositions k (l.map p) := by
  induction l generalizing k with
  | nil => rfl
  | cons x xs ih => rw [posFrom, List.map_cons, Py.maskPositions, ih]

theorem posFrom_append (p : Nat → Bool) (k : Nat) (a b : Bytes) :
    posFrom p k (a ++ b) = posFrom p k a ++ posFrom p (k + a.length) b := by
  rw [posFrom_eq, posFrom_eq, posFrom_eq, List.map_append, Py.maskPositions_append, List.length_map]

theorem posFrom_lt (p : Nat → Bool) (k : Nat) (l : Bytes) : ∀ i ∈ posFrom p k l, k ≤ i ∧ i < k + l.length := by
  rw [posFrom_eq, ← List.length_map (f := p)]
  exact Py.maskPositions_bounds _ k

theorem posFrom_clean (sep : Nat) (k : Nat) (f : Bytes) (h : cleanField sep f) :
    posFrom (fun b => b == 10 || b == sep) k f = [] := by
  induction f generalizing k with
  | nil => rfl
  | cons x xs ih =>
    have hx := h x List.mem_cons_self
    rw [posFrom, if_neg (by simp [hx.1, hx.2])]
    exact ih (k + 1) fun b hb => h b (List.mem_cons_of_mem _ hb)

theorem dumpLine_cons_cons (sep : Nat) (f g : Bytes) (r : List Bytes) :
    dumpLine sep (f :: g :: r) = (f ++ [sep]) ++ dumpLine sep (g :: r) := by
  simp only [dumpLine, intercalate, List.append_assoc]

theorem lineDelims_ne_nil (k : Nat) (fields : List Bytes) : lineDelims k fields ≠ [] := by
  match fields with
  | [] | [_] | _ :: _ :: _ => exact List.cons_ne_nil _ _

theorem getLastD_of_ne_nil {α} {l : List α} (h : l ≠ []) (d d' : α) : l.getLastD d = l.getLastD d' := by
  cases l with
  | nil => exact absurd rfl h
  | cons a l => rfl

theorem lineDelims_length (k : Nat) (fields : List Bytes) (hne : fields ≠ []) :
    (lineDelims k fields).length = fields.length := by
  induction fields generalizing k with
  | nil => exact absurd rfl hne
  | cons f r ih =>
    cases r with
    | nil => rfl
    | cons g r' => exact congrArg (· + 1) (ih (k + f.length + 1) (List.cons_ne_nil _ _))

theorem dumpLine_length (sep : Nat) (fields : List Bytes) (k : Nat) (hne : fields ≠ []) :
    k + (dumpLine sep fields).length = (lineDelims k fields).getLastD 0 + 1 := by
  induction fields generalizing k with
  | nil => exact absurd rfl hne
  | cons f r ih =>
    cases r with
    | nil => rw [dumpLine, intercalate, List.length_append, ← Nat.add_assoc]; rfl
    | cons g r' =>
      rw [dumpLine_cons_cons, lineDelims, List.getLastD_cons, getLastD_of_ne_nil (lineDelims_ne_nil _ _) _ 0,
        ← ih (k + f.length + 1) (List.cons_ne_nil _ _), List.length_append, List.length_append, List.length_singleton,
        ← Nat.add_assoc, ← Nat.add_assoc]

theorem posFrom_dumpLine (sep : Nat) (fields : List Bytes) (k : Nat) (hne : fields ≠ [])
    (hc : ∀ f ∈ fields, cleanField sep f) :
    posFrom (fun b => b == 10 || b == sep) k (dumpLine sep fields) = lineDelims k fields := by
  induction fields generalizing k with
  | nil => exact absurd rfl hne
  | cons f r ih =>
    have hf := posFrom_clean sep k f (hc f List.mem_cons_self)
    cases r with
    | nil => rw [dumpLine, intercalate, posFrom_append, hf]; rfl
    | cons g r' =>
      rw [dumpLine_cons_cons, List.append_assoc, posFrom_append, hf, List.nil_append, List.singleton_append, posFrom,
        if_pos (by simp), ih _ (List.cons_ne_nil _ _) fun x hx => hc x (List.mem_cons_of_mem _ hx)]
      rfl

def lineGroups (sep : Nat) : Nat → List (List Bytes) → List (List Nat)
  | _, [] => []
  | k, l :: ls => lineDelims k l :: lineGroups sep (k + (dumpLine sep l).length) ls

def startGroups (sep : Nat) : Nat → List (List Bytes) → List (List Nat)
  | _, [] => []
  | k, l :: ls => (k :: (lineDelims k l).dropLast.map (· + 1)) :: startGroups sep (k + (dumpLine sep l).length) ls

def CleanTable (sep n : Nat) (lines : List (List Bytes)) : Prop :=
  ∀ l ∈ lines, l.length = n ∧ ∀ f ∈ l, cleanField sep f

theorem CleanTable.ne_nil {sep n : Nat} {lines : List (List Bytes)} (h : CleanTable sep n lines) (hn : 0 < n) :
    ∀ l ∈ lines, l ≠ [] :=
  fun l hl e => Nat.ne_of_gt hn ((h l hl).1.symm.trans (congrArg List.length e))

theorem CleanTable.tail {sep n : Nat} {l : List Bytes} {ls : List (List Bytes)} (h : CleanTable sep n (l :: ls)) :
    CleanTable sep n ls :=
  fun x hx => h x (List.mem_cons_of_mem _ hx)

theorem posFrom_dumpFile (sep n : Nat) (hn : 0 < n) (lines : List (List Bytes)) (h : CleanTable sep n lines) (k : Nat) :
    posFrom (fun b => b == 10 || b == sep) k (dumpFile sep lines) = (lineGroups sep k lines).flatten := by
  induction lines generalizing k with
  | nil => rfl
  | cons l ls ih =>
    rw [dumpFile, List.map_cons, List.flatten_cons, posFrom_append,
      posFrom_dumpLine sep l k (h.ne_nil hn l List.mem_cons_self) (h l List.mem_cons_self).2, lineGroups, List.flatten_cons]
    exact congrArg (_ ++ ·) (ih h.tail _)

theorem chunksOf_flatten {α} (n : Nat) (hn : 0 < n) (gs : List (List α)) (hg : ∀ g ∈ gs, g.length = n) :
    ∀ fuel, gs.length ≤ fuel → chunksOf n fuel gs.flatten = gs := by
  induction gs with
  | nil => intro fuel _; cases fuel <;> rfl
  | cons g gs ih =>
    intro fuel hf
    cases fuel with
    | zero => nomatch hf
    | succ fuel =>
      have hgl := hg g List.mem_cons_self
      have hne : (g ++ gs.flatten).isEmpty = false := by
        cases g with
        | nil => exact absurd hgl.symm (Nat.ne_of_gt hn)
        | cons x xs => rfl
      rw [List.flatten_cons, chunksOf, hne, show (n == 0) = false from beq_false_of_ne (Nat.ne_of_gt hn), List.take_left' hgl,
        List.drop_left' hgl, ih (fun x hx => hg x (List.mem_cons_of_mem _ hx)) fuel (Nat.le_of_succ_le_succ hf)]
      rfl

theorem lineGroups_walk (sep k : Nat) (ls : List (List Bytes)) : lineGroups sep k ls = walk (dumpLine sep) lineDelims k ls := by
  induction ls generalizing k with
  | nil => rfl
  | cons l ls ih => simp only [lineGroups, walk, ih]

theorem startGroups_walk (sep k : Nat) (ls : List (List Bytes)) :
    startGroups sep k ls = walk (dumpLine sep) (fun k l => k :: (lineDelims k l).dropLast.map (· + 1)) k ls := by
  induction ls generalizing k with
  | nil => rfl
  | cons l ls ih => simp only [startGroups, walk, ih]

theorem lineEnds_walk (sep k : Nat) (ls : List (List Bytes)) (hne : ∀ l ∈ ls, l ≠ []) :
    (lineGroups sep k ls).map (fun g => g.getLastD 0 + 1) = walk (dumpLine sep) (fun k l => k + (dumpLine sep l).length) k ls := by
  rw [lineGroups_walk, walk_map]
  exact walk_congr _ _ _ _ (fun l hl k => (dumpLine_length sep l k (hne l hl)).symm) k

theorem lineGroups_length (sep : Nat) (k : Nat) (lines : List (List Bytes)) : (lineGroups sep k lines).length = lines.length := by
  rw [lineGroups_walk]; exact walk_length ..

theorem startGroups_length (sep : Nat) (k : Nat) (lines : List (List Bytes)) : (startGroups sep k lines).length = lines.length := by
  rw [startGroups_walk]; exact walk_length ..

theorem lineGroups_all_length (sep n : Nat) (hn : 0 < n) (lines : List (List Bytes)) (h : CleanTable sep n lines) (k : Nat) :
    ∀ g ∈ lineGroups sep k lines, g.length = n := by
  intro g hg
  obtain ⟨l, hl, k', rfl⟩ := mem_walk _ _ _ _ _ (lineGroups_walk .. ▸ hg)
  exact (lineDelims_length k' l (h.ne_nil hn l hl)).trans (h l hl).1

theorem startGroups_all_length (sep n : Nat) (hn : 0 < n) (lines : List (List Bytes)) (h : CleanTable sep n lines) (k : Nat) :
    ∀ g ∈ startGroups sep k lines, g.length = n := by
  intro g hg
  obtain ⟨l, hl, k', rfl⟩ := mem_walk _ _ _ _ _ (startGroups_walk .. ▸ hg)
  rw [List.length_cons, List.length_map, List.length_dropLast, lineDelims_length k' l (h.ne_nil hn l hl), (h l hl).1,
    Nat.sub_add_cancel hn]

theorem lineDelims_map_succ (sep k : Nat) (l : List Bytes) :
    (lineDelims k l).map (· + 1) = (lineDelims k l).dropLast.map (· + 1) ++ [k + (dumpLine sep l).length] := by
  have hA := lineDelims_ne_nil k l
  have hlast : (lineDelims k l).getLast hA + 1 = k + (dumpLine sep l).length := by
    by_cases hl : l = []
    · subst hl; rfl
    · rw [dumpLine_length sep l k hl, List.getLastD_eq_getLast?, List.getLast?_eq_some_getLast hA]; rfl
  rw [← hlast, ← List.map_singleton (f := (· + 1)), ← List.map_append, List.dropLast_concat_getLast]

theorem starts_groups (sep : Nat) (lines : List (List Bytes)) (hne : lines ≠ []) (k : Nat) :
    k :: ((lineGroups sep k lines).flatten.dropLast.map (· + 1)) = (startGroups sep k lines).flatten := by
  induction lines generalizing k with
  | nil => exact absurd rfl hne
  | cons l ls ih =>
    cases ls with
    | nil => simp only [lineGroups, startGroups, List.flatten_cons, List.flatten_nil, List.append_nil]
    | cons l2 ls2 =>
      have hB : (lineGroups sep (k + (dumpLine sep l).length) (l2 :: ls2)).flatten ≠ [] :=
        List.append_ne_nil_of_left_ne_nil (lineDelims_ne_nil _ l2) _
      rw [lineGroups, startGroups, List.flatten_cons, List.flatten_cons, List.dropLast_append_of_ne_nil hB, List.map_append,
        lineDelims_map_succ sep, List.append_assoc, List.singleton_append, ih (List.cons_ne_nil _ _)]
      rfl

/-! the delimiter CHARACTERS of a dump (`chunk[delimiters]`), by the same two steps as their positions (`posFrom_clean`,
`posFrom_dumpLine`) -/

theorem filter_clean (sep : Nat) (f : Bytes) (h : cleanField sep f) : f.filter (fun b => b == 10 || b == sep) = [] :=
  List.filter_eq_nil_iff.mpr fun b hb => by simp [(h b hb).1, (h b hb).2]

theorem filter_dumpLine (sep : Nat) (fields : List Bytes) (hne : fields ≠ []) (hc : ∀ f ∈ fields, cleanField sep f) :
    (dumpLine sep fields).filter (fun b => b == 10 || b == sep) = List.replicate (fields.length - 1) sep ++ [10] := by
  induction fields with
  | nil => exact absurd rfl hne
  | cons f r ih =>
    have hf := filter_clean sep f (hc f List.mem_cons_self)
    cases r with
    | nil => rw [dumpLine, intercalate, List.filter_append, hf]; rfl
    | cons g r' =>
      rw [dumpLine_cons_cons, List.filter_append, List.filter_append, hf,
        ih (List.cons_ne_nil _ _) fun x hx => hc x (List.mem_cons_of_mem _ hx)]
      simp [List.replicate_succ]

theorem findIdx_replicate (sep : Nat) (hs : sep ≠ 10) (m : Nat) (X : Bytes) :
    (List.replicate m sep ++ 10 :: X).findIdx (· == 10) = m := by
  induction m with
  | zero => rfl
  | succ m ih => rw [List.replicate_succ, List.cons_append, List.findIdx_cons, beq_false_of_ne hs, ih]; rfl

theorem dumpFile_ends_nl (sep : Nat) (lines : List (List Bytes)) (hne : lines ≠ []) :
    ∃ X, dumpFile sep lines = X ++ [10] := by
  induction lines with
  | nil => exact absurd rfl hne
  | cons l ls ih =>
    cases ls with
    | nil => exact ⟨intercalate [sep] l, List.append_nil _⟩
    | cons l2 ls2 =>
      obtain ⟨X, hX⟩ := ih (List.cons_ne_nil _ _)
      exact ⟨dumpLine sep l ++ X, (congrArg (dumpLine sep l ++ ·) hX).trans (List.append_assoc ..).symm⟩

theorem lastNl_dumpFile (sep : Nat) (lines : List (List Bytes)) (hne : lines ≠ []) :
    (posFrom (· == 10) 0 (dumpFile sep lines)).getLast? = some ((dumpFile sep lines).length - 1) := by
  obtain ⟨X, hX⟩ := dumpFile_ends_nl sep lines hne
  rw [hX, posFrom_append, List.length_append, Nat.zero_add]
  exact List.getLast?_concat

/-- the switch of `_modify_for_carriage_return`: is the byte before the first newline a CR? -/
def crFlag (raw : Bytes) (G : List (List Nat)) : Bool :=
  ((G.head?).map (fun r0 => (r0.getLastD 0 != 0) && byteAt raw (r0.getLastD 0 - 1) == 13)).getD false

/-- the field-end table after `_modify_for_carriage_return` -/
def endsOf (raw : Bytes) (G : List (List Nat)) : List (List Nat) := if crFlag raw G then G.map (stripCR raw) else G

/-- the extractor with a field-end table `Es` (record ends always come from the newline table) -/
def expExtE (sep : Nat) (lines : List (List Bytes)) (Es : List (List Nat)) : Ext :=
  { data := dumpFile sep lines,
    fStart := startGroups sep 0 lines,
    fLen := List.zipWith (fun ss es => List.zipWith (fun s e => e - s) ss es) (startGroups sep 0 lines) Es,
    eStart := (startGroups sep 0 lines).map (·.headD 0),
    eEnd := (lineGroups sep 0 lines).map (fun r => r.getLastD 0 + 1),
    contiguous := true }

/-- what the (repaired) code constructs from the dumped file -/
def expExtG (sep : Nat) (lines : List (List Bytes)) : Ext :=
  expExtE sep lines (endsOf (dumpFile sep lines) (lineGroups sep 0 lines))

/-- what the delimited and the k-line construction share: the flat tables regroup (`chunksOf`) into `lineGroups` and
`startGroups`, and nothing is cut off the file -/
theorem dump_tables (sep n : Nat) (hn : 0 < n) (lines : List (List Bytes)) (hne : lines ≠ []) (h : CleanTable sep n lines) :
    (lineGroups sep 0 lines).flatten.length = lines.length * n ∧
    chunksOf n (lineGroups sep 0 lines).flatten.length (lineGroups sep 0 lines).flatten = lineGroups sep 0 lines ∧
    chunksOf n (lineGroups sep 0 lines).flatten.length (0 :: (lineGroups sep 0 lines).flatten.dropLast.map (· + 1)) =
      startGroups sep 0 lines ∧
    (dumpFile sep lines).take ((dumpFile sep lines).length - 1 + 1) = dumpFile sep lines := by
  have hGall := lineGroups_all_length sep n hn lines h 0
  have hflen := Base.length_flatten_const n _ hGall
  rw [lineGroups_length] at hflen
  have hfuel : lines.length ≤ (lineGroups sep 0 lines).flatten.length := hflen ▸ Nat.le_mul_of_pos_right _ hn
  have hS := chunksOf_flatten n hn _ (startGroups_all_length sep n hn lines h 0) _ ((startGroups_length sep 0 lines).symm ▸ hfuel)
  rw [← starts_groups sep lines hne 0] at hS
  obtain ⟨X, hX⟩ := dumpFile_ends_nl sep lines hne
  exact ⟨hflen, chunksOf_flatten n hn _ hGall _ ((lineGroups_length sep 0 lines).symm ▸ hfuel), hS, by
    rw [hX, List.length_append, List.length_singleton, Nat.add_sub_cancel]
    exact List.take_of_length_le (Nat.le_of_eq List.length_append)⟩

/-- **C04.buildDelimited_eq** — `from_raw_buffer` + `_get_buffer_extractor` + `_modify_for_carriage_return` on the dump of any
table of clean fields (CR allowed inside fields, hence CRLF and mixed files too). One `have` per `let` of `buildDelimited`;
`crFlag` spells the model's `match` on the first row with `Option.map`, hence the final split on `head?` -/
theorem buildDelimited_eq (sep n : Nat) (hs10 : sep ≠ 10) (hn : 0 < n)
    (lines : List (List Bytes)) (hne : lines ≠ []) (h : CleanTable sep n lines) :
    buildDelimited true sep (dumpFile sep lines) = some (expExtG sep lines) := by
  have hd := posFrom_dumpFile sep n hn lines h 0
  have hl := lastNl_dumpFile sep lines hne
  obtain ⟨hflen, hGchunk, hSchunk, htake⟩ := dump_tables sep n hn lines hne h
  have hf : (lineGroups sep 0 lines).flatten.filter (· ≤ (dumpFile sep lines).length - 1) = (lineGroups sep 0 lines).flatten :=
    List.filter_eq_self.mpr fun i hi =>
      decide_eq_true (Nat.le_sub_one_of_lt (Nat.zero_add (dumpFile sep lines).length ▸ (posFrom_lt _ 0 _ i (hd ▸ hi)).2))
  have hc : ((dumpFile sep lines).filter (fun b => b == 10 || b == sep)).findIdx (· == 10) + 1 = n := by
    cases lines with
    | nil => exact absurd rfl hne
    | cons l0 ls =>
      have hl0 := h l0 List.mem_cons_self
      rw [dumpFile, List.map_cons, List.flatten_cons, List.filter_append,
        filter_dumpLine sep l0 (h.ne_nil hn l0 List.mem_cons_self) hl0.2, List.append_assoc, List.singleton_append,
        findIdx_replicate sep hs10, hl0.1, Nat.sub_add_cancel hn]
  have hmod : ((lineGroups sep 0 lines).flatten.length % n != 0) = false := by
    rw [hflen, Nat.mul_mod_left]; rfl
  unfold buildDelimited
  simp only [hl, hd, hc, htake, hf, hSchunk, hGchunk, hmod, Bool.false_eq_true, if_false, if_true]
  unfold expExtG expExtE endsOf crFlag
  cases (lineGroups sep 0 lines).head? <;> rfl

def offsFrom : Nat → List Bytes → List Nat
  | _, [] => []
  | o, f :: r => o :: offsFrom (o + f.length + 1) r

theorem offsFrom_length (o : Nat) (fs : List Bytes) : (offsFrom o fs).length = fs.length := by
  induction fs generalizing o with
  | nil => rfl
  | cons f r ih => exact congrArg (· + 1) (ih _)

theorem offs_succ (k : Nat) (l : List Bytes) (j : Nat) (hj : j + 1 < l.length) :
    (offsFrom k l).getD (j + 1) 0 = (offsFrom k l).getD j 0 + (l.getD j []).length + 1 := by
  induction l generalizing k j with
  | nil => nomatch hj
  | cons f r ih =>
    cases j with
    | zero =>
      cases r with
      | nil => exact absurd hj (Nat.lt_irrefl 1)
      | cons g r' => rfl
    | succ j => exact ih (k + f.length + 1) j (Nat.lt_of_succ_lt_succ hj)

theorem offsFrom_ge (o : Nat) (fs : List Bytes) : ∀ x ∈ offsFrom o fs, o ≤ x := by
  induction fs generalizing o with
  | nil => nofun
  | cons f r ih =>
    exact List.forall_mem_cons.mpr ⟨Nat.le_refl _, fun x hx =>
      Nat.le_trans (Nat.le_trans (Nat.le_add_right ..) (Nat.le_add_right ..)) (ih (o + f.length + 1) x hx)⟩

theorem lineDelims_closed (k : Nat) (fields : List Bytes) (hne : fields ≠ []) :
    lineDelims k fields = List.zipWith (fun o f => o + f.length) (offsFrom k fields) fields := by
  induction fields generalizing k with
  | nil => exact absurd rfl hne
  | cons f r ih =>
    cases r with
    | nil => rfl
    | cons g r' => exact congrArg (_ :: ·) (ih (k + f.length + 1) (List.cons_ne_nil _ _))

theorem lineStarts_closed (k : Nat) (fields : List Bytes) (hne : fields ≠ []) :
    k :: (lineDelims k fields).dropLast.map (· + 1) = offsFrom k fields := by
  induction fields generalizing k with
  | nil => exact absurd rfl hne
  | cons f r ih =>
    cases r with
    | nil => rfl
    | cons g r' =>
      rw [lineDelims, List.dropLast_cons_of_ne_nil (lineDelims_ne_nil _ _), List.map_cons, ih _ (List.cons_ne_nil _ _)]
      rfl

theorem getD_zipWith {α β γ} (f : α → β → γ) (as : List α) (bs : List β) (j : Nat) (ha : j < as.length) (hb : j < bs.length)
    (a : α) (b : β) (c : γ) : (List.zipWith f as bs).getD j c = f (as.getD j a) (bs.getD j b) := by
  simp only [List.getD_eq_getElem?_getD, List.getElem?_zipWith, List.getElem?_eq_getElem ha, List.getElem?_eq_getElem hb,
    Option.getD_some]

theorem lineDelims_getD (k : Nat) (l : List Bytes) (j : Nat) (hj : j < l.length) :
    (lineDelims k l).getD j 0 = (offsFrom k l).getD j 0 + (l.getD j []).length := by
  rw [lineDelims_closed k l (List.ne_nil_of_length_pos (Nat.zero_lt_of_lt hj))]
  exact getD_zipWith _ _ _ j (by rw [offsFrom_length]; exact hj) hj 0 [] 0

/-- a CRLF file is the dump of the table whose last column carries the CR -/
example : dumpFile 9 [["a".toList.map Char.toNat, "1\r".toList.map Char.toNat], ["bb".toList.map Char.toNat, "22\r".toList.map Char.toNat]]
    = crlfWitness := by
  unfold crlfWitness
  repeat rw [String.toList_ofList]
  decide +kernel

example : CleanTable 9 2 [["chr1".toList.map Char.toNat, "007".toList.map Char.toNat], ["c".toList.map Char.toNat, []]] := by
  unfold CleanTable cleanField
  repeat rw [String.toList_ofList]
  decide +kernel

end C04
