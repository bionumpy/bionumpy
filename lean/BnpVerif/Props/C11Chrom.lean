import BnpVerif.Props.C10
import BnpVerif.Props.C11Reduce
import BnpVerif.Props.C11Group
/-! C11, per-chromosome pipelines (`stream=True`): group-by over the chunks, then the genome walk `iterChrom` over the
runs (`C10.runs_sorted`: on sorted entries these are the non-empty per-chromosome tables), gives every chromosome its own
entries (`chromBuffers_spec`); pile-up, mask, histogram, windows and values per buffer are then C10's in-memory results. -/
namespace C11
open Base

theorem runs_eq_C10 (l : List C10.Iv) : runs (fun iv : C10.Iv => iv.c) l = C10.runs l := by
  induction l with
  | nil => rfl
  | cons x r ih =>
    simp only [runs, C10.runs, ih]
    cases C10.runs r with
    | nil => rfl
    | cons g t =>
      obtain ⟨k, grp⟩ := g
      simp only

theorem iterChrom_nil (rem c : Nat) (seen : List Nat) :
    iterChrom rem c seen [] = some (List.replicate rem []) := by
  induction rem generalizing c seen with
  | zero => rfl
  | succ rem ih => simp [iterChrom, ih, List.replicate_succ]

/-- the walk on the non-empty tables of the chromosomes `c0, …, c0 + rem - 1`: every chromosome gets its table; the
look-ahead never meets a chromosome that is done, since the tables ahead are later chromosomes' -/
theorem iterChrom_tables (F : Nat → List C10.Iv) (rem : Nat) : ∀ (c0 : Nat) (seen : List Nat), (∀ x ∈ seen, x < c0) →
    iterChrom rem c0 seen (C10.tables F c0 rem) = some ((List.range' c0 rem).map F) := by
  induction rem with
  | zero => intro c0 seen _; rfl
  | succ rem ih =>
    intro c0 seen hseen
    have ih := ih (c0 + 1) (c0 :: seen) fun x hx =>
      (List.mem_cons.mp hx).elim (fun e => e ▸ Nat.lt_succ_self _) fun hx => Nat.lt_succ_of_lt (hseen x hx)
    have hlo := C10.tables_lo F (c0 + 1) rem
    rw [List.range'_succ, List.map_cons]
    by_cases h : F c0 = []
    · rw [C10.tables_skip rem h, h]
      generalize C10.tables F (c0 + 1) rem = T at ih hlo
      cases T with
      | nil => simp only [iterChrom, ih, Option.map_some]
      | cons g t =>
        obtain ⟨name, grp⟩ := g
        simp only [iterChrom, if_neg (Nat.ne_of_gt (hlo _ List.mem_cons_self)), ih, Option.map_some]
    · rw [C10.tables_cons rem h]
      generalize C10.tables F (c0 + 1) rem = T at ih hlo
      cases T with
      | nil => simp only [iterChrom, ↓reduceIte, ih, Option.map_some]
      | cons g t =>
        obtain ⟨n2, grp⟩ := g
        have hn2 : seen.contains n2 = false := by
          cases hc : seen.contains n2 with
          | false => rfl
          | true => exact absurd (hlo _ List.mem_cons_self) (Nat.not_le.mpr (Nat.lt_succ_of_lt (hseen n2 (by simpa using hc))))
        simp only [iterChrom, ↓reduceIte, hn2, Bool.false_eq_true, ih, Option.map_some]

/-- the genome walk over the runs of chromosome-sorted entries hands every chromosome exactly its own entries (an empty
table when it has none) and never raises -/
theorem iterChrom_runs (rem : Nat) : ∀ (c0 : Nat) (seen : List Nat) (l : List C10.Iv),
    l.Pairwise (fun a b => a.c ≤ b.c) → (∀ iv ∈ l, c0 ≤ iv.c ∧ iv.c < c0 + rem) → (∀ x ∈ seen, x < c0) →
    iterChrom rem c0 seen (C10.runs l) = some ((List.range' c0 rem).map (fun c => l.filter (fun iv => iv.c = c))) :=
  fun c0 seen l hs hb hseen => by rw [C10.runs_sorted rem c0 l hs hb, iterChrom_tables _ rem c0 seen hseen]

/-- in the shape `C10.runs_sorted` asks for at `k = 0` -/
theorem valid_chrom (sizes : List Nat) (ivs : List C10.Iv) (hv : ∀ iv ∈ ivs, iv.valid sizes = true) :
    ∀ iv ∈ ivs, 0 ≤ iv.c ∧ iv.c < 0 + sizes.length := fun iv hiv => by
  have := hv iv hiv
  simp only [C10.Iv.valid, Bool.and_eq_true, decide_eq_true_eq] at this
  exact ⟨Nat.zero_le _, (Nat.zero_add _).symm ▸ this.1.1.1⟩

/-- group-by over the chunks, then the genome walk -/
theorem chromBuffers_spec (sizes : List Nat) (ivs : List C10.Iv) (cs : List (List C10.Iv)) (hcs : IsChunking ivs cs)
    (hs : ivs.Pairwise (fun a b => a.c ≤ b.c)) (hv : ∀ iv ∈ ivs, iv.valid sizes = true) :
    chromBuffers sizes.length cs = some ((List.range sizes.length).map (fun c => ivs.filter (fun iv => iv.c = c))) := by
  simp only [chromBuffers, groupby_chunks_any_keys (fun iv : C10.Iv => iv.c) ivs cs hcs, runs_eq_C10]
  rw [iterChrom_runs sizes.length 0 [] ivs hs (valid_chrom sizes ivs hv) nofun, List.range_eq_range']

/-- the tables handed out concatenate to the entries, as the runs do -/
theorem filters_flatten (sizes : List Nat) (ivs : List C10.Iv) (hs : ivs.Pairwise (fun a b => a.c ≤ b.c))
    (hv : ∀ iv ∈ ivs, iv.valid sizes = true) :
    ((List.range sizes.length).map (fun c => ivs.filter (fun iv => iv.c = c))).flatten = ivs := by
  rw [List.range_eq_range', ← C10.tables_flatten, ← C10.runs_sorted sizes.length 0 ivs hs (valid_chrom sizes ivs hv),
    ← runs_eq_C10, runs_flatten]

theorem zipWith_range_map {β γ} (f : Nat → β → γ) (l : List Nat) (G : Nat → β) :
    List.zipWith f l ((List.range l.length).map G) = (List.range l.length).map (fun c => f (l.getD c 0) (G c)) := by
  apply List.ext_getElem
  · simp only [List.length_zipWith, List.length_map, List.length_range, Std.le_refl, Nat.min_eq_left,
      List.getD_eq_getElem?_getD]
  · intro i h1 h2
    simp only [List.length_map, List.length_range] at h2
    simp only [List.getElem_zipWith, List.getElem_map, List.getElem_range, List.getD_eq_getElem?_getD,
      List.getElem?_eq_getElem h2, Option.getD_some]

theorem pileup_buffers (sizes : List Nat) (ivs : List C10.Iv) :
    List.zipWith pileup1 sizes ((List.range sizes.length).map fun c => ivs.filter fun iv => iv.c = c) =
      (List.range sizes.length).map (C10.specPileupChrom sizes ivs) := by
  rw [zipWith_range_map]; rfl

/-- `C10.global_is_concat` and `C10.cover_local` together -/
theorem pileupGlobal_spec (sizes : List Nat) (ivs : List C10.Iv) (hv : ∀ iv ∈ ivs, iv.valid sizes = true) :
    ∃ dense, C10.pileupGlobal sizes ivs = some dense ∧
      C10.toDict sizes dense = (List.range sizes.length).map (C10.specPileupChrom sizes ivs) ∧
      dense = ((List.range sizes.length).map (C10.specPileupChrom sizes ivs)).flatten := by
  have hp := (C10.global_is_concat sizes ivs hv).1
  have hd := (C10.cover_local sizes ivs hv).1
  rw [hp, Option.map_some] at hd
  exact ⟨_, hp, Option.some.inj hd, rfl⟩

/-- **per-chromosome streaming = whole-genome in memory**: for every chromosome-sorted set of valid entries and every
chunking (cuts inside a chromosome, chunks of one entry, chromosomes without entries) the concatenated per-chromosome
pile-ups (masks) are the in-memory pile-up (mask) over the concatenated genome; the streamed `sum` is its sum -/
theorem per_chromosome (sizes : List Nat) (ivs : List C10.Iv) (cs : List (List C10.Iv)) (hcs : IsChunking ivs cs)
    (hs : ivs.Pairwise (fun a b => a.c ≤ b.c)) (hv : ∀ iv ∈ ivs, iv.valid sizes = true) :
    streamPileup sizes cs = C10.pileupGlobal sizes ivs ∧ streamMask sizes cs = C10.maskGlobal sizes ivs ∧
    streamPileupSum sizes cs = (C10.pileupGlobal sizes ivs).map List.sum := by
  have hb := chromBuffers_spec sizes ivs cs hcs hs hv
  obtain ⟨dense, hp, _, rfl⟩ := pileupGlobal_spec sizes ivs hv
  have hzm : List.zipWith mask1 sizes ((List.range sizes.length).map (fun c => ivs.filter (fun iv => iv.c = c)))
      = (List.range sizes.length).map (C10.specMaskChrom sizes ivs) := by
    rw [zipWith_range_map]; rfl
  refine ⟨?_, ?_, ?_⟩
  · simp only [streamPileup, hb, Option.map_some, pileup_buffers, hp]
  · simp only [streamMask, hb, Option.map_some, hzm, (C10.global_is_concat sizes ivs hv).2.1]
  · simp only [streamPileupSum, hb, Option.map_some, pileup_buffers, hp, Option.some.injEq]
    generalize (List.range sizes.length).map (C10.specPileupChrom sizes ivs) = A
    induction A with
    | nil => rfl
    | cons a A ih => simp [List.sum_append, ih]

/-- **the per-chromosome arrays and their histogram** (`pileup_data`, `pileup_hist`): the streamed arrays are the in-memory
pile-up cut at the chromosome borders, and (genome with at least one chromosome) the histograms added up by
`histogram_reduce` are the histogram of the whole -/
theorem per_chromosome_data_hist (edges : List Int) (sizes : List Nat) (ivs : List C10.Iv) (cs : List (List C10.Iv))
    (hcs : IsChunking ivs cs) (hs : ivs.Pairwise (fun a b => a.c ≤ b.c)) (hv : ∀ iv ∈ ivs, iv.valid sizes = true) :
    ∃ dense, C10.pileupGlobal sizes ivs = some dense ∧
      streamPileupData sizes cs = some (C10.toDict sizes dense) ∧
      (sizes ≠ [] → streamPileupHist edges sizes cs = .ok (histogram edges (dense.map Int.ofNat), edges)) := by
  have hb := chromBuffers_spec sizes ivs cs hcs hs hv
  obtain ⟨dense, hp, hd, hflat⟩ := pileupGlobal_spec sizes ivs hv
  refine ⟨dense, hp, by simp only [streamPileupData, hb, Option.map_some, pileup_buffers, hd], fun hne => ?_⟩
  have := histogramReduce_chunks edges (((List.range sizes.length).map (C10.specPileupChrom sizes ivs)).map
    fun d => d.map Int.ofNat) (by cases sizes with | nil => exact absurd rfl hne | cons a t => simp [List.range_succ_eq_map])
  simp only [streamPileupHist, hb, pileup_buffers, List.map_map, Function.comp_def] at this ⊢
  rw [this, hflat, List.map_flatten, List.map_map]; rfl

example : IsChunking ([{ c := 0, s := 3, e := 5 }, { c := 1, s := 0, e := 2 }] : List C10.Iv)
    [[{ c := 0, s := 3, e := 5 }], [{ c := 1, s := 0, e := 2 }]] := rfl
example : streamPileup [5, 5] [[{ c := 0, s := 3, e := 5 }], [{ c := 1, s := 0, e := 2 }]]
    = some [0, 0, 0, 1, 1, 1, 1, 0, 0, 0] := by decide +kernel
example : chromBuffers 3 [[{ c := 0, s := 3, e := 5 }], [{ c := 2, s := 0, e := 2 }]]
    = some [[{ c := 0, s := 3, e := 5 }], [], [{ c := 2, s := 0, e := 2 }]] := by decide +kernel

/-- **windows around streamed locations**: `get_location('start').get_windows(...)` gives, entry for entry, the window of
the in-memory call (`C10.windowG` with `C10.flanks`), for `flank=` and for `window_size=` of either parity -/
theorem per_chromosome_windows (sizes : List Nat) (flank : Option Nat) (wsize : Nat) (ivs : List C10.Iv)
    (cs : List (List C10.Iv)) (hcs : IsChunking ivs cs) (hs : ivs.Pairwise (fun a b => a.c ≤ b.c))
    (hv : ∀ iv ∈ ivs, iv.valid sizes = true) :
    streamWindows sizes flank wsize cs =
      some (ivs.map (fun iv => C10.windowG sizes (C10.flanks flank wsize) iv.c iv.s true)) := by
  simp only [streamWindows, chromBuffers_spec sizes ivs cs hcs hs hv, Option.map_some, Option.some.injEq]
  rw [← List.map_flatten, filters_flatten sizes ivs hs hv]

/-- `2 * flank + 1` resp. `window_size` positions before clipping, the position in the middle (for even sizes the right
one of the two middle positions) -/
theorem flanks_spec (flank : Option Nat) (wsize : Nat) :
    let fl := C10.flanks flank wsize
    (∀ k, flank = some k → fl = ((k : Int), (k : Int) + 1)) ∧
    (flank = none → fl.1 + fl.2 = wsize ∧ fl.1 = ((wsize / 2 : Nat) : Int) ∧ (wsize % 2 = 0 → fl.1 = fl.2) ∧
      (wsize % 2 = 1 → fl.2 = fl.1 + 1)) := by
  refine ⟨fun k hk => by subst hk; rfl, fun h => ?_⟩
  subst h
  refine ⟨?_, rfl, fun h => ?_, fun h => ?_⟩ <;> simp only [C10.flanks]
  · rw [← Int.natCast_add, ← Nat.add_assoc, ← Nat.two_mul, Nat.div_add_mod]
  · rw [h, Nat.add_zero]
  · rw [h]; rfl

/-- **values under intervals**: slicing each chromosome's streamed pile-up under that chromosome's (sorted, valid) peaks
gives, row for row, the slices of the whole-genome in-memory pile-up under the peaks' global coordinates -/
theorem per_chromosome_values (stranded : Bool) (sizes : List Nat) (ivs peaks : List C10.Iv) (cs pcs : List (List C10.Iv))
    (hcs : IsChunking ivs cs) (hs : ivs.Pairwise (fun a b => a.c ≤ b.c)) (hv : ∀ iv ∈ ivs, iv.valid sizes = true)
    (hpcs : IsChunking peaks pcs) (hps : peaks.Pairwise (fun a b => a.c ≤ b.c))
    (hpv : ∀ iv ∈ peaks, iv.valid sizes = true) :
    ∃ dense, C10.pileupGlobal sizes ivs = some dense ∧
      streamValues stranded sizes cs pcs = omap (C10.extractRow sizes dense stranded) peaks := by
  obtain ⟨dense, hp, _, rfl⟩ := pileupGlobal_spec sizes ivs hv
  refine ⟨_, hp, ?_⟩
  generalize harr : (List.range sizes.length).map (C10.specPileupChrom sizes ivs) = arrays
  have hlens : arrays.map List.length = sizes := by
    rw [← harr, List.map_map]
    exact (List.map_congr_left fun c _ => by
      rw [Function.comp_apply, C10.specPileupChrom, List.length_map, List.length_range, C10.size]).trans
      (map_range_getD sizes 0)
  -- in memory every row is the slice of its own chromosome's array (`C10.extract_reversed`)
  rw [omap_some_map _ (C10.specExtractRow arrays stranded) peaks fun iv hiv => by
    have := C10.extract_reversed arrays stranded iv (by rw [hlens]; exact hpv iv hiv)
    rwa [hlens] at this]
  simp only [streamValues, chromBuffers_spec sizes ivs cs hcs hs hv, chromBuffers_spec sizes peaks pcs hpcs hps hpv,
    pileup_buffers, harr, Option.some.injEq, valuesRows]
  refine Eq.trans ?_ (congrArg (List.map _) (filters_flatten sizes peaks hps hpv))
  rw [← harr, zipWith_map_map, List.map_flatten, List.map_map]
  refine congrArg List.flatten (List.map_congr_left fun c hc => List.map_congr_left fun iv hiv => ?_)
  have hc' : iv.c = c := by simpa using (List.mem_filter.mp hiv).2
  simp only [C10.specExtractRow, hc', List.getD_eq_getElem?_getD, List.getElem?_map,
    List.getElem?_range (List.mem_range.mp hc), Option.map_some, Option.getD_some]

end C11
