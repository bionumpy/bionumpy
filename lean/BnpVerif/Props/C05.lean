import BnpVerif.Props.C05Core
import BnpVerif.Props.C05Laws
import BnpVerif.Props.C05More
/-! C05 property theorems: `C05Core` (bisimulation lazy three-store table ~ eager column table, step and program theorems,
canonical-bytes equality, refutations of the shipped concatenate / __setattr__), `C05Laws` (the model's notions characterised by
standard list facts; algebraic laws), `C05More` (tables without an overlay keep none and write the source bytes under every
program without assignment; the tie of the buffer abstraction to C04: the extractor denotes a list of rows, `Lazy.index` /
`concatNew` commute with it; chunked = whole read; the size guard is necessary). Only `C05More` imports C04.
Audited theorems: `Audit/C05.lean`. -/
