import BnpVerif.Props.C04Core

/-! C04 — the index semantics pinned by standard list notions, and algebraic laws of the extractor. -/
namespace C04
open PyIdx

theorem sliceBounds_natCast (n a b : Nat) (ha : a ≤ n) (hb : b ≤ n) :
    Py.sliceBounds n (some (a : Int)) (some (b : Int)) 1 = ((a : Int), (b : Int)) := by
  have h (x : Nat) (hx : x ≤ n) : sliceStart n (some (x : Int)) 1 = x := by
    simp only [sliceStart, clamp, Int.one_pos, if_true, if_neg (Int.not_lt.mpr (Int.natCast_nonneg x)),
      if_neg (Int.not_lt.mpr (Int.ofNat_le.mpr hx))]
  -- `sliceStop` of a given bound is the same expression as `sliceStart`
  rw [sliceBounds_eq n _ _ (by decide : (1 : Int) ≠ 0), h a ha, show sliceStop n (some (b : Int)) 1 = b from h b hb]

/-- **C04.pyIndex_slice_take_drop** — `l[a:b]` (0 ≤ a ≤ b ≤ len) is `take (b-a) (drop a l)` -/
theorem pyIndex_slice_take_drop {α} (l : List α) (a b : Nat) (hab : a ≤ b) (hb : b ≤ l.length) :
    pyIndex l (.slice (some (a : Int)) (some (b : Int)) 1) = some ((l.drop a).take (b - a)) := by
  rw [pyIndex_slice l _ _ (by decide), Py.slice_take_drop, sliceBounds_natCast _ a b (Nat.le_trans hab hb) hb,
    Int.toNat_natCast, Int.toNat_sub]

/-- **C04.pyIndex_full** — `l[:]` is `l` -/
theorem pyIndex_full {α} (l : List α) : pyIndex l (.slice none none 1) = some l :=
  (pyIndex_slice l _ _ (by decide)).trans (Py.slice_full l)

/-- **C04.pyIndex_reverse** — `l[::-1]` is `l.reverse` -/
theorem pyIndex_reverse {α} (l : List α) : pyIndex l (.slice none none (-1)) = some l.reverse :=
  (pyIndex_slice l _ _ (by decide)).trans (Py.slice_reverse l)

/-- **C04.pyIndex_mask_filter** — boolean-mask indexing keeps exactly the elements whose flag is set -/
theorem pyIndex_mask_filter {α} (l : List α) (m : List Bool) :
    pyIndex l (.mask m) = if m.length = l.length then some (((l.zip m).filter (·.2)).map (·.1)) else none := by
  rw [pyIndex_mask]
  split
  · exact Py.mask_filter l m ‹_›
  · rfl

/-- **C04.norm_spec** — Python index normalisation: `i` or `len + i`, inside the axis -/
theorem norm_spec (n : Nat) (i : Int) (k : Nat) :
    norm n i = some k ↔ ((0 ≤ i ∧ i = k) ∨ (i < 0 ∧ i + n = k)) ∧ k < n := by
  refine ⟨fun h => ⟨?_, norm_lt h⟩, fun ⟨h, hk⟩ => (Py.normIdx_eq_some_iff n i k).2 ?_⟩
  · exact ((Py.normIdx_eq_some_iff n i k).1 h).imp (fun h => ⟨h.1, h.2.2.symm⟩)
      fun h => ⟨h.1, (Int.add_comm i n).trans h.2.2.symm⟩
  · have hk := Int.ofNat_lt.2 hk
    rcases h with ⟨h0, rfl⟩ | ⟨h0, h1⟩
    · exact .inl ⟨h0, hk, rfl⟩
    · exact .inr ⟨h0, by omega, by omega⟩

/-- **C04.pyIndex_ints_none_iff** — an integer-list index fails exactly when one of its entries is outside the axis -/
theorem pyIndex_ints_none_iff {α} (l : List α) (is : List Int) :
    pyIndex l (.ints is) = none ↔ ∃ i ∈ is, norm l.length i = none := by
  rw [pyIndex, Idx.toList, Option.map_eq_none_iff, normAll_eq]
  exact Base.omap_eq_none_iff

/-- **C04.pyIndex_ints_get** — when it succeeds, the j-th result is the element at the j-th (normalised) position -/
theorem pyIndex_ints_get {α} (l : List α) (is : List Int) (r : List α) (h : pyIndex l (.ints is) = some r) :
    r.length = is.length ∧ ∀ j, j < is.length → r[j]? = ((is[j]?).bind (norm l.length)).bind (fun k => l[k]?) := by
  obtain ⟨ks, hks, hr⟩ := Option.bind_eq_some_iff.1 ((pyIndex_ints l is).symm.trans h)
  exact ⟨(Base.omap_length _ _ _ hr).trans (Base.omap_length _ _ _ hks), fun j _ => by
    rw [Base.omap_getElem? _ _ _ hr, Base.omap_getElem? _ _ _ hks]; rfl⟩

/-- **C04.select_select** — two selections in a row (`d[::2][1:3]`, no write in between) are ONE selection by the composed
positions -/
theorem select_select (e : Ext) (h : LenWF e) (a b : List Nat) (ha : ∀ k ∈ a, k < e.len) :
    (e.select a).select b = e.select (gather a b) := by
  obtain ⟨h1, h2, h3⟩ := h
  simp only [Ext.select]
  rw [gather_gather _ _ _ ha, gather_gather _ _ _ (h1 ▸ ha), gather_gather _ _ _ (h2 ▸ ha), gather_gather _ _ _ (h3 ▸ ha)]

/-- **C04.touch_idempotent** — asking for the bytes twice compacts once -/
theorem touch_idempotent (e : Ext) : e.touch.touch = e.touch := by
  cases hc : e.contiguous <;> simp only [Ext.touch, hc, if_true, Bool.false_eq_true, if_false]
  rfl

/-- **C04.bytes_touch** — writing does not change what a later write produces -/
theorem bytes_touch (e : Ext) : e.touch.bytes = e.bytes := by
  rw [Ext.bytes, touch_idempotent]; rfl

/-- **C04.index_none_iff** — indexing the extractor fails exactly when NumPy indexing of an axis of its length fails -/
theorem index_none_iff (e : Ext) (ix : Idx) : e.index ix = none ↔ ix.toList e.len = none := Option.map_eq_none_iff

/-- **C04.program_none_iff** — a program fails on the extractors exactly when it fails on the lists of records -/
theorem program_none_iff (tabs : List Ext) (ht : ∀ t ∈ tabs, Inv t) (p : Prog) :
    p.evalExt tabs = none ↔ p.evalSpec (tabs.map Ext.abs) = none := by
  rw [← (program_abs tabs ht p).2, Option.map_eq_none_iff]

/-- **C04.select_all_bytes** — selecting every record in order writes the whole table -/
theorem select_all_bytes (e : Ext) (h : Inv e) : (e.select (List.range e.len)).bytes = specBytes e.abs := by
  rw [bytes_spec _ (inv_select e h.1 _ fun k hk => List.mem_range.mp hk), abs_select e h.1.1, ← abs_length e h.1.1,
    gather_range]

example : pyIndex [10, 11, 12, 13] (.slice (some 1) (some 3) 1) = some [11, 12] := by decide +kernel
example : pyIndex [10, 11, 12] (.mask [true, false, true]) = some [10, 12] := by decide +kernel
example : pyIndex [10, 11, 12] (.ints [-1, 0, 0]) = some [12, 10, 10] := by decide +kernel
example : pyIndex [10, 11, 12] (.ints [3]) = none := by decide +kernel
example : norm 5 (-2) = some 3 := by decide +kernel
example : (demo.select [2, 0, 1]).select [1, 1] = demo.select [0, 0] := by
  rw [demo, String.toList_ofList]
  decide +kernel

/-- **C04.pyIndex_slice_general** — a slice with any step s ≠ 0 and any bounds selects, with `start`/`stop` as CPython's
`slice.indices(len)`: for s > 0 the elements at `start + k·s` for exactly the k with `start + k·s < stop`, for s < 0 those at
`start − k·|s|` with `stop < start − k·|s|`, in this order -/
theorem pyIndex_slice_general {α} (l : List α) (a b : Option Int) (s : Int) (hs : s ≠ 0) :
    ∃ r, pyIndex l (.slice a b s) = some r ∧ ∀ k : Nat,
      r[k]? =
        if 0 < s then
          (if sliceStart l.length a s + ((k * s.toNat : Nat) : Int) < sliceStop l.length b s
            then l[(sliceStart l.length a s + ((k * s.toNat : Nat) : Int)).toNat]? else none)
        else
          (if sliceStop l.length b s < sliceStart l.length a s - ((k * (-s).toNat : Nat) : Int)
            then l[(sliceStart l.length a s - ((k * (-s).toNat : Nat) : Int)).toNat]? else none) := by
  obtain ⟨r, hr⟩ := Option.isSome_iff_exists.1 ((Py.pick_isSome_iff l _).2 (Py.sliceIdx_lt l.length a b s))
  refine ⟨r, (pyIndex_slice l a b hs).trans hr, fun k => ?_⟩
  rw [Base.omap_getElem? _ _ _ hr, Py.getElem?_sliceIdx, sliceBounds_eq _ a b hs]
  -- the same condition and position, `k·s` written with natural numbers for the sign of `s`
  by_cases hpos : 0 < s
  · simp only [Py.Before_iff hs, hpos, ↓reduceIte, Int.natCast_mul, Int.toNat_of_nonneg (Int.le_of_lt hpos)]
    split <;> rfl
  · have hneg : 0 < -s := Int.neg_pos_of_neg ((Int.lt_or_gt_of_ne hs).resolve_right hpos)
    simp only [Py.Before_iff hs, hpos, ↓reduceIte, Int.natCast_mul, Int.toNat_of_nonneg (Int.le_of_lt hneg), Int.mul_neg,
      Int.sub_neg, gt_iff_lt]
    split <;> rfl

/-- **C04.index_slice_general** — slicing the extractor with any bounds and any step is slicing the list of records it denotes:
the slice case of `select_refines`, whose list side `pyIndex_slice_general` spells out -/
theorem index_slice_general (e : Ext) (h : LenWF e) (a b : Option Int) (s : Int) :
    (e.index (.slice a b s)).map Ext.abs = pyIndex e.abs (.slice a b s) := select_refines e h _

example : pyIndex [0, 1, 2, 3, 4, 5, 6] (.slice none none 2) = some [0, 2, 4, 6] := by decide +kernel
example : pyIndex [0, 1, 2, 3, 4, 5, 6] (.slice (some 5) (some 0) (-2)) = some [5, 3, 1] := by decide +kernel

end C04
