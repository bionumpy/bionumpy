import BnpVerif.Model.C11
/-! C11, computation graph, the run: nodes pull buffer `i` from their arguments in lock step. `At` / `Mixed` say where
the nodes of a set closed under arguments stand between two rounds, `getBuffer_step` what one `_get_buffer` call does;
from it lock step for one and several roots, `get_iter` (`iterate_spec`), construction and `compute` as the
concatenation of the root's values `valAt` on the buffers. -/
namespace C11
open Base

def argNodes : Arg → List Nat
  | .node m => [m]
  | .const _ => []

def nodeArgs : NodeDef → List Nat
  | .stream _ => []
  | .comp _ a b => argNodes a ++ argNodes b

/-- construction order: the arguments of a node were constructed before it -/
def WFG (g : List NodeDef) : Prop := ∀ n d, g[n]? = some d → ∀ m ∈ nodeArgs d, m < n

/-- every `ComputationNode` has at least one node among its arguments (NumPy only dispatches to a
node when one is present) -/
def HasNodeArg (g : List NodeDef) : Prop := ∀ (n : Nat) (f : Fn) (a b : Arg), g[n]? = some (NodeDef.comp f a b) → argNodes a ++ argNodes b ≠ []

/-! ### the value of a node on the `i`-th buffers (`valAt`) and in memory (`evalMem`) -/

theorem argValWith_congr (r1 r2 : Nat → Option (List Int)) (n : Nat) (x : Arg)
    (h : ∀ m, m < n → r1 m = r2 m) : argValWith r1 n x = argValWith r2 n x := by
  cases x with
  | const c => rfl
  | node m =>
    simp only [argValWith]
    split
    · rename_i hm; rw [h m hm]
    · rfl

theorem argValWith_node_some {r : Nat → Option (List Int)} {n m : Nat} {va : List Int ⊕ Int}
    (h : argValWith r n (.node m) = some va) : m < n ∧ ∃ u, r m = some u ∧ va = .inl u := by
  rw [argValWith] at h
  split at h
  · next hm => obtain ⟨u, hu, rfl⟩ := Option.map_eq_some_iff.mp h; exact ⟨hm, u, hu, rfl⟩
  · nomatch h

/-- `valAt` and `evalMem` are one recursion over the graph with different values at the streams; its fuel does
not matter beyond the node's index -/
theorem eval_fuel (g : List NodeDef) (leaf : List (List Int) → Option (List Int)) (F : Nat → Nat → Option (List Int))
    (hF : ∀ f n, F (f + 1) n = match g[n]? with
      | some (.stream cs) => leaf cs
      | some (.comp fn a b) =>
        (argValWith (F f) n a).bind fun va => (argValWith (F f) n b).map fun vb => applyFn fn va vb
      | none => none) :
    ∀ f1 f2 n, n < f1 → n < f2 → F f1 n = F f2 n := by
  intro f1
  induction f1 with
  | zero => exact fun _ _ h => absurd h (Nat.not_lt_zero _)
  | succ a ih =>
    intro f2 n h1 h2
    cases f2 with
    | zero => exact absurd h2 (Nat.not_lt_zero n)
    | succ b =>
      have hlt := fun m (hm : m < n) =>
        ih b m (Nat.lt_of_lt_of_le hm (Nat.le_of_lt_succ h1)) (Nat.lt_of_lt_of_le hm (Nat.le_of_lt_succ h2))
      rw [hF, hF]
      cases g[n]? with
      | none => rfl
      | some d =>
        cases d with
        | stream cs => rfl
        | comp fn x y =>
          simp only
          rw [argValWith_congr (F a) (F b) n x hlt, argValWith_congr (F a) (F b) n y hlt]

theorem valAt_fuel (g : List NodeDef) (i : Nat) (f1 f2 n : Nat) (h1 : n < f1) (h2 : n < f2) :
    valAt g i f1 n = valAt g i f2 n :=
  eval_fuel g (·[i]?) (valAt g i) (fun _ _ => rfl) f1 f2 n h1 h2

theorem evalMem_fuel (g : List NodeDef) (f1 f2 n : Nat) (h1 : n < f1) (h2 : n < f2) :
    evalMem g f1 n = evalMem g f2 n :=
  eval_fuel g (fun cs => some cs.flatten) (evalMem g) (fun _ _ => rfl) f1 f2 n h1 h2

theorem valAt_stream {g : List NodeDef} {n : Nat} {cs : List (List Int)} (h : g[n]? = some (.stream cs)) (i : Nat) :
    valAt g i (n + 1) n = cs[i]? := by
  simp only [valAt, h]

theorem valAt_comp {g : List NodeDef} {n : Nat} {f : Fn} {a b : Arg} (h : g[n]? = some (.comp f a b)) (i : Nat) :
    valAt g i (n + 1) n =
      (argValWith (valAt g i n) n a).bind fun va => (argValWith (valAt g i n) n b).map fun vb => applyFn f va vb := by
  simp only [valAt, h]

theorem evalMem_stream {g : List NodeDef} {n : Nat} {cs : List (List Int)} (h : g[n]? = some (.stream cs)) :
    evalMem g (n + 1) n = some cs.flatten := by
  simp only [evalMem, h]

theorem evalMem_comp {g : List NodeDef} {n : Nat} {f : Fn} {a b : Arg} (h : g[n]? = some (.comp f a b)) :
    evalMem g (n + 1) n =
      (argValWith (evalMem g n) n a).bind fun va => (argValWith (evalMem g n) n b).map fun vb => applyFn f va vb := by
  simp only [evalMem, h]

theorem argValWith_valAt_node (g : List NodeDef) (i : Nat) {m n : Nat} (h : m < n) :
    argValWith (valAt g i n) n (.node m) = (valAt g i (m + 1) m).map .inl := by
  rw [argValWith, if_pos h, valAt_fuel g i n (m + 1) m h (Nat.lt_succ_self m)]

theorem argValWith_evalMem_node (g : List NodeDef) {m n : Nat} (h : m < n) :
    argValWith (evalMem g n) n (.node m) = (evalMem g (m + 1) m).map .inl := by
  rw [argValWith, if_pos h, evalMem_fuel g n (m + 1) m h (Nat.lt_succ_self m)]

/-! ### one `_get_buffer` call -/

@[simp] theorem idxOk_same (i : Nat) : idxOk (some i) i = true := by simp [idxOk]
@[simp] theorem idxOk_next (i : Nat) : idxOk (some i) (i + 1) = true := by simp [idxOk]
@[simp] theorem needsAdvance_same (i : Nat) : needsAdvance (some i) i = false := by simp [needsAdvance]
@[simp] theorem needsAdvance_next (i : Nat) : needsAdvance (some i) (i + 1) = true := by simp [needsAdvance]

theorem getBuffer_stream {g : List NodeDef} {st : GState} {n i : Nat} {cs : List (List Int)} {s : NodeState}
    (fuel : Nat) (hd : g[n]? = some (.stream cs)) (hs : st[n]? = some s) (hok : idxOk s.idx i = true)
    (hadv : needsAdvance s.idx i = true) :
    getBuffer g (fuel + 1) st n i = match s.rest with
      | [] => .error .stop
      | b :: bs => .ok (st.set n { idx := some i, cur := b, rest := bs, pulls := s.pulls + 1 }, b) := by
  simp only [getBuffer, hd, hs, hok, hadv, Bool.not_true, Bool.false_eq_true, ↓reduceIte]
  rfl

theorem getBuffer_comp {g : List NodeDef} {st st1 st2 : GState} {n i fuel : Nat} {f : Fn} {a b : Arg}
    {s s2 : NodeState} {va vb : List Int ⊕ Int} (hd : g[n]? = some (.comp f a b)) (hs : st[n]? = some s)
    (hok : idxOk s.idx i = true) (hadv : needsAdvance s.idx i = true)
    (ha : evalArg (fun st m => getBuffer g fuel st m i) n st a = .ok (st1, va))
    (hb : evalArg (fun st m => getBuffer g fuel st m i) n st1 b = .ok (st2, vb)) (hs2 : st2[n]? = some s2) :
    getBuffer g (fuel + 1) st n i =
      .ok (st2.set n { s2 with idx := some i, cur := applyFn f va vb }, applyFn f va vb) := by
  simp only [getBuffer, hd, hs, hok, hadv, ha, hb, hs2, Bool.not_true, Bool.false_eq_true, ↓reduceIte]

/-- node `n` is at buffer index `i`, holds the right buffer, and (stream) was pulled exactly `i+1` times -/
def At (g : List NodeDef) (st : GState) (i n : Nat) : Prop :=
  ∃ s d v, st[n]? = some s ∧ g[n]? = some d ∧ s.idx = some i ∧ valAt g i (n + 1) n = some v ∧ s.cur = v ∧
    (∀ cs, d = .stream cs → s.rest = cs.drop (i + 1) ∧ s.pulls = i + 1)

theorem At_congr (g : List NodeDef) (st st' : GState) (i n : Nat) (h : st'[n]? = st[n]?) (ha : At g st i n) :
    At g st' i n := by
  obtain ⟨s, d, v, h1, h2⟩ := ha
  exact ⟨s, d, v, by rw [h, h1], h2⟩

theorem At_idx_unique (g : List NodeDef) (st : GState) (i j n : Nat) (h1 : At g st i n) (h2 : At g st j n) : i = j := by
  obtain ⟨s, _, _, hs, _, hi, _⟩ := h1
  obtain ⟨s', _, _, hs', _, hj, _⟩ := h2
  cases hs.symm.trans hs'
  exact Option.some.inj (hi.symm.trans hj)

theorem getBuffer_same (g : List NodeDef) (st : GState) (i n fuel : Nat) (h : At g st i n) :
    ∃ v, getBuffer g (fuel + 1) st n i = .ok (st, v) ∧ valAt g i (n + 1) n = some v := by
  obtain ⟨s, d, v, hs, hd, hidx, hv, hcur, _⟩ := h
  exact ⟨v, by cases d <;> simp only [getBuffer, hd, hs, hidx, idxOk_same, Bool.not_true, Bool.false_eq_true, ↓reduceIte,
    needsAdvance_same, Bool.not_false, hcur], hv⟩

/-- between two complete rounds, on a set `R` of nodes closed under arguments: every node is at
index `i` or already at `i+1`, and a node at `i+1` has all its arguments at `i+1` -/
def Mixed (g : List NodeDef) (st : GState) (i : Nat) (R : Nat → Prop) : Prop :=
  (∀ n, R n → At g st i n ∨ At g st (i + 1) n) ∧
  (∀ n d, R n → At g st (i + 1) n → g[n]? = some d → ∀ m ∈ nodeArgs d, At g st (i + 1) m)

theorem mixed_of_level (g : List NodeDef) (st : GState) (i : Nat) (R : Nat → Prop) (h : ∀ n, R n → At g st i n) :
    Mixed g st i R :=
  ⟨fun n hn => .inl (h n hn), fun n _ hn hat _ _ _ =>
    absurd (At_idx_unique g st i (i + 1) n (h n hn) hat) (Nat.ne_of_lt (Nat.lt_succ_self i))⟩

theorem mixed_set (g : List NodeDef) (st : GState) (i : Nat) (R : Nat → Prop) (n : Nat) (s' : NodeState)
    (hm : Mixed g st i R) (hi : At g st i n) (hat : At g (st.set n s') (i + 1) n)
    (hargs : ∀ d, g[n]? = some d → ∀ m ∈ nodeArgs d, At g st (i + 1) m ∧ m ≠ n) :
    Mixed g (st.set n s') i R ∧ (∀ j, At g st (i + 1) j → At g (st.set n s') (i + 1) j) := by
  have mono : ∀ j, At g st (i + 1) j → At g (st.set n s') (i + 1) j := by
    intro j hj
    by_cases hjn : j = n
    · exact absurd (At_idx_unique g st i (i + 1) n hi (hjn ▸ hj)) (Nat.ne_of_lt (Nat.lt_succ_self i))
    · exact At_congr g st _ (i + 1) j (List.getElem?_set_ne (Ne.symm hjn)) hj
  refine ⟨⟨?_, ?_⟩, mono⟩
  · intro j hj
    by_cases hjn : j = n
    · subst hjn; exact Or.inr hat
    · rcases hm.1 j hj with h | h
      · exact Or.inl (At_congr g st _ i j (List.getElem?_set_ne (Ne.symm hjn)) h)
      · exact Or.inr (mono j h)
  · intro j d hj hatj hd m hmem
    by_cases hjn : j = n
    · subst hjn
      exact mono m (hargs d hd m hmem).1
    · exact mono m (hm.2 j d hj (At_congr g _ st (i + 1) j (List.getElem?_set_ne (Ne.symm hjn)).symm hatj) hd m hmem)

/-- what one `_get_buffer(i+1)` call on node `n` achieves; `frame` (nodes above `n` untouched) is what keeps a node's own
state while its arguments are evaluated -/
structure StepOut (g : List NodeDef) (st : GState) (i : Nat) (R : Nat → Prop) (n : Nat) (st' : GState) (v : List Int) : Prop where
  val : valAt g (i + 1) (n + 1) n = some v
  mixed : Mixed g st' i R
  at_n : At g st' (i + 1) n
  mono : ∀ j, At g st (i + 1) j → At g st' (i + 1) j
  frame : ∀ j, n < j → st'[j]? = st[j]?

/-- `getBuffer_step` as a predicate of the fuel: `evalArg_step` takes the induction hypothesis as an argument -/
def StepSpec (g : List NodeDef) (i : Nat) (R : Nat → Prop) (fuel : Nat) : Prop :=
  ∀ n st, n < fuel → R n → Mixed g st i R →
    ∃ st' v, getBuffer g fuel st n (i + 1) = .ok (st', v) ∧ StepOut g st i R n st' v

/-- a node argument is one `_get_buffer(i+1)` call (`ih`), a constant changes nothing -/
theorem evalArg_step (g : List NodeDef) (i : Nat) (R : Nat → Prop) (fuel : Nat) (ih : StepSpec g i R fuel)
    (n : Nat) (hn : n ≤ fuel) (x : Arg) (hx : ∀ m ∈ argNodes x, m < n ∧ R m) (st : GState) (hm : Mixed g st i R) :
    ∃ st' va, evalArg (fun st m => getBuffer g fuel st m (i + 1)) n st x = .ok (st', va) ∧
      argValWith (valAt g (i + 1) n) n x = some va ∧ Mixed g st' i R ∧
      (∀ j, At g st (i + 1) j → At g st' (i + 1) j) ∧ (∀ j, n ≤ j → st'[j]? = st[j]?) ∧
      (∀ m ∈ argNodes x, At g st' (i + 1) m) := by
  cases x with
  | const c => exact ⟨st, .inr c, rfl, rfl, hm, fun _ h => h, fun _ _ => rfl, nofun⟩
  | node m =>
    obtain ⟨hmn, hRm⟩ := hx m List.mem_cons_self
    obtain ⟨st', v, hget, hout⟩ := ih m st (Nat.lt_of_lt_of_le hmn hn) hRm hm
    refine ⟨st', .inl v, ?_, ?_, hout.mixed, hout.mono, fun j hj => hout.frame j (Nat.lt_of_lt_of_le hmn hj),
      fun m' hm' => ?_⟩
    · simp only [evalArg, hmn, ↓reduceIte, hget]
    · rw [argValWith_valAt_node g (i + 1) hmn, hout.val]; rfl
    · rw [List.mem_singleton.mp hm']; exact hout.at_n

/-- one `_get_buffer(i+1)` call between two rounds, on any set `R` of nodes closed under arguments: a node already at
`i+1` (shared by two parents) returns its buffer and pulls nothing, a node at `i` advances after its arguments.
Induction on the fuel, which bounds the node index. -/
theorem getBuffer_step (g : List NodeDef) (hg : WFG g) (R : Nat → Prop)
    (hR : ∀ n d, R n → g[n]? = some d → ∀ m ∈ nodeArgs d, R m) (i : Nat)
    (hch : ∀ n cs, R n → g[n]? = some (.stream cs) → i + 1 < cs.length) (fuel : Nat) : StepSpec g i R fuel := by
  induction fuel with
  | zero => exact fun n _ h => absurd h (Nat.not_lt_zero n)
  | succ fuel ih =>
    intro n st hnf hRn hm
    rcases hm.1 n hRn with hiAt | hiAt
    · obtain ⟨s, d, _, hs, hd, hidx, _, _, hstream⟩ := id hiAt  -- `id`: `hiAt` itself is needed again below
      have hnlt : n < st.length := (List.getElem?_eq_some_iff.mp hs).1
      have hok : idxOk s.idx (i + 1) = true := hidx ▸ idxOk_next i
      have hadv : needsAdvance s.idx (i + 1) = true := hidx ▸ needsAdvance_next i
      cases d with
      | stream cs =>
        obtain ⟨hrest, hpulls⟩ := hstream cs rfl
        have hlen := hch n cs hRn hd
        have hval : valAt g (i + 1) (n + 1) n = some cs[i + 1] := by
          rw [valAt_stream hd]; exact List.getElem?_eq_getElem hlen
        have hat : At g (st.set n ⟨some (i + 1), cs[i + 1], cs.drop (i + 2), s.pulls + 1⟩) (i + 1) n :=
          ⟨_, _, _, List.getElem?_set_self hnlt, hd, rfl, hval, rfl, fun _ e => by cases e; exact ⟨rfl, congrArg (· + 1) hpulls⟩⟩
        obtain ⟨hmix, hmono⟩ := mixed_set g st i R n _ hm hiAt hat fun d' hd' m hmem => by
          rw [hd] at hd'; cases hd'; nomatch hmem
        refine ⟨_, _, ?_, hval, hmix, hat, hmono, fun j hj => List.getElem?_set_ne (Nat.ne_of_lt hj)⟩
        rw [getBuffer_stream fuel hd hs hok hadv, hrest, List.drop_eq_getElem_cons hlen]
      | comp f a b =>
        have hlt : ∀ m ∈ nodeArgs (.comp f a b), m < n := hg n _ hd
        have hRa : ∀ m ∈ nodeArgs (.comp f a b), R m := hR n _ hRn hd
        obtain ⟨st1, va, he1, hva, hm1, hmono1, hfr1, hat1⟩ := evalArg_step g i R fuel ih n (Nat.le_of_lt_succ hnf) a
          (fun m h => ⟨hlt m (List.mem_append_left _ h), hRa m (List.mem_append_left _ h)⟩) st hm
        obtain ⟨st2, vb, he2, hvb, hm2, hmono2, hfr2, hat2⟩ := evalArg_step g i R fuel ih n (Nat.le_of_lt_succ hnf) b
          (fun m h => ⟨hlt m (List.mem_append_right _ h), hRa m (List.mem_append_right _ h)⟩) st1 hm1
        have hs2 : st2[n]? = some s := by rw [hfr2 n (Nat.le_refl _), hfr1 n (Nat.le_refl _), hs]
        have hval : valAt g (i + 1) (n + 1) n = some (applyFn f va vb) := by rw [valAt_comp hd, hva, hvb]; rfl
        have hat : At g (st2.set n { s with idx := some (i + 1), cur := applyFn f va vb }) (i + 1) n :=
          ⟨_, _, _, List.getElem?_set_self (List.getElem?_eq_some_iff.mp hs2).1, hd, rfl, hval, rfl, nofun⟩
        obtain ⟨hmix, hmono⟩ := mixed_set g st2 i R n _ hm2 (At_congr g st st2 i n (hs2.trans hs.symm) hiAt) hat
          fun d' hd' m hmem => by
            rw [hd] at hd'; cases hd'
            exact ⟨(List.mem_append.mp hmem).elim (fun h => hmono2 m (hat1 m h)) (hat2 m), Nat.ne_of_lt (hlt m hmem)⟩
        refine ⟨_, _, getBuffer_comp hd hs hok hadv he1 he2 hs2, hval, hmix, hat,
          fun j hj => hmono j (hmono2 j (hmono1 j hj)), fun j hj => ?_⟩
        rw [List.getElem?_set_ne (Nat.ne_of_lt hj), hfr2 j (Nat.le_of_lt hj), hfr1 j (Nat.le_of_lt hj)]
    · -- already advanced in this round (shared by two parents)
      obtain ⟨v, hget, hv⟩ := getBuffer_same g st (i + 1) n fuel hiAt
      exact ⟨st, v, hget, hv, hm, hiAt, fun _ h => h, fun _ _ => rfl⟩

/-- nodes reachable from the root through arguments -/
inductive Reach (g : List NodeDef) (root : Nat) : Nat → Prop where
  | root : Reach g root root
  | step {n m : Nat} {d : NodeDef} : Reach g root n → g[n]? = some d → m ∈ nodeArgs d → Reach g root m

/-- everything the root depends on stands at buffer index `i` -/
def Level (g : List NodeDef) (root : Nat) (st : GState) (i : Nat) : Prop := ∀ n, Reach g root n → At g st i n

theorem reach_closed (g : List NodeDef) (r : Nat) :
    ∀ n d, Reach g r n → g[n]? = some d → ∀ m ∈ nodeArgs d, Reach g r m :=
  fun _ _ hn hd _ hm => .step hn hd hm

theorem reach_lt (g : List NodeDef) (hg : WFG g) (root : Nat) (hroot : root < g.length) :
    ∀ n, Reach g root n → n < g.length := by
  intro n hn
  induction hn with
  | root => exact hroot
  | step _ hd hm ih => exact Nat.lt_trans (hg _ _ hd _ hm) ih

theorem mixed_reach (g : List NodeDef) (st : GState) (i : Nat) (R : Nat → Prop) (hm : Mixed g st i R) (r : Nat)
    (hR : ∀ n, Reach g r n → R n) (hat : At g st (i + 1) r) : ∀ n, Reach g r n → At g st (i + 1) n := by
  intro n hn
  induction hn with
  | root => exact hat
  | step hr hd hmem ih => exact hm.2 _ _ (hR _ hr) ih hd _ hmem

/-- **lock step**: with everything the root depends on at index `i` and a buffer `i+1` in the streams,
`root._get_buffer(i+1)` succeeds (no assertion fires) and leaves all of it at `i+1`; a stream shared by several
parents is pulled exactly once (its pull count is `i+2`) -/
theorem graph_lockstep (g : List NodeDef) (hg : WFG g) (root : Nat) (st : GState) (i : Nat)
    (hl : Level g root st i)
    (hch : ∀ n cs, Reach g root n → g[n]? = some (.stream cs) → i + 1 < cs.length) :
    ∃ st' v, getBuffer g (root + 1) st root (i + 1) = .ok (st', v) ∧
      valAt g (i + 1) (root + 1) root = some v ∧ Level g root st' (i + 1) := by
  obtain ⟨st', v, hget, hout⟩ := getBuffer_step g hg (Reach g root) (reach_closed g root) i hch
    (root + 1) root st (Nat.lt_succ_self _) .root (mixed_of_level g st i _ hl)
  exact ⟨st', v, hget, hout.val, mixed_reach g st' i _ hout.mixed root (fun _ h => h) hout.at_n⟩

/-- when the streams are exhausted the request raises `StopIteration` before anything is changed -/
theorem graph_stop (g : List NodeDef) (hg : WFG g) (hna : HasNodeArg g) (root : Nat) (st : GState) (i : Nat)
    (hl : Level g root st i)
    (hch : ∀ n cs, Reach g root n → g[n]? = some (.stream cs) → cs.length = i + 1) :
    ∀ fuel n, n < fuel → Reach g root n → getBuffer g fuel st n (i + 1) = .error .stop := by
  intro fuel
  induction fuel with
  | zero => exact fun n h => absurd h (Nat.not_lt_zero n)
  | succ fuel ih =>
    intro n hnf hrn
    obtain ⟨s, d, _, hs, hd, hidx, _, _, hstream⟩ := hl n hrn
    cases d with
    | stream cs =>
      rw [getBuffer_stream fuel hd hs (hidx ▸ idxOk_next i) (hidx ▸ needsAdvance_next i), (hstream cs rfl).1,
        List.drop_eq_nil_of_le (Nat.le_of_eq (hch n cs hrn hd))]
    | comp f a b =>
      -- the first node argument (there is one) raises first
      have hlt : ∀ m ∈ nodeArgs (.comp f a b), m < n := hg n _ hd
      have harg : ∀ m ∈ nodeArgs (.comp f a b), getBuffer g fuel st m (i + 1) = .error .stop :=
        fun m hm => ih m (Nat.lt_of_lt_of_le (hlt m hm) (Nat.le_of_lt_succ hnf)) (.step hrn hd hm)
      cases a with
      | node m =>
        simp only [getBuffer, hd, hs, hidx, idxOk_next, Bool.not_true, Bool.false_eq_true, ↓reduceIte,
          needsAdvance_next, evalArg, hlt m List.mem_cons_self, harg m List.mem_cons_self]
      | const c =>
        cases b with
        | node m => simp only [getBuffer, hd, hs, hidx, idxOk_next, Bool.not_true, Bool.false_eq_true, ↓reduceIte,
          needsAdvance_next, evalArg, hlt m List.mem_cons_self, harg m List.mem_cons_self]
        | const c' => exact absurd rfl (hna n f _ _ hd)

/-! ### `get_iter` -/

/-- `get_iter` of any node (`it`: one root, or the joining node of several) asks for buffer `i`, `i + 1`, … (`step`) until
`StopIteration`. It starts after a request for `i` that led to level `i` (the first one repeats the constructors' index
and changes nothing). Fuel `f + k + 2`: `k + 1` answered requests and the one that stops. -/
theorem iterate_spec {β} (it : Nat → Nat → GState → Except GErr (List β × GState))
    (step : Nat → GState → Except GErr (GState × β))
    (it_ok : ∀ fuel i st st' v, step i st = .ok (st', v) →
      it (fuel + 1) i st = (it fuel (i + 1) st').map fun p => (v :: p.1, p.2))
    (it_stop : ∀ fuel i st, step i st = .error .stop → it (fuel + 1) i st = .ok ([], st))
    (Lv : GState → Nat → Prop) (val : Nat → Option β) (M : Nat)
    (next : ∀ st i, Lv st i → i + 1 < M → ∃ st' v, step (i + 1) st = .ok (st', v) ∧ val (i + 1) = some v ∧ Lv st' (i + 1))
    (stop : ∀ st i, Lv st i → i + 1 = M → step (i + 1) st = .error .stop) :
    ∀ k i st f st1 v, step i st = .ok (st1, v) → val i = some v → Lv st1 i → i + k + 1 = M →
      ∃ vs st', it (f + k + 2) i st = .ok (vs, st') ∧ vs.map some = (List.range (k + 1)).map fun j => val (i + j) := by
  intro k
  induction k with
  | zero =>
    intro i st f st1 v hget hv hl hM
    exact ⟨[v], st1, by rw [it_ok _ _ _ _ _ hget, it_stop _ _ _ (stop st1 i hl hM)]; rfl, by simp [hv]⟩
  | succ k ih =>
    intro i st f st1 v hget hv hl hM
    obtain ⟨st2, v2, hget2, hv2, hl2⟩ := next st1 i hl (hM ▸ Nat.succ_lt_succ (Nat.lt_add_of_pos_right (Nat.succ_pos k)))
    obtain ⟨vs, st', hiter, hvs⟩ := ih (i + 1) st1 f st2 v2 hget2 hv2 hl2 (by rw [Nat.add_right_comm i 1 k]; exact hM)
    refine ⟨v :: vs, st', by rw [it_ok _ _ _ _ _ hget]; exact congrArg (Except.map _) hiter, ?_⟩
    rw [List.range_succ_eq_map, List.map_cons, List.map_cons, hvs, List.map_map]
    simp [Function.comp_def, Nat.add_assoc, Nat.add_comm 1, hv]

theorem fuel_split {k fuel : Nat} (h : k + 1 < fuel) : ∃ f, fuel = f + k + 2 := ⟨fuel - (k + 2), by omega⟩

/-- **`get_iter`**: from level `i`, with streams of exactly `M` buffers, the values of the root on buffers `i, …, M-1` in
order, then it stops -/
theorem graph_iter (g : List NodeDef) (hg : WFG g) (hna : HasNodeArg g) (root M : Nat)
    (hch : ∀ n cs, Reach g root n → g[n]? = some (.stream cs) → cs.length = M) :
    ∀ k i st fuel, i + k + 1 = M → k + 1 < fuel → Level g root st i →
      ∃ vs st', getIter g root fuel i st = .ok (vs, st') ∧
        List.map some vs = (List.range (k + 1)).map (fun j => valAt g (i + j) (root + 1) root) := by
  intro k i st fuel hM hf hl
  obtain ⟨v, hget, hv⟩ := getBuffer_same g st i root root (hl root .root)
  obtain ⟨f, rfl⟩ := fuel_split hf
  exact iterate_spec (getIter g root) (fun i st => getBuffer g (root + 1) st root i)
    (fun fuel i st st' v h => by simp only [getIter, h]; cases getIter g root fuel (i + 1) st' <;> rfl)
    (fun fuel i st h => by simp only [getIter, h])
    (Level g root) (fun i => valAt g i (root + 1) root) M
    (fun st i hl hi => graph_lockstep g hg root st i hl fun n cs hr hd => hch n cs hr hd ▸ hi)
    (fun st i hl hi => graph_stop g hg hna root st i hl (fun n cs hr hd => (hch n cs hr hd).trans hi.symm)
      (root + 1) root (Nat.lt_succ_self _) .root)
    k i st f st v hget hv hl hM

/-! ### construction (`__init__` pulls buffer 0) and `compute` -/

theorem evalArg_same (g : List NodeDef) (st : GState) (k : Nat) (x : Arg)
    (hx : ∀ m ∈ argNodes x, m < k ∧ At g st 0 m) :
    ∃ va, evalArg (fun st m => getBuffer g k st m 0) k st x = .ok (st, va) ∧ argValWith (valAt g 0 k) k x = some va := by
  cases x with
  | const c => exact ⟨.inr c, rfl, rfl⟩
  | node m =>
    obtain ⟨hmk, hat⟩ := hx m List.mem_cons_self
    obtain ⟨k', rfl⟩ := Nat.exists_eq_succ_of_ne_zero (Nat.ne_of_gt (Nat.zero_lt_of_lt hmk))
    obtain ⟨v, hget, hv⟩ := getBuffer_same g st 0 m k' hat
    exact ⟨.inl v, by simp only [evalArg, hmk, ↓reduceIte, hget], by rw [argValWith_valAt_node g 0 hmk, hv]; rfl⟩

/-- the `k`-th constructor finds the nodes before `k` at index 0 (so its arguments answer from their buffers) and the
others as `initState` made them -/
theorem construct_level (g : List NodeDef) (hg : WFG g) (M : Nat) (hM : 0 < M)
    (hch : ∀ (n : Nat) (cs : List (List Int)), g[n]? = some (NodeDef.stream cs) → cs.length = M) :
    ∃ st, construct g g.length (initState g) = .ok st ∧ ∀ m, m < g.length → At g st 0 m := by
  suffices h : ∀ k, k ≤ g.length → ∃ st, construct g k (initState g) = .ok st ∧ (∀ m, m < k → At g st 0 m) ∧
      ∀ j, k ≤ j → st[j]? = (initState g)[j]? by
    obtain ⟨st, hc, hall, _⟩ := h g.length (Nat.le_refl _)
    exact ⟨st, hc, hall⟩
  intro k
  induction k with
  | zero => exact fun _ => ⟨_, rfl, fun m h => absurd h (Nat.not_lt_zero m), fun _ _ => rfl⟩
  | succ k ih =>
    intro hk
    obtain ⟨st, hc, hprev, hrest⟩ := ih (Nat.le_of_succ_le hk)
    suffices h : ∃ st' v, getBuffer g (k + 1) st k 0 = .ok (st', v) ∧ At g st' 0 k ∧ ∀ j, j ≠ k → st'[j]? = st[j]? by
      obtain ⟨st', v, hget, hat, hfr⟩ := h
      refine ⟨st', by simp only [construct, hc, hget], fun m hm => ?_,
        fun j hj => by rw [hfr j (Nat.ne_of_gt hj), hrest j (Nat.le_of_succ_le hj)]⟩
      by_cases hmk : m = k
      · exact hmk ▸ hat
      · exact At_congr g st st' 0 m (hfr m hmk) (hprev m (Nat.lt_of_le_of_ne (Nat.le_of_lt_succ hm) hmk))
    have hd : g[k]? = some g[k] := List.getElem?_eq_getElem hk
    have hs := hrest k (Nat.le_refl _)
    rw [initState, List.getElem?_map, hd] at hs
    have hklt : k < st.length := (List.getElem?_eq_some_iff.mp hs).1
    cases hdk : g[k] with
    | stream cs =>
      rw [hdk] at hd hs
      cases cs with
      | nil => exact absurd (hch k [] hd) (Nat.ne_of_lt hM)
      | cons c0 cs' =>
        exact ⟨_, c0, getBuffer_stream k hd hs rfl rfl,
          ⟨_, _, c0, List.getElem?_set_self hklt, hd, rfl, valAt_stream hd 0, rfl, fun _ e => by cases e; exact ⟨rfl, rfl⟩⟩,
          fun j hj => List.getElem?_set_ne (Ne.symm hj)⟩
    | comp f a b =>
      rw [hdk] at hd hs
      have hlt : ∀ m ∈ nodeArgs (.comp f a b), m < k := hg k _ hd
      obtain ⟨va, he1, hva⟩ := evalArg_same g st k a fun m hm =>
        ⟨hlt m (List.mem_append_left _ hm), hprev m (hlt m (List.mem_append_left _ hm))⟩
      obtain ⟨vb, he2, hvb⟩ := evalArg_same g st k b fun m hm =>
        ⟨hlt m (List.mem_append_right _ hm), hprev m (hlt m (List.mem_append_right _ hm))⟩
      exact ⟨_, _, getBuffer_comp hd hs rfl rfl he1 he2 hs,
        ⟨_, _, _, List.getElem?_set_self hklt, hd, rfl, by rw [valAt_comp hd, hva, hvb]; rfl, rfl, nofun⟩,
        fun j hj => List.getElem?_set_ne (Ne.symm hj)⟩

/-- **`compute()` of a node**, all streams cut into `M ≥ 1` buffers: construction raises nothing, and the result is the
concatenation over the buffer index of the root's values -/
theorem graph_compute (g : List NodeDef) (hg : WFG g) (hna : HasNodeArg g) (root M fuel : Nat)
    (hroot : root < g.length) (hM : 0 < M) (hf : M < fuel)
    (hch : ∀ (n : Nat) (cs : List (List Int)), g[n]? = some (NodeDef.stream cs) → cs.length = M) :
    ∃ vs st, computeGraph g root fuel = .ok (List.flatten vs, st) ∧
      List.map some vs = (List.range M).map (fun i => valAt g i (root + 1) root) := by
  obtain ⟨st0, hc, hall⟩ := construct_level g hg M hM hch
  obtain ⟨k, rfl⟩ := Nat.exists_eq_succ_of_ne_zero (Nat.ne_of_gt hM)
  obtain ⟨vs, st', hiter, hvs⟩ := graph_iter g hg hna root (k + 1) (fun n cs _ h => hch n cs h) k 0 st0 fuel
    (congrArg (· + 1) (Nat.zero_add k)) hf fun n hn => hall n (reach_lt g hg root hroot n hn)
  exact ⟨vs, st', by simp only [computeGraph, hc, hiter], by simpa using hvs⟩

/-- the shipped `StreamNode.compute` lost the first chunk; the repaired one (`get_iter`) does not -/
theorem streamComputeOld_unsound :
    streamComputeOld [[1, 2], [3], [4, 5]] = some [3, 4, 5] ∧ streamComputeOld [[1, 2]] = none ∧
    (computeGraph [.stream [[1, 2], [3], [4, 5]]] 0 5).toOption.map (·.1) = some [1, 2, 3, 4, 5] := by decide +kernel

/-! ### several roots evaluated together (`compute([a, b, …])`, `compute((reduction, reduction, …))`) -/

/-- reachable from one of the roots -/
def ReachAny (g : List NodeDef) (roots : List Nat) (n : Nat) : Prop := ∃ r, r ∈ roots ∧ Reach g r n

def LevelMany (g : List NodeDef) (roots : List Nat) (st : GState) (i : Nat) : Prop :=
  ∀ n, ReachAny g roots n → At g st i n

theorem reachAny_closed (g : List NodeDef) (roots : List Nat) :
    ∀ n d, ReachAny g roots n → g[n]? = some d → ∀ m ∈ nodeArgs d, ReachAny g roots m := by
  intro n d ⟨r, hr, hn⟩ hd m hm
  exact ⟨r, hr, Reach.step hn hd hm⟩

/-- the roots' values on buffer `i`. A root without a value there reads as `[]`; the theorems put `valsAt` only where every
root has one (`StepOut.val`, `getBuffer_same`). -/
def valsAt (g : List NodeDef) (roots : List Nat) (i : Nat) : List (List Int) :=
  roots.map (fun r => (valAt g i (r + 1) r).getD [])

theorem getBuffers_mixed (g : List NodeDef) (hg : WFG g) (roots : List Nat) (i : Nat)
    (hch : ∀ n cs, ReachAny g roots n → g[n]? = some (NodeDef.stream cs) → i + 1 < cs.length) :
    ∀ (rs : List Nat) (st : GState), (∀ r ∈ rs, r ∈ roots) → Mixed g st i (ReachAny g roots) →
      ∃ st', getBuffers g rs st (i + 1) = .ok (st', valsAt g rs (i + 1)) ∧
        Mixed g st' i (ReachAny g roots) ∧ (∀ j, At g st (i + 1) j → At g st' (i + 1) j) ∧
        (∀ r ∈ rs, At g st' (i + 1) r) := by
  intro rs
  induction rs with
  | nil => exact fun st _ hm => ⟨st, rfl, hm, fun _ h => h, nofun⟩
  | cons r rs ih =>
    intro st hrs hm
    obtain ⟨st1, v, hget, hout⟩ := getBuffer_step g hg (ReachAny g roots) (reachAny_closed g roots) i hch (r + 1) r st
      (Nat.lt_succ_self r) ⟨r, hrs r List.mem_cons_self, .root⟩ hm
    obtain ⟨st2, hget2, hm2, hmono2, hat2⟩ := ih st1 (fun x hx => hrs x (List.mem_cons_of_mem _ hx)) hout.mixed
    refine ⟨st2, ?_, hm2, fun j hj => hmono2 j (hout.mono j hj), fun x hx => ?_⟩
    · simp only [getBuffers, hget, hget2, valsAt, List.map_cons, hout.val, Option.getD_some]
    · rcases List.mem_cons.mp hx with rfl | hx
      · exact hmono2 _ hout.at_n
      · exact hat2 x hx

/-- **lock step for several roots**: shared sub-expressions and shared streams are advanced once per round -/
theorem graph_lockstep_many (g : List NodeDef) (hg : WFG g) (roots : List Nat) (st : GState) (i : Nat)
    (hl : LevelMany g roots st i)
    (hch : ∀ n cs, ReachAny g roots n → g[n]? = some (NodeDef.stream cs) → i + 1 < cs.length) :
    ∃ st', getBuffers g roots st (i + 1) = .ok (st', valsAt g roots (i + 1)) ∧ LevelMany g roots st' (i + 1) := by
  obtain ⟨st', hget, hm, _, hat⟩ :=
    getBuffers_mixed g hg roots i hch roots st (fun _ h => h) (mixed_of_level g st i _ hl)
  exact ⟨st', hget, fun n ⟨r, hr, hn⟩ => mixed_reach g st' i _ hm r (fun _ h => ⟨r, hr, h⟩) (hat r hr) n hn⟩

theorem getBuffers_same (g : List NodeDef) (st : GState) (i : Nat) :
    ∀ rs, (∀ r ∈ rs, At g st i r) → getBuffers g rs st i = .ok (st, valsAt g rs i) := by
  intro rs
  induction rs with
  | nil => intro _; rfl
  | cons r rs ih =>
    intro h
    obtain ⟨v, hget, hv⟩ := getBuffer_same g st i r r (h r List.mem_cons_self)
    simp only [getBuffers, hget, ih fun x hx => h x (List.mem_cons_of_mem _ hx), valsAt, List.map_cons, hv,
      Option.getD_some]

/-- **`get_iter` of the joining node**: from level `i`, with streams of exactly `M` buffers, the tuples of the roots' values on
buffers `i, …, M-1` in order, then it stops -/
theorem graph_iter_many (g : List NodeDef) (hg : WFG g) (hna : HasNodeArg g) (roots : List Nat) (hne : roots ≠ []) (M : Nat)
    (hch : ∀ n cs, ReachAny g roots n → g[n]? = some (NodeDef.stream cs) → cs.length = M) :
    ∀ k i st fuel, i + k + 1 = M → k + 1 < fuel → LevelMany g roots st i →
      ∃ st', getIterMany g roots fuel i st = .ok ((List.range (k + 1)).map (fun j => valsAt g roots (i + j)), st') := by
  intro k i st fuel hM hf hl
  obtain ⟨r0, rs0, rfl⟩ := List.exists_cons_of_ne_nil hne
  obtain ⟨f, rfl⟩ := fuel_split hf
  obtain ⟨vs, st', hiter, hvs⟩ := iterate_spec (getIterMany g (r0 :: rs0)) (fun i st => getBuffers g (r0 :: rs0) st i)
    (fun fuel i st st' v h => by simp only [getIterMany, h]; cases getIterMany g (r0 :: rs0) fuel (i + 1) st' <;> rfl)
    (fun fuel i st h => by simp only [getIterMany, h])
    (LevelMany g (r0 :: rs0)) (fun i => some (valsAt g (r0 :: rs0) i)) M
    (fun st i hl hi =>
      have ⟨st', h1, h2⟩ := graph_lockstep_many g hg _ st i hl fun n cs hr hd => hch n cs hr hd ▸ hi
      ⟨st', _, h1, rfl, h2⟩)
    (fun st i hl hi => by
      -- the first root raises first
      have := graph_stop g hg hna r0 st i (fun n hn => hl n ⟨r0, List.mem_cons_self, hn⟩)
        (fun n cs hn hd => (hch n cs ⟨r0, List.mem_cons_self, hn⟩ hd).trans hi.symm) (r0 + 1) r0 (Nat.lt_succ_self _) .root
      simp only [getBuffers, this])
    k i st f st _ (getBuffers_same g st i _ fun r hr => hl r ⟨r, hr, .root⟩) rfl hl hM
  have hvs : vs = (List.range (k + 1)).map fun j => valsAt g (r0 :: rs0) (i + j) :=
    (List.map_inj_right fun _ _ => Option.some.inj).mp (hvs.trans (by rw [List.map_map]; rfl))
  exact ⟨st', by rw [hiter, hvs]⟩

def rowsAt (g : List NodeDef) (roots : List Nat) (M : Nat) : List (List (List Int)) :=
  (List.range M).map (fun i => valsAt g roots i)

/-- **`compute` of several roots**: iterated together in lock step; what is concatenated / reduced are the roots' values on
buffers `0 … M-1` -/
theorem graph_compute_many (g : List NodeDef) (hg : WFG g) (hna : HasNodeArg g) (roots : List Nat) (hne : roots ≠ [])
    (M fuel : Nat) (hroots : ∀ r ∈ roots, r < g.length) (hM : 0 < M) (hf : M < fuel)
    (hch : ∀ (n : Nat) (cs : List (List Int)), g[n]? = some (NodeDef.stream cs) → cs.length = M) :
    ∃ st, computeMany g roots fuel =
        .ok ((List.range roots.length).map (fun j => ((rowsAt g roots M).map (fun r => r.getD j [])).flatten), st) ∧
      computeReduced g roots fuel = .ok (reduce1 addTuples (rowsAt g roots M), st) := by
  obtain ⟨st0, hc, hall⟩ := construct_level g hg M hM hch
  obtain ⟨k, rfl⟩ := Nat.exists_eq_succ_of_ne_zero (Nat.ne_of_gt hM)
  obtain ⟨st', hiter⟩ := graph_iter_many g hg hna roots hne (k + 1) (fun n cs _ h => hch n cs h) k 0 st0 fuel
    (congrArg (· + 1) (Nat.zero_add k)) hf fun n ⟨r, hr, hn⟩ => hall n (reach_lt g hg r (hroots r hr) n hn)
  exact ⟨st', by simp only [computeMany, hc, hiter, rowsAt]; simp only [List.getD_eq_getElem?_getD, Nat.zero_add,
    List.map_map], by simp only [computeReduced, hc, hiter, rowsAt]; simp only [Nat.zero_add]⟩

end C11
