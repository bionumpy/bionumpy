import BnpVerif.Model.C19
import BnpVerif.Gen.C19
import BnpVerif.Base.PyLaws
import BnpVerif.Base.Order
/-! C19 — a table of columns behaves as its list of entries. `toRows` is characterised pointwise (`toRows_rowAt`: row `i` is cell
`i` of every column, for any non-empty table), so each `toRows (op cols) = opRows (toRows cols)` is `List.ext_getElem?` and algebra
of `omap`. The selecting operations (`take`, `mask`, `predMask`, `sortBy`) index every column with one index list:
`rows_map_gather` is the refinement fact they share. `step_inv` (columns stay equally long, the width never shrinks) and
`step_refines_rows` (one operation: same rows, same width, same failures) give `inv` and `run_refines_rows` by induction.
Apart from these: the dispatch tables of typed construction (one evaluation, `construct_sweep`, and its readings) and the
`todict` / `from_dict` round trip (keys whose first component names another field are invisible: `Clean`).
Audited theorems: `Audit/C19.lean`. -/
namespace C19
open Base
variable {α : Type}

theorem wfn_cons {n : Nat} {c : List α} {cs : Cols α} : WFn n (c :: cs) ↔ c.length = n ∧ WFn n cs :=
  List.forall_mem_cons

theorem wf_of_wfn {n : Nat} {cols : Cols α} (h : WFn n cols) : WF cols := by
  cases cols with
  | nil => simp [WF, WFn]
  | cons c cs => exact fun x hx => (h x hx).trans (wfn_cons.mp h).1.symm

theorem wfB_iff {cols : Cols α} : wfB cols = true ↔ WF cols := by
  simp [wfB, WF, WFn]

example : WF [[1, 2, 3], [10, 20, 30]] := wfB_iff.mp (by decide)

theorem wf_wfn (cols : Cols α) (h : WF cols) : WFn (nrows cols) cols := h

theorem toRows_cons_cons (c d : List α) (cs : Cols α) :
    toRows (c :: d :: cs) = List.zipWith (· :: ·) c (toRows (d :: cs)) := rfl

example : toRows [[1, 2, 3], [10, 20, 30]] = [[1, 10], [2, 20], [3, 30]] := rfl

theorem toRows_length (n : Nat) (cols : Cols α) (h : WFn n cols) (hne : cols ≠ []) :
    (toRows cols).length = n := by
  induction cols with
  | nil => exact absurd rfl hne
  | cons c cs ih =>
    rw [wfn_cons] at h
    cases cs with
    | nil => rw [toRows, List.length_map, h.1]
    | cons d ds => rw [toRows_cons_cons, List.length_zipWith, ih h.2 (by simp), h.1, Nat.min_self]

/-- `zip` semantics: holds for columns of any lengths -/
theorem toRows_rowAt {cols : Cols α} (hne : cols ≠ []) (i : Nat) : (toRows cols)[i]? = rowAt cols i := by
  induction cols with
  | nil => exact absurd rfl hne
  | cons c cs ih =>
    unfold rowAt at ih ⊢
    rw [omap_cons]
    cases cs with
    | nil => rw [toRows, List.getElem?_map]; cases c[i]? <;> rfl
    | cons d ds =>
      rw [toRows_cons_cons, List.getElem?_zipWith, ih (by simp)]
      cases c[i]? <;> cases omap (fun c => c[i]?) (d :: ds) <;> rfl

theorem toRows_getElem? (n : Nat) (cols : Cols α) (h : WFn n cols) (hne : cols ≠ []) (i : Nat) :
    (toRows cols)[i]? = if i < n then rowAt cols i else none := by
  split
  · exact toRows_rowAt hne i
  · rw [List.getElem?_eq_none_iff, toRows_length n cols h hne]; omega

theorem toRows_column (n : Nat) (cols : Cols α) (h : WFn n cols) (hne : cols ≠ []) (j : Nat) (c : List α)
    (hc : cols[j]? = some c) : (toRows cols).map (fun r => r[j]?) = c.map some := by
  have hlen := toRows_length n cols h hne
  have hcl : c.length = n := h c (List.mem_of_getElem? hc)
  apply List.ext_getElem (by rw [List.length_map, List.length_map, hlen, hcl])
  intro i h1 h2
  rw [List.length_map] at h1 h2
  have hrow := toRows_rowAt hne i
  rw [List.getElem?_eq_getElem h1] at hrow
  rw [List.getElem_map, List.getElem_map, omap_getElem? _ _ _ hrow.symm j, hc, Option.bind_some,
    List.getElem?_eq_getElem h2]

/-- transposing twice gives the table back -/
theorem toRows_toRows (n : Nat) (cols : Cols α) (h : WFn n cols) (hne : cols ≠ []) (hn : 0 < n) :
    toRows (toRows cols) = cols := by
  have hR : toRows cols ≠ [] := List.ne_nil_of_length_pos (toRows_length n cols h hne ▸ hn)
  have hlen : WFn cols.length (toRows cols) := fun r hr =>
    let ⟨i, hi⟩ := List.mem_iff_getElem?.mp hr
    omap_length _ _ _ ((toRows_rowAt hne i).symm.trans hi)
  apply List.ext_getElem?
  intro j
  cases hc : cols[j]? with
  | none =>
    rw [List.getElem?_eq_none_iff, toRows_length _ _ hlen hR]
    exact List.getElem?_eq_none_iff.mp hc
  | some c =>
    rw [toRows_rowAt hR, rowAt, omap_eq_some_iff]
    exact toRows_column n cols h hne j c hc

/-- **table → rows → table is the identity** (`from_entry_tuples ∘ tolist`), the table without rows included -/
theorem rows_inverse (cols : Cols α) (hw : WF cols) (hne : cols ≠ []) :
    fromRows cols.length (toRows cols) = some cols := by
  have hlen := toRows_length _ cols hw hne
  cases hR : toRows cols with
  | nil =>
    -- a table without rows is `width` empty columns
    have h0 : WFn 0 cols := by rw [← List.length_nil, ← hR, hlen]; exact hw
    rw [fromRows, ← List.eq_replicate_iff.mpr ⟨rfl, fun c hc => List.length_eq_zero_iff.mp (h0 c hc)⟩]
  | cons r rs =>
    simp only [fromRows]
    rw [← hR, toRows_toRows _ cols hw hne (by simp [← hlen, hR])]
    simp [wfB_iff.mpr hw]

/-- rows → table → rows, for rows of width ≥ 1 -/
theorem rows_table_rows (k : Nat) (rows : List (List α)) (cols : Cols α) (hk : 0 < k) (hr : WFn k rows)
    (h : fromRows k rows = some cols) : toRows cols = rows := by
  cases rows with
  | nil =>
    obtain rfl : List.replicate k [] = cols := by simpa [fromRows] using h
    exact List.length_eq_zero_iff.mp (toRows_length 0 _ (fun c hc => by simp [(List.mem_replicate.mp hc).2])
      (List.ne_nil_of_length_pos (by simpa using hk)))
  | cons r rs =>
    simp only [fromRows, Option.ite_none_right_eq_some, Option.some.injEq] at h
    exact h.2 ▸ toRows_toRows k (r :: rs) hr (by simp) hk

/-- the shipped `from_entry_tuples` could not rebuild an empty table from its (empty) list of rows -/
theorem fromRowsOld_unsound :
    toRows ([[], []] : Cols Nat) = [] ∧ fromRowsOld 2 ([] : List (List Nat)) = none ∧
    fromRows 2 ([] : List (List Nat)) = some [[], []] := by decide

/-! `gather ix l` is `PyIdx.gather l ix` by unfolding: the lemmas of `Base/PyLaws` apply with the arguments swapped. -/

theorem omap_gather (ix : List Nat) (l : List α) (h : ∀ i ∈ ix, i < l.length) :
    omap (fun i => l[i]?) ix = some (gather ix l) :=
  PyIdx.pick_eq_some_gather h

theorem gather_getElem? (ix : List Nat) (l : List α) (h : ∀ i ∈ ix, i < l.length) (p : Nat) :
    (gather ix l)[p]? = (ix[p]?).bind (fun i => l[i]?) :=
  PyIdx.gather_getElem? l ix h p

theorem gather_length (ix : List Nat) (l : List α) (h : ∀ i ∈ ix, i < l.length) :
    (gather ix l).length = ix.length :=
  PyIdx.gather_length l ix h

theorem gather_eq_map (ix : List Nat) (l : List α) (d : α) (h : ∀ i ∈ ix, i < l.length) :
    gather ix l = ix.map (fun i => l.getD i d) := by
  have := congrArg (List.map (·.getD d)) (omap_eq_some_iff.mp (omap_gather ix l h))
  simpa only [List.map_map, Function.comp_def, Option.getD_some, List.map_id', ← List.getD_eq_getElem?_getD]
    using this.symm

theorem gather_map {β} (f : α → β) (ix : List Nat) (l : List α) : (gather ix l).map f = gather ix (l.map f) :=
  (PyIdx.gather_map f l ix).symm

theorem gather_range (l : List α) : gather (List.range l.length) l = l :=
  PyIdx.gather_range l

theorem mem_gather {ix iy : List Nat} {i : Nat} (h : i ∈ gather ix iy) : i ∈ iy :=
  PyIdx.mem_gather iy ix i h

theorem gather_gather (ix iy : List Nat) (l : List α) (hy : ∀ i ∈ iy, i < l.length) :
    gather ix (gather iy l) = gather (gather ix iy) l :=
  PyIdx.gather_gather l iy ix hy

theorem maskIdx_eq (m : List Bool) : maskIdx m = Py.maskPositions 0 m := by
  induction m with
  | nil => rfl
  | cons b bs ih => rw [maskIdx, ih, ← Py.maskPositions_succ]; cases b <;> rfl

theorem mem_maskIdx (m : List Bool) (i : Nat) : i ∈ maskIdx m ↔ m[i]? = some true := by
  rw [maskIdx_eq, Py.mem_maskPositions]
  exact ⟨fun ⟨j, hj, h⟩ => hj.trans (Nat.zero_add j) ▸ h, fun h => ⟨i, (Nat.zero_add i).symm, h⟩⟩

theorem maskIdx_sorted (m : List Bool) : (maskIdx m).Pairwise (· < ·) :=
  maskIdx_eq m ▸ Py.maskPositions_sorted m 0

theorem maskIdx_lt (m : List Bool) (i : Nat) (h : i ∈ maskIdx m) : i < m.length :=
  (List.getElem?_eq_some_iff.mp ((mem_maskIdx m i).mp h)).1

theorem gather_maskIdx (m : List Bool) (l : List α) (h : m.length = l.length) :
    gather (maskIdx m) l = (l.zip m).filterMap (fun p => if p.2 then some p.1 else none) := by
  rw [maskIdx_eq, ← List.filterMap_filter]
  exact (PyIdx.gather_of_pick (Py.mask_filter l m h)).trans (congrFun (List.filterMap_eq_map (f := Prod.fst)) _).symm

theorem take_eq_some_iff {ix : List Nat} {cols r : Cols α} :
    take ix cols = some r ↔ (∀ i ∈ ix, i < nrows cols) ∧ cols.map (gather ix) = r := by
  simp only [take, Option.ite_none_right_eq_some, List.all_eq_true, decide_eq_true_eq, Option.some.injEq]

theorem take_none_iff (ix : List Nat) (cols : Cols α) : take ix cols = none ↔ ∃ i ∈ ix, nrows cols ≤ i := by
  simp only [take, ite_eq_right_iff, reduceCtorEq, imp_false, List.all_eq_true, decide_eq_true_eq,
    Classical.not_forall, Nat.not_lt, exists_prop]

example : take [2, 0, 2] [[1, 2, 3], [10, 20, 30]] = some [[3, 1, 3], [30, 10, 30]] := rfl

theorem wfn_map_gather {n : Nat} {ix : List Nat} {cols : Cols α} (h : WFn n cols) (hix : ∀ i ∈ ix, i < n) :
    WFn ix.length (cols.map (gather ix)) :=
  List.forall_mem_map.mpr fun c hc => gather_length ix c (h c hc ▸ hix)

theorem take_inv {ix : List Nat} {cols r : Cols α} (hw : WF cols) (h : take ix cols = some r) :
    WF r ∧ cols.length ≤ r.length := by
  obtain ⟨hix, rfl⟩ := take_eq_some_iff.mp h
  exact ⟨wf_of_wfn (wfn_map_gather hw hix), Nat.le_of_eq (List.length_map _).symm⟩

/-- indexing every column with one index list selects whole rows -/
theorem rows_map_gather {n : Nat} {ix : List Nat} {cols : Cols α} (h : WFn n cols) (hne : cols ≠ [])
    (hix : ∀ i ∈ ix, i < n) : toRows (cols.map (gather ix)) = gather ix (toRows cols) := by
  apply List.ext_getElem?
  intro p
  -- row `p` of the result is row `ix[p]` of the table, column by column
  rw [gather_getElem? ix _ (by rwa [toRows_length n cols h hne]), toRows_rowAt (by simpa using hne), rowAt, omap_map,
    omap_congr _ (fun c => (ix[p]?).bind (c[·]?)) cols fun c hc => gather_getElem? ix c (h c hc ▸ hix) p]
  cases ix[p]? with
  | none => obtain ⟨c, cs, rfl⟩ := List.exists_cons_of_ne_nil hne; rfl
  | some k => exact (toRows_rowAt hne k).symm

/-- `table[index list]` selects exactly the rows named by the index (order, repeats) -/
theorem take_rows (ix : List Nat) (cols r : Cols α) (hw : WF cols) (hne : cols ≠ []) (h : take ix cols = some r) :
    takeRows ix (toRows cols) = some (toRows r) := by
  obtain ⟨hix, rfl⟩ := take_eq_some_iff.mp h
  rw [takeRows, toRows_length _ cols hw hne, if_pos (by simpa using hix), rows_map_gather hw hne hix]

theorem mask_eq (m : List Bool) (cols : Cols α) :
    mask m cols = if m.length = nrows cols then some (cols.map (gather (maskIdx m))) else none := by
  unfold mask
  split
  · rename_i h
    exact take_eq_some_iff.mpr ⟨fun i hi => h ▸ maskIdx_lt m i hi, rfl⟩
  · rfl

theorem mask_none_iff (m : List Bool) (cols : Cols α) : mask m cols = none ↔ m.length ≠ nrows cols := by
  simp [mask_eq]

example : mask [true, false, true] [[1, 2, 3], [10, 20, 30]] = some [[1, 3], [10, 30]] := rfl

theorem mask_take {m : List Bool} {cols r : Cols α} (h : mask m cols = some r) : take (maskIdx m) cols = some r :=
  (Option.ite_none_right_eq_some.mp h).2

/-- boolean masking keeps exactly the rows whose mask entry is `True`, in order -/
theorem mask_rows (m : List Bool) (cols r : Cols α) (hw : WF cols) (hne : cols ≠ []) (h : mask m cols = some r) :
    toRows r = ((toRows cols).zip m).filterMap (fun p => if p.2 then some p.1 else none) := by
  rw [mask_eq, Option.ite_none_right_eq_some, Option.some.injEq] at h
  obtain ⟨hm, rfl⟩ := h
  rw [rows_map_gather hw hne (fun i hi => hm ▸ maskIdx_lt m i hi),
    gather_maskIdx m _ (hm.trans (toRows_length _ cols hw hne).symm)]

theorem predMask_eq_some_iff {p : α → Bool} {j : Nat} {cols r : Cols α} :
    predMask p j cols = some r ↔ ∃ c, cols[j]? = some c ∧ mask (c.map p) cols = some r := by
  unfold predMask
  cases cols[j]? <;> simp

theorem zip_filterMap_eq_filter {β} (rows : List β) (q : β → Bool) :
    (rows.zip (rows.map q)).filterMap (fun p => if p.2 then some p.1 else none) = rows.filter q := by
  induction rows with
  | nil => rfl
  | cons r rs ih => cases h : q r <;> simp [h, ih]

theorem colMask_eq_rowMask (p : α → Bool) {cols : Cols α} (hw : WF cols) (hne : cols ≠ []) {j : Nat} {c : List α}
    (hc : cols[j]? = some c) :
    c.map p = (toRows cols).map (fun row => match row[j]? with | some x => p x | none => false) := by
  have := congrArg (List.map (fun o : Option α => match o with | some x => p x | none => false))
    (toRows_column (nrows cols) cols hw hne j c hc)
  simpa only [List.map_map, Function.comp_def] using this.symm

/-- **masking by a comparison on one field** keeps exactly the rows whose cell in that field satisfies it, in order -/
theorem predMask_rows (p : α → Bool) (j : Nat) (cols r : Cols α) (hw : WF cols) (hne : cols ≠ [])
    (h : predMask p j cols = some r) :
    toRows r = (toRows cols).filter (fun row => match row[j]? with | some x => p x | none => false) := by
  obtain ⟨c, hc, h⟩ := predMask_eq_some_iff.mp h
  rw [mask_rows _ cols r hw hne h, colMask_eq_rowMask p hw hne hc, zip_filterMap_eq_filter]

/-- a comparison mask never fails on an existing field -/
theorem predMask_total (p : α → Bool) (j : Nat) (cols : Cols α) (hw : WF cols) (hj : j < cols.length) :
    ∃ r, predMask p j cols = some r := by
  have hm : (cols[j].map p).length = nrows cols := by simpa using hw _ (List.getElem_mem hj)
  simp [predMask, List.getElem?_eq_getElem hj, mask_eq, hm]

/-- indexing with all positions in order is the identity -/
theorem take_range (cols : Cols α) (hw : WF cols) : take (List.range (nrows cols)) cols = some cols := by
  refine take_eq_some_iff.mpr ⟨by simp, ?_⟩
  conv => rhs; rw [← List.map_id cols]
  exact List.map_congr_left fun c hc => hw c hc ▸ gather_range c

/-- **composition of indexings**: `t[iy][ix] = t[iy[ix]]` -/
theorem take_take (ix iy : List Nat) (cols c1 c2 : Cols α) (hw : WF cols) (hne : cols ≠ [])
    (h1 : take iy cols = some c1) (h2 : take ix c1 = some c2) : take (gather ix iy) cols = some c2 := by
  obtain ⟨hy, rfl⟩ := take_eq_some_iff.mp h1
  obtain ⟨hx, rfl⟩ := take_eq_some_iff.mp h2
  obtain ⟨c, cs, rfl⟩ := List.exists_cons_of_ne_nil hne
  rw [List.map_cons, nrows, gather_length iy c hy] at hx
  refine take_eq_some_iff.mpr ⟨fun i hi => hy i (mem_gather hi), ?_⟩
  rw [List.map_map]
  exact List.map_congr_left fun d hd => (gather_gather ix iy d (hw d hd ▸ hy)).symm

theorem concat_getElem? (a b : Cols α) (j : Nat) :
    (concat a b)[j]? = (a[j]?).bind (fun x => (b[j]?).map (fun y => x ++ y)) := by
  rw [concat, List.getElem?_zipWith]
  cases a[j]? <;> cases b[j]? <;> rfl

theorem concat_assoc (a b c : Cols α) : concat (concat a b) c = concat a (concat b c) := by
  apply List.ext_getElem?
  intro j
  simp only [concat_getElem?]
  cases a[j]? <;> cases b[j]? <;> cases c[j]? <;> simp only [Option.bind, Option.map, List.append_assoc]

theorem concat_wf {a b : Cols α} (ha : WF a) (hb : WF b) : WF (concat a b) := by
  refine wf_of_wfn (n := nrows a + nrows b) fun c hc => ?_
  obtain ⟨i, hi, rfl⟩ := List.getElem_of_mem hc
  simp only [concat, List.getElem_zipWith, List.length_append]
  rw [ha _ (List.getElem_mem _), hb _ (List.getElem_mem _)]

/-- concatenation puts the rows of the second table after those of the first -/
theorem concat_rows (n m : Nat) (a b : Cols α) (ha : WFn n a) (hb : WFn m b) (hl : a.length = b.length) (hne : a ≠ []) :
    toRows (concat a b) = toRows a ++ toRows b := by
  induction a generalizing b with
  | nil => exact absurd rfl hne
  | cons c cs ih =>
    obtain ⟨d, ds, rfl⟩ := List.exists_cons_of_length_eq_add_one hl.symm
    rw [wfn_cons] at ha hb
    cases cs with
    | nil =>
      obtain rfl := List.eq_nil_of_length_eq_zero (Nat.succ.inj hl).symm
      exact List.map_append
    | cons c' cs' =>
      obtain ⟨d', ds', rfl⟩ := List.exists_cons_of_length_eq_add_one (Nat.succ.inj hl).symm
      have ih' := ih (d' :: ds') ha.2 hb.2 (Nat.succ.inj hl) (List.cons_ne_nil _ _)
      simp only [concat, List.zipWith_cons_cons] at ih' ⊢
      rw [toRows_cons_cons, ih', toRows_cons_cons, toRows_cons_cons, List.zipWith_append]
      rw [ha.1, toRows_length n _ ha.2 (List.cons_ne_nil _ _)]

theorem sndLe_tt : TotalTrans (fun a b : Nat × Int => decide (a.2 ≤ b.2)) := .key fun a : Nat × Int => a.2

theorem argsort_perm (ks : List Int) : (argsort ks).Perm (List.range ks.length) := by
  have h := (List.mergeSort_perm ((List.range ks.length).zip ks) (fun a b => decide (a.2 ≤ b.2))).map (·.1)
  rwa [List.map_fst_zip (by simp)] at h

theorem argsort_lt (ks : List Int) (i : Nat) (hi : i ∈ argsort ks) : i < ks.length :=
  List.mem_range.mp ((argsort_perm ks).mem_iff.mp hi)

theorem gather_argsort (ks : List Int) :
    gather (argsort ks) ks = (((List.range ks.length).zip ks).mergeSort (fun a b => decide (a.2 ≤ b.2))).map (·.2) := by
  rw [gather_eq_map _ ks 0 (argsort_lt ks), argsort, List.map_map]
  apply List.map_congr_left
  intro p hp
  obtain ⟨i, hi, rfl⟩ := List.getElem_of_mem ((List.mergeSort_perm _ _).mem_iff.mp hp)
  simp [List.getElem?_eq_getElem (by simpa using hi : i < ks.length)]

theorem sortBy_eq_some_iff {key : α → Int} {j : Nat} {cols r : Cols α} :
    sortBy key j cols = some r ↔ ∃ c, cols[j]? = some c ∧ take (argsort (c.map key)) cols = some r := by
  unfold sortBy
  cases cols[j]? <;> simp

/-- `sort_by` re-orders whole rows by a permutation of the row positions -/
theorem sortBy_rows (key : α → Int) (j : Nat) (cols r : Cols α) (hw : WF cols) (hne : cols ≠ [])
    (h : sortBy key j cols = some r) :
    ∃ ix : List Nat, ix.Perm (List.range (nrows cols)) ∧ toRows r = gather ix (toRows cols) := by
  obtain ⟨c, hc, h⟩ := sortBy_eq_some_iff.mp h
  obtain ⟨hix, rfl⟩ := take_eq_some_iff.mp h
  refine ⟨_, ?_, rows_map_gather hw hne hix⟩
  simpa [hw c (List.mem_of_getElem? hc)] using argsort_perm (c.map key)

/-- after `sort_by` the key column is in non-decreasing order -/
theorem sortBy_sorted (key : α → Int) (j : Nat) (cols r : Cols α) (h : sortBy key j cols = some r) :
    ∃ c', r[j]? = some c' ∧ (c'.map key).Pairwise (· ≤ ·) := by
  obtain ⟨c, hc, h⟩ := sortBy_eq_some_iff.mp h
  obtain ⟨-, rfl⟩ := take_eq_some_iff.mp h
  refine ⟨_, by rw [List.getElem?_map, hc]; rfl, ?_⟩
  rw [gather_map, gather_argsort, List.pairwise_map]
  simpa using List.pairwise_mergeSort sndLe_tt.2 sndLe_tt.or ((List.range (c.map key).length).zip (c.map key))

/-- `sort_by` an existing field never fails -/
theorem sortBy_total (key : α → Int) (j : Nat) (cols : Cols α) (hw : WF cols) (hj : j < cols.length) :
    ∃ r, sortBy key j cols = some r := by
  refine ⟨_, sortBy_eq_some_iff.mpr ⟨_, List.getElem?_eq_getElem hj, take_eq_some_iff.mpr ⟨?_, rfl⟩⟩⟩
  intro i hi
  simpa [hw _ (List.getElem_mem hj)] using argsort_lt _ i hi

example : ∃ r, sortBy (fun (x : Int) => x) 0 [[3, 1, 2], [10, 20, 30]] = some r :=
  sortBy_total _ 0 _ (wfB_iff.mp (by decide)) (by decide)

/-- sorting keys that are already in order moves nothing -/
theorem argsort_of_sorted (ks : List Int) (h : ks.Pairwise (· ≤ ·)) : argsort ks = List.range ks.length := by
  have : ((List.range ks.length).zip ks).Pairwise (fun a b => decide (a.2 ≤ b.2) = true) := by
    rw [← List.map_snd_zip (l₁ := List.range ks.length) (l₂ := ks) (by simp), List.pairwise_map] at h
    simpa using h
  rw [argsort, List.mergeSort_of_pairwise this, List.map_fst_zip (by simp)]

theorem pair_sublist {β} (l : List β) (i j : Nat) (hij : i < j) (hj : j < l.length) :
    List.Sublist [l[i]'(Nat.lt_trans hij hj), l[j]] l :=
  List.map_getElem_sublist (is := [⟨i, Nat.lt_trans hij hj⟩, ⟨j, hj⟩]) (List.pairwise_pair.mpr hij)

/-- **stability**: two rows whose keys are in order keep their relative order -/
theorem argsort_stable (ks : List Int) (i j : Nat) (hij : i < j) (hj : j < ks.length) (hle : ks[i]'(by omega) ≤ ks[j]) :
    List.Sublist [i, j] (argsort ks) := by
  have hsub := pair_sublist ((List.range ks.length).zip ks) i j hij (by simpa using hj)
  simp only [List.getElem_zip, List.getElem_range] at hsub
  exact (List.pair_sublist_mergeSort sndLe_tt.2 sndLe_tt.or (by simpa using hle) hsub).map (·.1)

/-- **`sort_by` is idempotent** -/
theorem sortBy_idempotent (key : α → Int) (j : Nat) (cols r : Cols α) (hw : WF cols) (h : sortBy key j cols = some r) :
    sortBy key j r = some r := by
  obtain ⟨c', hc', hs⟩ := sortBy_sorted key j cols r h
  obtain ⟨c, -, h⟩ := sortBy_eq_some_iff.mp h
  have hwr := (take_inv hw h).1
  refine sortBy_eq_some_iff.mpr ⟨c', hc', ?_⟩
  rw [argsort_of_sorted _ hs, List.length_map, hwr c' (List.mem_of_getElem? hc')]
  exact take_range r hwr

theorem wfn_set {n : Nat} {cols : Cols α} (j : Nat) {c : List α} (h : WFn n cols) (hc : c.length = n) :
    WFn n (cols.set j c) := by
  intro x hx
  rcases List.mem_or_eq_of_mem_set hx with hx | rfl
  · exact h x hx
  · exact hc

theorem replaceCol_none_iff (j : Nat) (c : List α) (cols : Cols α) :
    replaceCol j c cols = none ↔ ¬ (j < cols.length ∧ WF (cols.set j c)) := by
  simp [replaceCol, wfB_iff]

example : replaceCol 1 [5] [[1, 2, 3], [10, 20, 30]] = none := rfl

/-- the constructor's length check after a replacement; with a single field every length passes (the new column is the
whole table), hence `h2` -/
theorem wfB_set_iff {n : Nat} {cols : Cols α} {j : Nat} (c : List α) (h : WFn n cols) (hj : j < cols.length)
    (h2 : 2 ≤ cols.length) : wfB (cols.set j c) = true ↔ c.length = n := by
  refine wfB_iff.trans ⟨fun hw => ?_, fun hc => wf_of_wfn (wfn_set j h hc)⟩
  -- `c` and another column `k ≠ j`, which still has `n` cells, are both as long as the first column
  have hk : (if j = 0 then 1 else 0) < (cols.set j c).length := by rw [List.length_set]; split <;> omega
  have hkl := hw _ (List.getElem_mem hk)
  have hjl := hw _ (List.getElem_mem (by rwa [List.length_set] : j < (cols.set j c).length))
  rw [List.getElem_set_ne (by split <;> omega), h _ (List.getElem_mem _)] at hkl
  rw [List.getElem_set_self] at hjl
  omega

/-- replacing one field changes that component of every row and nothing else -/
theorem replace_rows (n : Nat) (cols : Cols α) (j : Nat) (c : List α) (h : WFn n cols) (hne : cols ≠ [])
    (hc : c.length = n) : toRows (cols.set j c) = replaceRows j c (toRows cols) := by
  -- row by row; below `n` it is `List.map_set` through `omap_eq_some_iff`
  have hlen := toRows_length n cols h hne
  apply List.ext_getElem?
  intro i
  rw [toRows_getElem? n _ (wfn_set j h hc) (by simpa using hne), replaceRows, List.getElem?_zipWith]
  split
  · rename_i hi
    have hr := toRows_rowAt hne i
    rw [List.getElem?_eq_getElem (hlen ▸ hi), eq_comm, rowAt, omap_eq_some_iff] at hr
    simp only [List.getElem?_eq_getElem (hlen ▸ hi), List.getElem?_eq_getElem (hc ▸ hi), rowAt, omap_eq_some_iff,
      List.map_set, hr]
  · rw [List.getElem?_eq_none (l := c) (by omega)]
    cases (toRows cols)[i]? <;> rfl

/-- adding fields extends every row by the new cells -/
theorem addFields_rows (n : Nat) (cols new : Cols α) (h : WFn n cols) (hn : WFn n new) (hne : cols ≠ []) (hne' : new ≠ []) :
    toRows (cols ++ new) = addRows (toRows cols) (toRows new) := by
  apply List.ext_getElem?
  intro i
  rw [addRows, toRows_rowAt (by simp [hne]), List.getElem?_zipWith, toRows_rowAt hne,
    toRows_rowAt hne']
  unfold rowAt
  rw [omap_append]
  cases omap (fun c => c[i]?) cols <;> cases omap (fun c => c[i]?) new <;> rfl

/-- the width is kept along so that a run never reaches the table without columns (`run_refines_rows` needs `cols ≠ []`) -/
theorem step_inv {cols r : Cols α} {op : Op α} (hw : WF cols) (h : step cols op = some r) :
    WF r ∧ cols.length ≤ r.length := by
  cases op with
  | take ix => exact take_inv hw h
  | mask m => exact take_inv hw (mask_take h)
  | sortBy j key =>
    obtain ⟨c, -, h⟩ := sortBy_eq_some_iff.mp h
    exact take_inv hw h
  | predMask j p =>
    obtain ⟨c, -, h⟩ := predMask_eq_some_iff.mp h
    exact take_inv hw (mask_take h)
  | concat o =>
    simp only [step, Option.ite_none_right_eq_some, Bool.and_eq_true, beq_iff_eq, Option.some.injEq] at h
    exact h.2 ▸ ⟨concat_wf hw (wfB_iff.mp h.1.1), by simp [concat, h.1.2]⟩
  | concatL o =>
    simp only [step, Option.ite_none_right_eq_some, Bool.and_eq_true, beq_iff_eq, Option.some.injEq] at h
    exact h.2 ▸ ⟨concat_wf (wfB_iff.mp h.1.1) hw, by simp [concat, h.1.2]⟩
  | replace j c =>
    simp only [step, replaceCol, Option.ite_none_right_eq_some, Bool.and_eq_true, Option.some.injEq] at h
    exact h.2 ▸ ⟨wfB_iff.mp h.1.2, by simp⟩
  | addFields new =>
    simp only [step, addFields, Option.ite_none_right_eq_some, Option.some.injEq] at h
    exact h.2 ▸ ⟨wfB_iff.mp h.1, by simp⟩

theorem step_wf (cols r : Cols α) (op : Op α) (hw : WF cols) (h : step cols op = some r) : WF r :=
  (step_inv hw h).1

/-- **invariant**: after any finite sequence of operations all columns still have equal length -/
theorem inv (ops : List (Op α)) (cols r : Cols α) (hw : WF cols) (h : run ops cols = some r) : WF r := by
  induction ops generalizing cols with
  | nil => exact Option.some.inj h ▸ hw
  | cons op ops ih =>
    rw [run] at h
    split at h
    · rename_i c' hc'
      exact ih c' (step_wf cols c' op hw hc') h
    · simp at h

example : run [.mask [true, true, false], .concat [[7], [70]], .take [2, 0, 1], .replace 0 [0, 0, 0]]
    [[3, 1, 2], [30, 10, 20]] = some [[0, 0, 0], [70, 30, 10]] := rfl

theorem refines_take (ix : List Nat) {cols : Cols α} (hw : WF cols) (hne : cols ≠ []) :
    stepRows (cols.length, toRows cols) (.take ix) = (take ix cols).map (fun r => (r.length, toRows r)) := by
  simp only [stepRows, takeRows, take, toRows_length _ cols hw hne]
  split
  · rename_i h
    simp [rows_map_gather hw hne (by simpa using h)]
  · rfl

theorem refines_mask (m : List Bool) {cols : Cols α} (hw : WF cols) (hne : cols ≠ []) :
    stepRows (cols.length, toRows cols) (.mask m) = (mask m cols).map (fun r => (r.length, toRows r)) := by
  simp only [stepRows, mask_eq, toRows_length _ cols hw hne]
  split
  · rename_i h
    rw [Option.map_some, List.length_map, ← mask_rows m cols _ hw hne ((mask_eq m cols).trans (if_pos h))]
  · rfl

/-- **one operation, columns = entries**: every operation does to the columns what its row-wise reading does to the
list of entries - the same rows, the same number of fields, and it raises in exactly the same situations -/
theorem step_refines_rows (cols : Cols α) (op : Op α) (hw : WF cols) (hne : cols ≠ []) :
    stepRows (cols.length, toRows cols) op = (step cols op).map (fun r => (r.length, toRows r)) := by
  have hlen := toRows_length (nrows cols) cols hw hne
  cases op with
  | take ix => exact refines_take ix hw hne
  | mask m => exact refines_mask m hw hne
  | concat o =>
    simp only [stepRows, step]
    split
    · rename_i hc
      simp only [Bool.and_eq_true, beq_iff_eq] at hc
      rw [Option.map_some, concat_rows _ _ cols o hw (wfB_iff.mp hc.1) hc.2.symm hne]
      simp [concat, hc.2]
    · rfl
  | concatL o =>
    simp only [stepRows, step]
    split
    · rename_i hc
      simp only [Bool.and_eq_true, beq_iff_eq] at hc
      -- `o` comes first here and must be non-empty: it is as wide as `cols`
      have hone : o ≠ [] := fun e => hne (List.length_eq_zero_iff.mp (by simp [← hc.2, e]))
      rw [Option.map_some, concat_rows _ _ o cols (wfB_iff.mp hc.1) hw hc.2 hone]
      simp [concat, hc.2]
    · rfl
  | sortBy j key =>
    -- the key column read off the rows is column `j`; then it is the `take` case
    simp only [stepRows, step, sortBy]
    cases hc : cols[j]? with
    | none => rw [if_neg (by simpa using hc)]; rfl
    | some c =>
      have hcol : (toRows cols).filterMap (fun r => r[j]?) = c := by
        simpa [List.filterMap_map, Function.comp_def] using
          congrArg (List.filterMap id) (toRows_column _ cols hw hne j c hc)
      rw [if_pos (List.getElem?_eq_some_iff.mp hc).1, hcol]
      exact refines_take _ hw hne
  | predMask j p =>
    -- the `mask` case for the mask computed from column `j`
    simp only [stepRows, step, predMask]
    cases hc : cols[j]? with
    | none => rw [if_neg (by simpa using hc)]; rfl
    | some c =>
      rw [if_pos (List.getElem?_eq_some_iff.mp hc).1, ← refines_mask _ hw hne, stepRows,
        if_pos (by simp [hlen, hw c (List.mem_of_getElem? hc)]), colMask_eq_rowMask p hw hne hc, zip_filterMap_eq_filter]
      rfl
  | replace j c =>
    simp only [stepRows, step, replaceCol, hlen]
    -- the only column may take any length (own branch on the rows side); otherwise `wfB_set_iff`
    by_cases h1 : cols.length = 1 ∧ j = 0
    · obtain ⟨c0, rfl⟩ := List.length_eq_one_iff.mp h1.1
      simp [h1.2, wfB, nrows, toRows]
    · rw [if_neg (by simpa using h1)]
      by_cases hj : j < cols.length
      · have h2 : 2 ≤ cols.length := by
          have := List.length_pos_iff.mpr hne
          omega
        simp only [hj, decide_true, Bool.true_and, wfB_set_iff c hw hj h2, beq_iff_eq]
        split
        · rename_i hc
          simp [replace_rows (nrows cols) cols j c hw hne hc]
        · rfl
      · simp [hj]
  | addFields new =>
    simp only [stepRows, step, addFields, hlen]
    -- the old columns pass already: a check on the new ones
    have hwf : wfB (cols ++ new) = new.all (fun c => c.length == nrows cols) := by
      obtain ⟨c, cs, rfl⟩ := List.exists_cons_of_ne_nil hne
      have := wfB_iff.mpr hw
      simp only [wfB, nrows] at this
      rw [wfB, List.all_append, List.cons_append, nrows, this, Bool.true_and]
      rfl
    rw [hwf]
    split
    · rename_i hall
      cases new with
      | nil => simp
      | cons d ds =>
        rw [List.all_eq_true] at hall
        simp [addFields_rows (nrows cols) cols (d :: ds) hw (fun c hc => by simpa using hall c hc) hne]
    · rfl

/-- **programs, columns = entries**: a program run on the columns gives - in rows, number of fields and failure -
what the row-wise interpreter (`runRows`: a table read as a list of NumPy records) gives on the entries -/
theorem run_refines_rows (ops : List (Op α)) (cols : Cols α) (hw : WF cols) (hne : cols ≠ []) :
    runRows ops (cols.length, toRows cols) = (run ops cols).map (fun r => (r.length, toRows r)) := by
  induction ops generalizing cols with
  | nil => rfl
  | cons op ops ih =>
    rw [runRows, run, step_refines_rows cols op hw hne]
    cases hs : step cols op with
    | none => rfl
    | some r =>
      have hr : 0 < r.length := Nat.lt_of_lt_of_le (List.length_pos_iff.mpr hne) (step_inv hw hs).2
      exact ih r (step_wf cols r op hw hs) (List.length_pos_iff.mp hr)

/-! `pyIndex` is `Py.normIdx` by unfolding: the lemmas of `Base/PyLaws` apply as they are. -/

/-- `table[i]` / `rows[i]` raise exactly outside `-n ≤ i < n` (too large AND too negative) -/
theorem pyIndex_none_iff (n : Nat) (i : Int) : pyIndex n i = none ↔ (i < -(n : Int) ∨ (n : Int) ≤ i) :=
  Py.normIdx_eq_none_iff n i

theorem pyIndex_some (n : Nat) (i : Int) (k : Nat) (h : pyIndex n i = some k) :
    k < n ∧ (k : Int) = if 0 ≤ i then i else n + i := by
  refine ⟨Py.normIdx_lt h, ?_⟩
  rcases (Py.normIdx_eq_some_iff n i k).1 h with ⟨h0, _, hk⟩ | ⟨h0, _, hk⟩
  · rw [if_pos h0]; exact hk
  · rw [if_neg (Int.not_le.2 h0)]; exact hk

example : pyIndex 3 (-4) = none ∧ pyIndex 3 (-3) = some 0 ∧ pyIndex 3 2 = some 2 ∧ pyIndex 3 3 = none ∧ pyIndex 0 (-1) = none := by decide

/-- **one entry, columns = entries**: `table[i]` is `rows[i]`, with `IndexError` in exactly the same cases -/
theorem pick_refines_rows (cols : Cols α) (hw : WF cols) (hne : cols ≠ []) (i : Int) :
    pickRow cols i = pickRows (toRows cols) i := by
  simp only [pickRow, pickRows, toRows_length (nrows cols) cols hw hne, toRows_rowAt hne]

/-- The dispatch table (re-extracted from the running code on every run) classified in one evaluation; the three
theorems below are readings of it: every cell conforms or is listed, how many of each, every listed cell is there. -/
theorem construct_sweep :
    Gen.C19.constructTable.length = 300 ∧
    (Gen.C19.constructTable.filter (fun r => r.2.2 == "raise" || (allowedClasses r.1).contains r.2.2)).length = 238 ∧
    Gen.C19.constructTable.filter (fun r => r.2.2 != "raise" && !(allowedClasses r.1).contains r.2.2 &&
      knownDtypeKept.contains r) = knownDtypeKept ∧
    ((Gen.C19.constructTable.filter (fun r => r.2.2 != "raise" && !(allowedClasses r.1).contains r.2.2 &&
      !knownDtypeKept.contains r)).map (fun r => (r.1, r.2.1))).Perm
      knownUnconverted := by
  decide +kernel

/-- **construction converts each column to its declared type or raises** — over the whole dispatch table (every
field kind × every argument form; declared type per kind: `allowedClasses`). The cells that do neither are the
recorded findings: `knownDtypeKept` (a numeric field keeps another numeric dtype), `knownUnconverted` (the argument
is stored as it came). -/
theorem construct_converts_or_raises : Gen.C19.constructTable.all constructCellOK = true := by
  rw [List.all_eq_true]
  intro r hr
  rw [constructCellOK]
  cases hd : r.2.2 == "raise" || (allowedClasses r.1).contains r.2.2 || knownDtypeKept.contains r with
  | true => rfl
  | false =>
    -- then `r` is one of the rows behind `knownUnconverted`
    have h : (r.2.2 != "raise" && !(allowedClasses r.1).contains r.2.2 && !knownDtypeKept.contains r) = true := by
      rw [bne, ← Bool.not_or, ← Bool.not_or, hd]; rfl
    rw [List.contains_iff_mem.mpr
      (construct_sweep.2.2.2.mem_iff.mp (List.mem_map_of_mem (List.mem_filter.mpr ⟨hr, h⟩))), Bool.or_true]

/-- the two lists of excepted cells are tight: every listed cell occurs in the table and does there what the list says -
so repairing a finding without taking its cells off the list breaks the build -/
theorem construct_whitelists_tight :
    knownDtypeKept.all (fun c => Gen.C19.constructTable.contains c && !(allowedClasses c.1).contains c.2.2) = true ∧
    knownUnconverted.all (fun kf => Gen.C19.constructTable.any (fun r =>
      r.1 == kf.1 && r.2.1 == kf.2 && r.2.2 != "raise" && !(allowedClasses r.1).contains r.2.2 && !knownDtypeKept.contains r)) = true := by
  obtain ⟨-, -, hk, hu⟩ := construct_sweep
  simp only [List.all_eq_true, List.any_eq_true]
  constructor
  · intro c hc
    rw [← hk, List.mem_filter, Bool.and_eq_true, Bool.and_eq_true] at hc
    rw [Bool.and_eq_true, List.contains_iff_mem]
    exact ⟨hc.1, hc.2.1.2⟩
  · intro kf hkf
    obtain ⟨r, hr, rfl⟩ := List.mem_map.mp (hu.mem_iff.mpr hkf)
    rw [List.mem_filter] at hr
    refine ⟨r, hr.1, ?_⟩
    rw [beq_self_eq_true, beq_self_eq_true, Bool.true_and, Bool.true_and]
    exact hr.2

/-- the census of the 10 × 30 cells: conforming, `knownDtypeKept`, `knownUnconverted` -/
theorem construct_census :
    let t := Gen.C19.constructTable
    let conforms := t.filter (fun r => r.2.2 == "raise" || (allowedClasses r.1).contains r.2.2)
    let kept := t.filter (fun r => r.2.2 != "raise" && !(allowedClasses r.1).contains r.2.2 && knownDtypeKept.contains r)
    let unconv := t.filter (fun r => r.2.2 != "raise" && !(allowedClasses r.1).contains r.2.2 && !knownDtypeKept.contains r)
    (t.length, conforms.length, kept.length, unconv.length) = (300, 238, 20, 42) := by
  obtain ⟨h1, h2, h3, h4⟩ := construct_sweep
  intro t conforms kept unconv
  have e3 : kept.length = 20 := congrArg List.length h3
  have e4 : unconv.length = 42 := (List.length_map _).symm.trans h4.length_eq
  rw [h1, h2, e3, e4]

/-- the table covers every field kind × every argument form it claims to (no cell silently missing) -/
theorem construct_table_complete :
    Gen.C19.constructTable.map (fun r => (r.1, r.2.1)) =
      (["str", "sid", "int", "float", "bool", "opt", "li", "dna", "strand", "inner"].flatMap (fun k =>
        ["list_str", "list_int", "list_float", "list_bool", "list_none", "nd_int", "nd_float", "nd_bool", "nd_str",
         "nd_obj_int", "series_obj_int", "actg_ragged", "actg_flat", "encoded_ragged", "dna_ragged", "string_array", "ragged_int", "list_list_int", "table", "list_entries",
         "series_str", "series_int", "strand_str",
         "list_bytes", "nd_bytes", "nd_obj_str", "nd_obj_bytes", "list_npstr", "sid_raw", "series_bytes"].map (fun f => (k, f)))) := by decide +kernel

theorem dotFree_ne {n : Name} (h : dotFree n) : ∀ x ∈ n, (x != dot) = true :=
  fun _ hx => bne_iff_ne.mpr fun e => h (e ▸ hx)

theorem firstComp_dotFree {n : Name} (h : dotFree n) : firstComp n = n := by
  simpa [firstComp] using List.takeWhile_append_of_pos (l₂ := []) (dotFree_ne h)

theorem lookup_clean {α} {n : Name} (hn : dotFree n) {p : List (Name × List α)} (hp : Clean n p) :
    (plainDict p).lookup n = none := by
  rw [List.lookup_eq_none_iff]
  intro kv hkv
  exact bne_iff_ne.mpr fun e => hp kv (List.mem_filter.mp hkv).1 (e ▸ firstComp_dotFree hn)

theorem subDict_clean {α} {n : Name} {p : List (Name × List α)} (hp : Clean n p) : subDict n p = [] := by
  rw [subDict, List.filterMap_eq_nil_iff]
  intro kv hkv
  by_cases hd : kv.1.contains dot = true
  · rw [split1, if_pos hd]; exact if_neg (hp kv hkv)
  · rw [split1, if_neg hd]

theorem subDict_join {α} {n : Name} (hn : dotFree n) (d : List (Name × List α)) :
    subDict n (d.map (fun kv => (n ++ dot :: kv.1, kv.2))) = d := by
  simp [subDict, split1, List.filterMap_map, Function.comp_def, List.takeWhile_append_of_pos (dotFree_ne hn),
    List.dropWhile_append_of_pos (dotFree_ne hn)]

theorem plainDict_append {α} (p q : List (Name × List α)) : plainDict (p ++ q) = plainDict p ++ plainDict q :=
  List.filter_append p q

theorem subDict_append {α} (n : Name) (p q : List (Name × List α)) : subDict n (p ++ q) = subDict n p ++ subDict n q :=
  List.filterMap_append

theorem clean_toDictVal {α} {n m : Name} (hn : dotFree n) (hne : n ≠ m) (t : Tab α) : Clean m (toDictVal n t) := by
  intro kv hkv
  cases t with
  | col c => rw [List.mem_singleton.mp hkv, firstComp_dotFree hn]; exact hne
  | tab fs =>
    obtain ⟨kv', -, rfl⟩ := List.mem_map.mp hkv
    simpa [firstComp, List.takeWhile_append_of_pos (dotFree_ne hn)] using hne

theorem clean_toDictFields {α} {m : Name} {fs : List (Name × Tab α)} (hw : wfFields fs) (hne : ∀ p ∈ fs, p.1 ≠ m) :
    Clean m (toDictFields fs) := by
  induction fs with
  | nil => nofun
  | cons f fs ih =>
    rw [List.forall_mem_cons] at hne
    exact List.forall_mem_append.mpr ⟨clean_toDictVal hw.1 hne.1 f.2, ih hw.2.2.2 hne.2⟩

/- `pre` / `post`: the entries of the sibling fields before / after field `n` in the dict of its table; being `Clean`,
they are invisible to the lookup of `n` and to the sub-dict of `n.…`. -/
mutual
theorem fromDictFields_spec {α} : ∀ (fs : List (Name × Tab α)), wfFields fs →
    ∀ (pre : List (Name × List α)), (∀ p ∈ fs, Clean p.1 pre) →
    fromDictFields (schemaFields fs) (pre ++ toDictFields fs) = some fs
  | [], _, _, _ => rfl
  | (n, t) :: rest, ⟨hn, hdist, hwt, hwr⟩, pre, hpre => by
    rw [List.forall_mem_cons] at hpre
    rw [schemaFields, toDictFields, fromDictFields, ← List.append_assoc,
      fromDictVal_spec n hn t hwt pre _ hpre.1 (clean_toDictFields hwr hdist),
      fromDictFields_spec rest hwr _ fun p hp =>
        List.forall_mem_append.mpr ⟨hpre.2 p hp, clean_toDictVal hn (hdist p hp).symm t⟩]
theorem fromDictVal_spec {α} (n : Name) (hn : dotFree n) : ∀ (t : Tab α), wfVal t →
    ∀ (pre post : List (Name × List α)), Clean n pre → Clean n post →
    fromDictVal n (schemaVal t) (pre ++ toDictVal n t ++ post) = some t
  | .col c, _, pre, post, hpre, _ => by
    have : (plainDict [(n, c)]).lookup n = some c := by
      have : dot ∉ n := hn
      simp [plainDict, this]
    rw [schemaVal, toDictVal, fromDictVal, plainDict_append, plainDict_append, List.lookup_append, List.lookup_append,
      lookup_clean hn hpre, this]
    rfl
  | .tab fs, hw, pre, post, hpre, hpost => by
    rw [schemaVal, toDictVal, fromDictVal, subDict_append, subDict_append, subDict_clean hpre,
      subDict_clean hpost, subDict_join hn, List.append_nil, fromDictFields_spec fs hw [] fun _ _ => nofun]
    rfl
end

/-- **`from_dict ∘ todict = id`** for arbitrarily nested table fields: the dotted keys `name.sub…` are split back at
the first dot, level by level — provided field names are dot-free (Python identifiers) and distinct per table. -/
theorem fromDict_toDict {α} (fs : List (Name × Tab α)) (hw : wfFields fs) :
    fromDictFields (schemaFields fs) (toDictFields fs) = some fs :=
  fromDictFields_spec fs hw [] fun _ _ => nofun

/-- a field name containing a dot breaks the round trip (why the hypothesis is needed; `add_fields`
rejects such names) -/
theorem fromDict_dotted_name_unsound :
    fromDictFields (schemaFields [([97, 46, 98], Tab.col [1, 2])]) (toDictFields [([97, 46, 98], Tab.col [1, 2])])
      = (none : Option (List (Name × Tab Nat))) := rfl

example : wfFields [([97], Tab.col [1, 2]), ([98], Tab.tab [([97], Tab.col [3, 4]), ([99], Tab.col [5, 6])])] := by
  simp only [wfFields, wfVal, dotFree]; decide
example : toDictFields [([97], Tab.col [1, 2]), ([98], Tab.tab [([97], Tab.col [3, 4]), ([99], Tab.col [5, 6])])]
    = [([97], [1, 2]), ([98, 46, 97], [3, 4]), ([98, 46, 99], [5, 6])] := rfl

/-- **inferred field types**: over the whole re-extracted table, a column added without a declared type gets the class
its values naturally have; it is refused only for values that are no basic type -/
theorem infer_natural_class : Gen.C19.inferTable.all inferCellOK = true := by decide +kernel

theorem infer_table_complete :
    Gen.C19.inferTable.map (·.1) = ["list_int", "list_str", "list_float", "list_bool", "list_mixed", "nd_int", "nd_float",
      "nd_bool", "nd_str", "encoded_ragged", "dna_ragged", "list_dna_rows", "string_array", "list_list_int"] := rfl

end C19
