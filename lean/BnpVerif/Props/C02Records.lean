import BnpVerif.Props.C02Table
import BnpVerif.Base.Offsets
/-! C02 — records that span several lines. k-line formats (2-line FASTA, FASTQ): the table built from the newline positions
denotes, for record `i` and role `j`, line `k·i + j` without the role's offset (`kline_roles_any`). Wrapped FASTA: header
positions, lines per record and cumulative line lengths regroup the lines into names and joined sequences
(`fasta_wrapped_join`), records without sequence lines included. -/
namespace C02
open Base

/-! ## k-line formats (2-line FASTA, FASTQ): line roles -/

/-- For every buffer with at least `k ≥ 1` complete lines (2-line FASTA: k = 2, FASTQ: k = 4) the table built from
the newline positions denotes, for record `i` and role `j`, line `k·i + j` without the role's offset (the header
marker); left-over lines of an incomplete last record are not parsed. -/
theorem kline_roles_any (k : Nat) (offsets : List Nat) (bs : Bytes) (hk : 0 < k) (hpos : k ≤ (linesOf bs).length) :
    ∃ rows, klineTable k offsets bs = .ok rows ∧
      rows.map (fun r => r.map (fun p => slice bs p.1 p.2))
        = (chunkF k ((linesOf bs).length / k) (linesOf bs)).map (fun e =>
            (List.zip e (offsets ++ List.replicate k 0)).map (fun lo => lo.1.drop lo.2)) := by
  generalize hnls : delimsFrom (· == 10) 0 bs = nls
  have hlen : nls.length = (linesOf bs).length := by
    rw [← hnls, delimsFrom_length, pieces_nl]
  -- the table is cut after `t = k·⌊lines / k⌋` newlines
  generalize ht : nls.length - nls.length % k = t
  have htq : t = k * ((linesOf bs).length / k) :=
    hlen ▸ ht ▸ Nat.sub_eq_of_eq_add (Nat.div_add_mod nls.length k).symm
  have htl : (nls.take t).length = t := List.length_take_of_le (ht ▸ Nat.sub_le _ _)
  have htexts : (List.zip (0 :: (nls.take t).dropLast.map (· + 1)) (nls.take t)).map (fun p => slice bs p.1 p.2)
      = (linesOf bs).take t := by
    rw [zip_dropLast_eq, zip_prev_take, List.map_take, ← zip_dropLast_eq, ← hnls, pairs_texts, pieces_nl]
  refine ⟨_, by
    unfold klineTable
    simp only [hnls, ht]
    rw [if_neg (hlen ▸ fun h => h.elim (Nat.ne_of_gt hk) (Nat.not_lt.mpr hpos))], ?_⟩
  rw [htl, htq, Nat.mul_div_cancel_left _ hk, List.map_map, ← htq]
  conv => rhs; rw [← chunkF_take, ← htq, ← htexts, ← chunkF_map, List.map_map]
  -- one record: adding the role's offset to a start drops that many bytes from the line
  refine List.map_congr_left fun r _ => ?_
  rw [Function.comp_apply, Function.comp_apply, List.map_map, List.zip_map_left, List.map_map]
  exact List.map_congr_left fun po _ => slice_add bs po.1.1 po.2 po.1.2

/-- `kline_roles_any` when the number of complete lines is a multiple of `k` -/
theorem kline_roles (k : Nat) (offsets : List Nat) (bs : Bytes) (hk : 0 < k)
    (hmul : (linesOf bs).length % k = 0) (hpos : k ≤ (linesOf bs).length) :
    ∃ rows, klineTable k offsets bs = .ok rows ∧
      rows.map (fun r => r.map (fun p => slice bs p.1 p.2))
        = (chunkF k ((linesOf bs).length / k) (linesOf bs)).map (fun e =>
            (List.zip e (offsets ++ List.replicate k 0)).map (fun lo => lo.1.drop lo.2)) :=
  kline_roles_any k offsets bs hk hpos

/-! ## wrapped FASTA: sequence lengths from cumulative line lengths, grouping the lines into records -/

theorem psum_getD (a : Nat) (l : List Nat) (i : Nat) (hi : i ≤ l.length) :
    (psum a l).getD i 0 = a + (l.take i).sum :=
  Offsets.getD_of_scan psum (fun _ => rfl) (fun _ _ _ => rfl) a l i hi

theorem seqLensAux_spec (lens : List Nat) (off : Nat) (ns : List Nat) (h : off + ns.sum ≤ lens.length) :
    seqLensAux (psum 0 lens) off ns = (unflatten ns (lens.drop off)).map List.sum := by
  induction ns generalizing off with
  | nil => rfl
  | cons n rest ih =>
    rw [List.sum_cons, ← Nat.add_assoc] at h
    have hn : off + n ≤ lens.length := Nat.le_trans (Nat.le_add_right _ _) h
    rw [seqLensAux, unflatten, List.map_cons, psum_getD 0 lens _ hn,
      psum_getD 0 lens off (Nat.le_trans (Nat.le_add_right _ _) hn), ih (off + n) h, List.drop_drop,
      List.take_add, List.sum_append, Nat.zero_add, Nat.zero_add, Nat.add_sub_cancel_left]

/-- For any numbers of sequence lines per record, zero included, the repaired arithmetic gives each record the
total length of its own lines. -/
theorem fasta_seqLens (lens nLines : List Nat) (h : nLines.sum ≤ lens.length) :
    seqLens lens nLines = (unflatten nLines lens).map List.sum :=
  seqLensAux_spec lens 0 nLines (by rwa [Nat.zero_add])

/-- the shipped arithmetic `ends[offsets[1:]-1] - starts[offsets[:-1]]`: a record without sequence lines at
the end indexes past the array (IndexError); at the front it wraps around to the last line -/
theorem seqLensOld_unsound :
    seqLensOld [2] [1, 0] = none ∧ seqLens [2] [1, 0] = [2, 0] ∧
    seqLensOld [2] [0, 1] = some [2, 2] ∧ seqLens [2] [0, 1] = [0, 2] := by decide +kernel

/-- the lines of a FASTA text given its records: header line (marker ++ name), then the record's sequence lines -/
def fastaSer (marker : Nat) (es : List (Bytes × List Bytes)) : List Bytes :=
  es.flatMap (fun e => (marker :: e.1) :: e.2)

theorem fastaSer_cons (m : Nat) (e : Bytes × List Bytes) (es : List (Bytes × List Bytes)) :
    fastaSer m (e :: es) = (m :: e.1) :: (e.2 ++ fastaSer m es) := rfl

theorem headerIdx_skip (m k : Nat) (body rest : List Bytes) (hb : ∀ l ∈ body, l.head? ≠ some m) :
    headerIdx m k (body ++ rest) = headerIdx m (k + body.length) rest := by
  induction body generalizing k with
  | nil => rfl
  | cons l ls ih =>
    rw [List.cons_append, headerIdx, if_neg (hb l List.mem_cons_self),
      ih (k + 1) (fun l' hl' => hb l' (List.mem_cons_of_mem _ hl')), List.length_cons, Nat.add_assoc, Nat.add_comm 1]

/-- header positions ++ [line count]: consecutive differences minus one are the records' numbers of sequence lines -/
theorem bounds_ser (m : Nat) (es : List (Bytes × List Bytes)) (hb : ∀ e ∈ es, ∀ l ∈ e.2, l.head? ≠ some m) (k : Nat) :
    ∃ tl, headerIdx m k (fastaSer m es) ++ [k + (fastaSer m es).length] = k :: tl ∧
      (List.zip (k :: tl) tl).map (fun ab => ab.2 - ab.1 - 1) = es.map (fun e => e.2.length) := by
  induction es generalizing k with
  | nil => exact ⟨[], rfl, rfl⟩
  | cons e rest ih =>
    obtain ⟨tl, h1, h2⟩ := ih (fun e' he' => hb e' (List.mem_cons_of_mem _ he')) (k + 1 + e.2.length)
    refine ⟨(k + 1 + e.2.length) :: tl, ?_, ?_⟩
    · rw [fastaSer_cons, headerIdx, if_pos (show (m :: e.1).head? = some m from rfl), headerIdx_skip m (k + 1) e.2 _ (hb e List.mem_cons_self),
        List.cons_append, ← h1, List.length_cons, List.length_append]
      congr 3; omega
    · rw [List.zip_cons_cons, List.map_cons, h2, List.map_cons]
      congr 1; simp only; omega

theorem filter_ser_headers (m : Nat) (es : List (Bytes × List Bytes)) (hb : ∀ e ∈ es, ∀ l ∈ e.2, l.head? ≠ some m) :
    (fastaSer m es).filter (fun l => l.head? = some m) = es.map (fun e => m :: e.1) ∧
    (fastaSer m es).filter (fun l => !(decide (l.head? = some m))) = (es.map (·.2)).flatten := by
  induction es with
  | nil => exact ⟨rfl, rfl⟩
  | cons e rest ih =>
    have ih' := ih (fun e' he' => hb e' (List.mem_cons_of_mem _ he'))
    have hbody1 : e.2.filter (fun l => l.head? = some m) = [] :=
      List.filter_eq_nil_iff.mpr (fun l hl => by simpa using hb e List.mem_cons_self l hl)
    have hbody2 : e.2.filter (fun l => !(decide (l.head? = some m))) = e.2 :=
      List.filter_eq_self.mpr (fun l hl => by simpa using hb e List.mem_cons_self l hl)
    simp [fastaSer_cons, List.filter_append, hbody1, hbody2, ih'.1, ih'.2]

/-- cutting the flat text by the records' cumulative line lengths gives each record its own lines, joined
(`unflatten_flatten` twice: for the line lengths grouped by record, and for the joined records) -/
theorem regroup_lines {α} (S : List (List (List α))) :
    unflatten (seqLens (S.flatten.map List.length) (S.map List.length)) S.flatten.flatten = S.map List.flatten := by
  have hlens : S.flatten.map List.length = (S.map (·.map List.length)).flatten := by rw [List.map_flatten]
  have hn : S.map List.length = (S.map (·.map List.length)).map List.length := by simp [Function.comp_def]
  rw [fasta_seqLens _ _ (by simp [List.length_flatten, Function.comp_def]), hlens, hn, unflatten_flatten, List.map_map,
    List.flatten_flatten]
  conv => rhs; rw [← unflatten_flatten (S.map List.flatten)]
  simp [Function.comp_def, List.length_flatten]

/-- For every list of records (any number of sequence lines, none included, of any widths) the reader's grouping
(header positions → lines per record → cumulative line lengths → one cut of the flat text) returns each record's
name and the concatenation of exactly its own sequence lines. -/
theorem fasta_wrapped_join (m : Nat) (es : List (Bytes × List Bytes))
    (hb : ∀ e ∈ es, ∀ l ∈ e.2, l.head? ≠ some m) :
    fastaGroup m (fastaSer m es) = (es.map (·.1), es.map (fun e => e.2.flatten)) := by
  obtain ⟨hf1, hf2⟩ := filter_ser_headers m es hb
  obtain ⟨tl, h1, h2⟩ := bounds_ser m es hb 0
  rw [Nat.zero_add] at h1
  have := regroup_lines (es.map (·.2))
  rw [List.map_map, List.map_map] at this
  simp only [fastaGroup, hf1, hf2, h1, List.drop_succ_cons, List.drop_zero, h2]
  exact Prod.ext (by simp [Function.comp_def]) this

/-! ## non-vacuity -/

-- "@r\nAC\n+\nII\n"
example : (linesOf [64,114,10,65,67,10,43,10,73,73,10]).length % 4 = 0 ∧ 4 ≤ (linesOf [64,114,10,65,67,10,43,10,73,73,10]).length := by decide +kernel
-- kline_roles_any: five lines, k = 2
example : 2 ≤ (linesOf [62,97,10,65,10,62,98,10,67,10,62,99,10]).length := by decide +kernel

-- fasta_wrapped_join: records a:[AC,G], b:[] (no sequence line), c:[T]
example : fastaGroup 62 (fastaSer 62 [([97], [[65, 67], [71]]), ([98], []), ([99], [[84]])])
    = ([[97], [98], [99]], [[65, 67, 71], [], [84]]) := by decide +kernel

end C02
