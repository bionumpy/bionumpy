import BnpVerif.Model.C20
import BnpVerif.Gen.C20
import BnpVerif.Props.C07
import BnpVerif.Base.Lists
/-! C20 property theorems (heap model). The general frame theorem `frame` is proved for ALL programs
that pass the static check `safe`, all heaps and all argument bindings; the anchored routines are
instances. All statements are about the MODEL: the view/copy tags of the NumPy steps are assumptions
(`*_model` in the names of the instances records exactly this gap, see "the anchored routines"); the real
decision is taken by the snapshot registry of `harness/props/c20.py`. -/
namespace C20

/-! ### one law per primitive -/

theorem run_cons_some {st : Step} {p : List Step} {s s' : State} :
    run (st :: p) s = some s' ↔ ∃ s1, step s st = some s1 ∧ run p s1 = some s' := by
  rw [run]; cases step s st <;> simp

theorem Env.get_set (e : Env) (v w : Nat) (r : Ref) : (e.set v r).get w = if w = v then some r else e.get w := by
  fun_induction Env.set e v r generalizing w with
  | case1 | case3 => cases w <;> rfl
  | case2 _ _ ih | case4 _ _ _ _ ih =>
    cases w with
    | zero => rfl
    | succ w => exact (ih w).trans (by simp only [Nat.succ_eq_add_one, Nat.add_right_cancel_iff]; rfl)

theorem updateBuf_eq_modify (h : Heap) (i : Nat) (f : Buf → Buf) : updateBuf h i f = h.modify i f := by
  fun_induction updateBuf h i f <;> simp [*]

theorem setAt_eq_set (d : Bytes) (i v : Nat) : setAt d i v = d.set i v := by
  fun_induction setAt d i v <;> simp [*]

theorem writeRef_eq_modify (h : Heap) (r : Ref) (vals : Bytes) :
    writeRef h r vals = h.modify r.buf fun b => { b with data := writeData b.data r.idx vals } :=
  updateBuf_eq_modify ..

/-! ### get/set laws of the heap primitives (so `read`/`writeRef` are not right only by definition) -/

/-- `x[idx] = vals` is the item assignment of C07 -/
theorem writeData_eq_scatter (d : Bytes) (idx : List Nat) (vals : Bytes) : writeData d idx vals = C07.scatter d idx vals := by
  fun_induction writeData d idx vals with
  | case1 _ _ _ _ _ ih => rw [ih, setAt_eq_set]; rfl
  | case2 d idx vals h =>
    -- `h`: the two lists are not both a `cons`, so `scatter` takes its last clause as well
    unfold C07.scatter
    split
    · exact (h _ _ _ _ rfl rfl).elim
    · rfl

theorem writeData_length (d : Bytes) (idx : List Nat) (vals : Bytes) : (writeData d idx vals).length = d.length :=
  writeData_eq_scatter d idx vals ▸ C07.scatter_length idx d vals

theorem writeData_getElem?_not_mem (d : Bytes) (idx : List Nat) (vals : Bytes) (j : Nat) (hj : j ∉ idx) :
    (writeData d idx vals)[j]? = d[j]? :=
  writeData_eq_scatter d idx vals ▸ C07.scatter_other j idx d vals hj

/-- get-after-set for distinct, in-range positions -/
theorem writeData_getElem?_mem (d : Bytes) (idx : List Nat) (vals : Bytes) (hnd : idx.Nodup)
    (hin : ∀ i ∈ idx, i < d.length) (hl : vals.length = idx.length) (k : Nat) (hk : k < idx.length) :
    (writeData d idx vals)[idx[k]]? = vals[k]? := by
  rw [writeData_eq_scatter, Base.omap_getElem? _ _ _ (C07.scatter_get idx d vals hnd hin hl) k, List.getElem?_eq_getElem hk]
  rfl

/-- **get-after-set**: what is written through a reference is read back through it -/
theorem read_writeRef_same (h : Heap) (r : Ref) (vals : Bytes) (b : Buf) (hb : h[r.buf]? = some b) (hnd : r.idx.Nodup)
    (hin : ∀ i ∈ r.idx, i < b.data.length) (hl : vals.length = r.idx.length) : read (writeRef h r vals) r = vals := by
  have hg := Base.omap_eq_some_iff.1 (C07.scatter_get r.idx b.data vals hnd hin hl)
  simp only [read, writeRef_eq_modify, List.getElem?_modify_eq, hb, Option.map_eq_map, Option.map_some, Option.join_some,
    writeData_eq_scatter]
  simpa only [List.map_map, Function.comp_def, Option.getD_some, List.map_id'] using congrArg (List.map (·.getD 0)) hg

/-- a write through one buffer is invisible through references into any other buffer -/
theorem read_writeRef_other (h : Heap) (r r' : Ref) (vals : Bytes) (hne : r'.buf ≠ r.buf) :
    read (writeRef h r vals) r' = read h r' := by
  simp only [read, writeRef_eq_modify, List.getElem?_modify_ne _ _ hne.symm]

theorem read_append_left (h x : Heap) (r : Ref) (hr : r.buf < h.length) : read (h ++ x) r = read h r := by
  simp only [read, List.getElem?_append_left hr]

/-- a freshly allocated array reads as the values it was created from -/
theorem read_new (h : Heap) (vals : Bytes) :
    read (h ++ [{ data := vals, writable := true }]) { buf := h.length, idx := List.range vals.length } = vals := by
  simp only [read, List.getElem?_append_right (Nat.le_refl _), Nat.sub_self, List.getElem?_cons_zero, Option.map_some,
    Option.join_some]
  refine List.ext_getElem (by rw [List.length_map, List.length_range]) fun i _ hi => ?_
  rw [List.getElem_map, List.getElem_range, List.getElem?_eq_getElem hi]; rfl

/-! ### the general frame theorem -/

/-- how one step changes the set of variables known to live in the routine's own buffers (the bookkeeping of `safe`) -/
def stepFresh : Step → List Nat → List Nat
  | .alloc dst _ _, fresh => dst :: fresh
  | .view dst src _, fresh => if fresh.contains src then dst :: fresh else fresh.filter (· != dst)
  | .write _ _ _, fresh => fresh
  | .tryWrite _ _ _, fresh => fresh

/-- the variables the static check knows to live in buffers allocated by the routine, after the whole program -/
def freshAfter : List Step → List Nat → List Nat
  | [], fresh => fresh
  | st :: p, fresh => freshAfter p (stepFresh st fresh)

/-- run-time meaning of the static `fresh` set: the caller's buffers `h0` are intact and every
variable in `fresh` points into a buffer allocated later -/
structure Inv (h0 : Heap) (fresh : List Nat) (s : State) : Prop where
  pre : h0 <+: s.heap
  fr : ∀ v ∈ fresh, ∀ r, s.env.get v = some r → h0.length ≤ r.buf

theorem prefix_writeRef {h0 h : Heap} {r : Ref} (hp : h0 <+: h) (hb : h0.length ≤ r.buf) (vals : Bytes) :
    h0 <+: writeRef h r vals := by
  obtain ⟨e, rfl⟩ := hp
  obtain ⟨k, hk⟩ := Nat.exists_eq_add_of_le hb
  exact ⟨_, by rw [writeRef_eq_modify, hk, Base.modify_append_right]⟩

/-- rebinding `dst`: `fresh'` may keep old fresh variables, and `dst` if its new buffer is the routine's own -/
theorem Inv.set {h0 h : Heap} {e : Env} {fresh fresh' : List Nat} (inv : Inv h0 fresh ⟨h, e⟩) (dst : Nat) (r : Ref)
    (hr : dst ∈ fresh' → h0.length ≤ r.buf) (hsub : ∀ v ∈ fresh', v ≠ dst → v ∈ fresh) :
    Inv h0 fresh' ⟨h, e.set dst r⟩ := by
  refine ⟨inv.pre, fun v hv r' hr' => ?_⟩
  rw [State.env, Env.get_set] at hr'
  split at hr'
  · next hvd => cases hr'; exact hr (hvd ▸ hv)
  · next hvd => exact inv.fr v (hsub v hv hvd) r' hr'

theorem stepFresh_view {dst src : Nat} {sel : Bytes → List Nat} {fresh : List Nat} :
    (dst ∈ stepFresh (.view dst src sel) fresh → src ∈ fresh) ∧
      ∀ v ∈ stepFresh (.view dst src sel) fresh, v ≠ dst → v ∈ fresh := by
  simp only [stepFresh]
  split
  · next h => exact ⟨fun _ => List.contains_iff_mem.mp h, fun v hv hne => (List.mem_cons.mp hv).resolve_left hne⟩
  · exact ⟨fun h => absurd rfl (bne_iff_ne.mp (List.mem_filter.mp h).2), fun v hv _ => (List.mem_filter.mp hv).1⟩

theorem step_inv {h0 : Heap} {st : Step} {p : List Step} {fresh : List Nat} {s s' : State}
    (hs : safe (st :: p) fresh = true) (inv : Inv h0 fresh s) (hst : step s st = some s') :
    safe p (stepFresh st fresh) = true ∧ Inv h0 (stepFresh st fresh) s' := by
  have hnew : ∀ x, h0 <+: s.heap ++ x := fun x => inv.pre.trans (List.prefix_append _ x)
  -- `safe (st :: p) fresh` unfolds to `safe p (stepFresh st fresh)` (for a write, after the test `v ∈ fresh`)
  cases st with
  | alloc dst srcs f =>
    cases hst
    exact ⟨hs, Inv.set ⟨hnew _, inv.fr⟩ dst _ (fun _ => inv.pre.length_le)
      fun v hv hne => (List.mem_cons.mp hv).resolve_left hne⟩
  | view dst src sel =>
    rcases hr : s.env.get src with _ | r <;> simp only [step, hr, reduceCtorEq] at hst
    cases hst
    exact ⟨hs, inv.set dst _ (fun h => inv.fr src (stepFresh_view.1 h) r hr) stepFresh_view.2⟩
  | write v srcs f | tryWrite v srcs f =>
    simp only [safe, Bool.and_eq_true, List.contains_iff_mem] at hs
    rcases hr : s.env.get v with _ | r <;> simp only [step, hr, reduceCtorEq] at hst
    split at hst <;> cases hst
    · exact ⟨hs.2, prefix_writeRef inv.pre (inv.fr v hs.1 r hr) _, inv.fr⟩
    -- a `tryWrite` that copies: the copy sits beyond `h0`, and `v` now points to it
    all_goals exact ⟨hs.2, Inv.set ⟨prefix_writeRef (hnew _) inv.pre.length_le _, inv.fr⟩ v _
      (fun _ => inv.pre.length_le) fun _ hw _ => hw⟩

theorem Inv.init (h : Heap) (env : Env) : Inv h [] ⟨h, env⟩ := ⟨List.prefix_refl h, fun _ hv => nomatch hv⟩

/-- wherever the run stops the caller's buffers are intact; where it ends normally the whole invariant holds -/
theorem run_inv {h0 : Heap} {p : List Step} : ∀ {fresh : List Nat} {s : State}, safe p fresh = true → Inv h0 fresh s →
    h0 <+: (runUntil p s).heap ∧ ∀ s', run p s = some s' → Inv h0 (freshAfter p fresh) s' := by
  induction p with
  | nil => exact fun _ inv => ⟨inv.pre, fun _ hr => by cases hr; exact inv⟩
  | cons st p ih =>
    intro _ s hs inv
    rw [runUntil, run]
    cases hst : step s st with
    | none => exact ⟨inv.pre, nofun⟩
    | some s1 =>
      have ⟨hs', inv'⟩ := step_inv hs inv hst
      exact ih hs' inv'

/-- **general frame theorem** (heap model): a routine all of whose in-place writes go through references
into buffers it allocated itself leaves EVERY buffer that existed before the call byte-for-byte
unchanged — for every heap, every argument binding (aliased or not, writable or not) and every value
function. -/
theorem frame (p : List Step) (hs : safe p [] = true) (h : Heap) (env : Env) (s' : State)
    (hr : run p { heap := h, env := env } = some s') : s'.heap.take h.length = h :=
  (List.prefix_iff_eq_take.mp ((run_inv hs (.init h env)).2 s' hr).pre).symm

/-- `frame` as the caller observes it: a reference into a buffer that existed before the call reads the same afterwards -/
theorem frame_reads (p : List Step) (hs : safe p [] = true) (h : Heap) (env : Env) (s' : State)
    (hr : run p { heap := h, env := env } = some s') (r : Ref) (hb : r.buf < h.length) : read s'.heap r = read h r := by
  obtain ⟨G, hG⟩ := ((run_inv hs (.init h env)).2 s' hr).pre
  rw [← hG, read_append_left h G r hb]

/-- **a result does not alias an argument**: every variable the routine leaves in one of its own buffers (a result of `alloc`,
or a view of one) refers to a buffer that did not exist before the call -/
theorem result_fresh (p : List Step) (hs : safe p [] = true) (h : Heap) (env : Env) (s' : State)
    (hr : run p { heap := h, env := env } = some s') (v : Nat) (hv : v ∈ freshAfter p []) (r : Ref)
    (hg : s'.env.get v = some r) : h.length ≤ r.buf :=
  ((run_inv hs (.init h env)).2 s' hr).fr v hv r hg

example : 3 ∈ freshAfter (strToInt (fun _ => [])) [] := by decide +kernel
example : 4 ∈ freshAfter (mergeIntervals (fun _ => []) (fun _ => []) (fun _ => []) (fun _ => []) (fun c _ => c) (fun c _ => c)) [] ∧
    5 ∈ freshAfter (mergeIntervals (fun _ => []) (fun _ => []) (fun _ => []) (fun _ => []) (fun c _ => c) (fun c _ => c)) [] := by decide +kernel

/-- the bytes a lazily read chunk writes are what its record references read in the file buffer -/
def writtenBytes (h : Heap) (records : List Ref) : Bytes := (records.map (read h)).flatten

/-- **field access does not change what a chunk writes**: after ANY routine that passes the static check the chunk's records
(references into buffers that existed before) read, hence write, the same bytes -/
theorem written_bytes_unchanged (p : List Step) (hs : safe p [] = true) (h : Heap) (env : Env) (s' : State)
    (hr : run p { heap := h, env := env } = some s') (records : List Ref) (hb : ∀ r ∈ records, r.buf < h.length) :
    writtenBytes s'.heap records = writtenBytes h records :=
  congrArg List.flatten (List.map_congr_left fun r hrm => frame_reads p hs h env s' hr r (hb r hrm))

/-- on the caller's part of the heap alone the call can be repeated with the same outcome (`idempotent` keeps the rest) -/
theorem idempotent_partial (p : List Step) (hs : safe p [] = true) (h : Heap) (env : Env) (s1 : State)
    (hr : run p { heap := h, env := env } = some s1) :
    run p { heap := s1.heap.take h.length, env := env } = some s1 := by
  rw [frame p hs h env s1 hr]; exact hr

/-! ### calls that raise -/

/-- **also on the error path**: wherever a routine that writes only into its own buffers stops — at its end or at a step
that raises — every buffer that existed before the call is unchanged -/
theorem frame_on_error (p : List Step) (hs : safe p [] = true) (h : Heap) (env : Env) :
    (runUntil p { heap := h, env := env }).heap.take h.length = h :=
  (List.prefix_iff_eq_take.mp (run_inv hs (.init h env)).1).symm

/-- a routine that checks its precondition only AFTER writing the caller's array leaves the damage behind when it raises:
clip the stops into the argument, then fail on a read-only second argument -/
theorem writeThenRaise_unsound :
    let p : List Step := [.view 2 0 (fun c => List.range c.length), .write 2 [] (fun c _ => c.map (fun x => min x 20)), .write 1 [] (fun c _ => c)]
    run p { heap := [⟨[8, 7, 25], true⟩, ⟨[0], false⟩], env := [some ⟨0, [0, 1, 2]⟩, some ⟨1, [0]⟩] } = none ∧
    (runUntil p { heap := [⟨[8, 7, 25], true⟩, ⟨[0], false⟩], env := [some ⟨0, [0, 1, 2]⟩, some ⟨1, [0]⟩] }).heap
      = [⟨[8, 7, 20], true⟩, ⟨[0], false⟩] := by decide +kernel

/-! ### read-only buffers -/

theorem step_readonly {s s' : State} {st : Step} {b : Nat} {buf : Buf} (hb : s.heap[b]? = some buf)
    (hw : buf.writable = false) (hst : step s st = some s') : s'.heap[b]? = some buf := by
  have hlt := (List.getElem?_eq_some_iff.mp hb).1
  have hnew : ∀ x, (s.heap ++ x)[b]? = some buf := fun x => (List.getElem?_append_left hlt).trans hb
  -- a write that goes through hits a writable buffer, hence another one
  have hwr : ∀ r vals, isWritable s.heap r = true → (writeRef s.heap r vals)[b]? = some buf := fun r vals hr => by
    rw [writeRef_eq_modify, List.getElem?_modify_ne _ _ ?_, hb]
    rintro rfl
    simp [isWritable, hb, hw] at hr
  cases st with
  | alloc => cases hst; exact hnew _
  | view _ src =>
    rcases hr : s.env.get src with _ | r <;> simp only [step, hr, reduceCtorEq] at hst
    cases hst
    exact hb
  | write v | tryWrite v =>
    rcases hr : s.env.get v with _ | r <;> simp only [step, hr, reduceCtorEq] at hst
    split at hst <;> cases hst
    · exact hwr _ _ ‹_›
    -- a `tryWrite` that copies writes the buffer after all of `s.heap`
    all_goals rw [State.heap, writeRef_eq_modify, List.getElem?_modify_ne _ _ (Nat.ne_of_gt hlt), hnew]

/-- read-only buffers (chunks obtained with `np.frombuffer`) are never changed by ANY program,
safe or not: an in-place write to them raises, and `tryWrite` copies first -/
theorem frame_readonly (p : List Step) : ∀ (s s' : State) (b : Nat) (buf : Buf),
    s.heap[b]? = some buf → buf.writable = false → run p s = some s' → s'.heap[b]? = some buf := by
  induction p with
  | nil => intro s s' b buf hb _ hr; cases hr; exact hb
  | cons st p ih =>
    intro s s' b buf hb hw hr
    obtain ⟨s1, hs1, hr⟩ := run_cons_some.mp hr
    exact ih s1 s' b buf (step_readonly hb hw hs1) hw hr

/-! ### idempotence: the second call runs on the heap the first left (simulation under renaming) -/

/-- buffer ids when `g` foreign buffers sit between the caller's `n` buffers and the routine's own allocations -/
def shiftBuf (n g b : Nat) : Nat := if b < n then b else b + g
def shiftRef (n g : Nat) (r : Ref) : Ref := { r with buf := shiftBuf n g r.buf }
def shiftEnv (n g : Nat) (e : Env) : Env := e.map (Option.map (shiftRef n g))

/-- the two runs are in step: same caller buffers `a`, same own buffers `e`, the second run additionally carries the
untouched foreign buffers `G`; references differ by the renaming only -/
def Sim (n : Nat) (G : Heap) (s1 s2 : State) : Prop :=
  ∃ a e, a.length = n ∧ s1.heap = a ++ e ∧ s2.heap = a ++ (G ++ e) ∧ s2.env = shiftEnv n G.length s1.env

theorem shiftBuf_cases (n g b : Nat) :
    (b < n ∧ shiftBuf n g b = b) ∨ ∃ k, b = n + k ∧ shiftBuf n g b = n + (g + k) := by
  unfold shiftBuf
  rcases Nat.lt_or_ge b n with hb | hb
  · exact .inl ⟨hb, if_pos hb⟩
  · obtain ⟨k, rfl⟩ := Nat.exists_eq_add_of_le hb
    exact .inr ⟨k, rfl, by rw [if_neg (Nat.not_lt.mpr hb), Nat.add_assoc, Nat.add_comm k]⟩

theorem getElem?_shift (a G e : Heap) (b : Nat) :
    (a ++ (G ++ e))[shiftBuf a.length G.length b]? = (a ++ e)[b]? := by
  rcases shiftBuf_cases a.length G.length b with ⟨hb, hs⟩ | ⟨k, rfl, hs⟩ <;> rw [hs]
  · rw [List.getElem?_append_left hb, List.getElem?_append_left hb]
  · simp only [List.getElem?_append_right (Nat.le_add_right ..), Nat.add_sub_cancel_left]

theorem read_shift (a G e : Heap) (r : Ref) :
    read (a ++ (G ++ e)) (shiftRef a.length G.length r) = read (a ++ e) r := by
  simp only [read, shiftRef, getElem?_shift]

theorem isWritable_shift (a G e : Heap) (r : Ref) :
    isWritable (a ++ (G ++ e)) (shiftRef a.length G.length r) = isWritable (a ++ e) r := by
  simp only [isWritable, shiftRef, getElem?_shift]

theorem sim_writeRef (a G e : Heap) (env : Env) (r : Ref) (vals : Bytes) :
    Sim a.length G ⟨writeRef (a ++ e) r vals, env⟩
      ⟨writeRef (a ++ (G ++ e)) (shiftRef a.length G.length r) vals, shiftEnv a.length G.length env⟩ := by
  obtain ⟨b, idx⟩ := r
  simp only [writeRef_eq_modify, shiftRef]
  rcases shiftBuf_cases a.length G.length b with ⟨hb, hs⟩ | ⟨k, rfl, hs⟩ <;> rw [hs]
  · exact ⟨_, e, List.length_modify .., Base.modify_append_left hb .., Base.modify_append_left hb .., rfl⟩
  · exact ⟨a, _, rfl, Base.modify_append_right .., by rw [Base.modify_append_right, Base.modify_append_right], rfl⟩

theorem shiftRef_length (a G e : Heap) (idx : List Nat) :
    shiftRef a.length G.length ⟨(a ++ e).length, idx⟩ = ⟨(a ++ (G ++ e)).length, idx⟩ := by
  simp only [shiftRef, shiftBuf, List.length_append, Nat.not_lt.mpr (Nat.le_add_right ..), if_false, Nat.add_assoc,
    Nat.add_comm e.length]

theorem Env.get_shift (n g : Nat) (e : Env) (v : Nat) : (shiftEnv n g e).get v = (e.get v).map (shiftRef n g) := by
  simp only [Env.get, shiftEnv, List.getElem?_map]
  rcases e[v]? with _ | _ | _ <;> rfl

theorem Env.set_shift (n g : Nat) (e : Env) (v : Nat) (r : Ref) :
    shiftEnv n g (e.set v r) = (shiftEnv n g e).set v (shiftRef n g r) := by
  fun_induction Env.set e v r with
  | case1 | case3 => rfl
  | case2 _ _ ih | case4 _ _ _ _ ih => exact congrArg (_ :: ·) ih

theorem readAll_shift (a G e : Heap) (env : Env) (vs : List Nat) :
    readAll (a ++ (G ++ e)) (shiftEnv a.length G.length env) vs = readAll (a ++ e) env vs := by
  refine List.map_congr_left fun v _ => ?_
  rw [Env.get_shift]
  cases env.get v with
  | none => rfl
  | some r => exact read_shift a G e r

theorem step_sim {n : Nat} {G : Heap} {st : Step} {s1 s2 s1' : State} (hsim : Sim n G s1 s2)
    (h1 : step s1 st = some s1') : ∃ s2', step s2 st = some s2' ∧ Sim n G s1' s2' := by
  obtain ⟨_, env⟩ := s1
  obtain ⟨_, _⟩ := s2
  obtain ⟨a, e, rfl, rfl, rfl, rfl⟩ := hsim
  cases st with
  | alloc dst srcs f =>
    cases h1
    exact ⟨_, rfl, a, e ++ [_], rfl, List.append_assoc .., by simp only [readAll_shift, List.append_assoc],
      by simp only [readAll_shift, Env.set_shift, shiftRef_length]⟩
  | view dst src sel =>
    rcases hr : env.get src with _ | r <;>
      simp only [step, Env.get_shift, hr, Option.map_some, read_shift, reduceCtorEq] at h1 ⊢
    cases h1
    exact ⟨_, rfl, a, e, rfl, rfl, rfl, by rw [Env.set_shift]; rfl⟩
  | write v srcs f | tryWrite v srcs f =>
    rcases hr : env.get v with _ | r <;>
      simp only [step, Env.get_shift, hr, Option.map_some, isWritable_shift, read_shift, readAll_shift,
        reduceCtorEq] at h1 ⊢
    split at h1 <;> cases h1
    · next hw => exact ⟨_, if_pos hw, sim_writeRef ..⟩
    -- a `tryWrite` that copies: the copy is appended in both runs and written there
    all_goals
      next hw =>
      refine ⟨_, if_neg hw, ?_⟩
      simp only [← shiftRef_length, ← Env.set_shift, List.append_assoc]
      exact sim_writeRef ..

theorem run_sim (n : Nat) (G : Heap) (p : List Step) : ∀ (s1 s2 s1' : State), Sim n G s1 s2 → run p s1 = some s1' →
    ∃ s2', run p s2 = some s2' ∧ Sim n G s1' s2' := by
  induction p with
  | nil => intro s1 s2 s1' hsim h; cases h; exact ⟨s2, rfl, hsim⟩
  | cons st p ih =>
    intro s1 s2 s1' hsim h
    obtain ⟨sm, hsm, h⟩ := run_cons_some.mp h
    obtain ⟨sm2, hst2, hsim2⟩ := step_sim hsim hsm
    obtain ⟨s2', hr2, hsim'⟩ := ih sm sm2 s1' hsim2 h
    exact ⟨s2', run_cons_some.mpr ⟨sm2, hst2, hr2⟩, hsim'⟩

theorem sim_reads (n : Nat) (G : Heap) (s1 s2 : State) (hsim : Sim n G s1 s2) (v : Nat) :
    (s2.env.get v).map (read s2.heap) = (s1.env.get v).map (read s1.heap) := by
  obtain ⟨a, e, rfl, hh1, hh2, henv⟩ := hsim
  rw [henv, Env.get_shift, hh1, hh2]
  cases s1.env.get v with
  | none => rfl
  | some r => exact congrArg some (read_shift a G e r)

/-- **idempotence**: after a call of a routine that writes only into its own buffers, a SECOND call with
the same argument bindings — on the heap the first call left behind, results and temporaries of the first call
included — succeeds and every variable (the result in particular) reads exactly as after the first call.
`henv`: the arguments refer to buffers that exist. -/
theorem idempotent (p : List Step) (hs : safe p [] = true) (h : Heap) (env : Env) (s1 : State)
    (hr : run p { heap := h, env := env } = some s1) (henv : ∀ v r, env.get v = some r → r.buf < h.length) :
    ∃ s2, run p { heap := s1.heap, env := env } = some s2 ∧
      ∀ v, (s2.env.get v).map (read s2.heap) = (s1.env.get v).map (read s1.heap) := by
  obtain ⟨G, hG⟩ := ((run_inv hs (.init h env)).2 s1 hr).pre
  -- the renaming leaves the arguments alone
  have henv' : env = shiftEnv h.length G.length env := by
    refine List.ext_getElem? fun i => ?_
    rw [shiftEnv, List.getElem?_map]
    rcases hi : env[i]? with _ | _ | r
    · rfl
    · rfl
    · simp [shiftRef, shiftBuf, henv i r (by simp [Env.get, hi])]
  obtain ⟨s2, hr2, hsim2⟩ := run_sim h.length G p ⟨h, env⟩ ⟨s1.heap, env⟩ s1
    ⟨h, [], rfl, (List.append_nil h).symm, by rw [List.append_nil]; exact hG.symm, henv'⟩ hr
  exact ⟨s2, hr2, sim_reads h.length G s1 s2 hsim2⟩

/-- non-vacuity: `str_to_int` on "-1" called again on the heap its first call left (the copy "01" and the result as buffers 2, 3) runs -/
example : ∃ s2, run (strToInt (fun a => a.headD [])) { heap := [⟨[45, 49], true⟩, ⟨[2], true⟩, ⟨[48, 49], true⟩, ⟨[48, 49], true⟩], env := [some ⟨0, [0, 1]⟩, some ⟨1, [0]⟩] } = some s2 := ⟨_, rfl⟩

/-! ### variables no step rebinds -/

/-- the variable a step may rebind (`tryWrite`: when it copies) -/
def Step.dst : Step → Option Nat
  | .alloc d _ _ | .view d _ _ | .tryWrite d _ _ => some d
  | .write _ _ _ => none

theorem step_get {s s' : State} {st : Step} {v : Nat} (hv : st.dst ≠ some v) (hst : step s st = some s') :
    s'.env.get v = s.env.get v := by
  have hset : ∀ d r, some d ≠ some v → (s.env.set d r).get v = s.env.get v := fun d r hd => by
    rw [Env.get_set, if_neg fun h => hd (congrArg some h.symm)]
  cases st with
  | alloc => cases hst; exact hset _ _ hv
  | view _ src =>
    rcases hr : s.env.get src with _ | r <;> simp only [step, hr, reduceCtorEq] at hst
    cases hst
    exact hset _ _ hv
  | write w | tryWrite w =>
    rcases hr : s.env.get w with _ | r <;> simp only [step, hr, reduceCtorEq] at hst
    split at hst <;> cases hst
    · rfl
    all_goals exact hset _ _ hv

theorem run_get {p : List Step} {v : Nat} : ∀ {s s' : State}, p.all (·.dst != some v) = true → run p s = some s' →
    s'.env.get v = s.env.get v := by
  induction p with
  | nil => intro _ _ _ hr; cases hr; rfl
  | cons st p ih =>
    intro _ _ hp hr
    rw [List.all_cons, Bool.and_eq_true, bne_iff_ne] at hp
    obtain ⟨s1, hs1, hr⟩ := run_cons_some.mp hr
    exact (ih hp.2 hr).trans (step_get hp.1 hs1)

/-! ### the anchored routines

The `*_model` theorems below are `frame` applied to the hand-written programs of `Model/C20.lean`: they certify that a routine
WITH THESE view/copy TAGS writes only its own buffers. That the tags are the library's (and NumPy's) behaviour is a separate
obligation: every tag used by a program is listed in `modelTags` and compared with `Gen.C20.stepAliasing`, which is measured
on the running code with `np.shares_memory` on every run (`gen_tags_match`). -/

/-- `str_to_int`: the sign characters are zeroed on a private copy; no caller buffer changes -/
theorem frame_str_to_int_model (value : List Bytes → Bytes) (h : Heap) (env : Env) (s' : State)
    (hr : run (strToInt value) { heap := h, env := env } = some s') : s'.heap.take h.length = h :=
  frame _ rfl h env s' hr

/-- without the leading `.copy()` the same routine writes the caller's text: "-12" becomes "012" -/
theorem strToIntNoCopy_unsound :
    safe (strToIntNoCopy (fun _ => [])) [] = false ∧
    (run (strToIntNoCopy (fun _ => [])) { heap := [⟨[45, 49, 50], true⟩, ⟨[3], true⟩], env := [some ⟨0, [0, 1, 2]⟩, some ⟨1, [0]⟩] }).map (fun s => s.heap.take 2)
      = some [⟨[48, 49, 50], true⟩, ⟨[3], true⟩] := by decide +kernel

/-- `str_to_float`: `-` and `.` are zeroed on the rows obtained by boolean indexing (a copy) -/
theorem frame_str_to_float_model (selRows value : List Bytes → Bytes) (zeroDots : Bytes → List Bytes → Bytes)
    (h : Heap) (env : Env) (s' : State)
    (hr : run (strToFloat selRows value zeroDots) { heap := h, env := env } = some s') :
    s'.heap.take h.length = h :=
  frame _ rfl h env s' hr

/-- the private `_decimal_str_to_float` on the caller's own array does write it (so every public path
must keep its boolean-index copy) -/
theorem decimalStrToFloatDirect_unsound :
    safe (decimalStrToFloatDirect (fun _ => []) (fun c _ => c)) [] = false ∧
    (run (decimalStrToFloatDirect (fun _ => []) (fun c _ => c.map (fun x => if x == 46 then 48 else x)))
        { heap := [⟨[45, 49, 46, 53], true⟩, ⟨[4], true⟩], env := [some ⟨0, [0, 1, 2, 3]⟩, some ⟨1, [0]⟩] }).map
        (fun s => s.heap.take 1)
      = some [⟨[48, 49, 48, 53], true⟩] := by decide +kernel

/-- list-valued columns: the separator is written into the gathered field text, never into the file buffer -/
theorem frame_parse_split_fields_model (gather value : List Bytes → Bytes) (putSep : Bytes → List Bytes → Bytes)
    (h : Heap) (env : Env) (s' : State)
    (hr : run (parseSplitFields gather value putSep) { heap := h, env := env } = some s') :
    s'.heap.take h.length = h :=
  frame _ rfl h env s' hr

/-- `_parse_split_fields` on a VIEW of the file buffer: a writable buffer gets the separator written into
it ("5,6\t" becomes "5,6,"), a read-only buffer is saved by the `except ValueError: copy` fallback -/
theorem parseSplitFieldsOnView_unsound :
    let prog := parseSplitFieldsOnView (fun _ => [0, 1, 2, 3]) (fun _ => [])
                  (fun c _ => c.take (c.length - 1) ++ [44])
    let env : Env := [some ⟨0, [0, 1, 2, 3, 4]⟩, some ⟨1, [4]⟩]
    (run prog { heap := [⟨[53, 44, 54, 9, 55], true⟩, ⟨[4], true⟩], env := env }).map (fun s => s.heap.take 1)
      = some [⟨[53, 44, 54, 44, 55], true⟩] ∧
    (run prog { heap := [⟨[53, 44, 54, 9, 55], false⟩, ⟨[4], true⟩], env := env }).map (fun s => s.heap.take 1)
      = some [⟨[53, 44, 54, 9, 55], false⟩] := by decide +kernel

/-- genotype columns of file chunks: whatever is written is written into the gathered column text only
(shipped and repaired code alike) -/
theorem frame_genotype_model (old : Bool) (gather pick : List Bytes → Bytes) (h : Heap) (env : Env) (s' : State)
    (hr : run (genotypePreprocess old gather pick) { heap := h, env := env } = some s') :
    s'.heap.take h.length = h := by
  cases old <;> exact frame _ rfl h env s' hr

/-- the public `GenotypeRowEncoding.encode` on the caller's own array (repaired code): nothing is written -/
theorem frame_genotype_encode_model (pick : List Bytes → Bytes) (h : Heap) (env : Env) (s' : State)
    (hr : run (genotypeEncode pick) { heap := h, env := env } = some s') : s'.heap.take h.length = h :=
  frame _ rfl h env s' hr

/-- the shipped `encode` rewrote the caller's text: "0/1\n" became "0/1\t" (recorded refutation) -/
theorem genotypeEncodeOld_unsound :
    safe (genotypeEncodeOld (fun _ => [])) [] = false ∧
    (run (genotypeEncodeOld (fun _ => [])) { heap := [⟨[48, 47, 49, 10], true⟩], env := [some ⟨0, [0, 1, 2, 3]⟩] }).map
        (fun s => s.heap.take 1)
      = some [⟨[48, 47, 49, 9], true⟩] := by decide +kernel

/-- `merge_intervals`: `stops += distance` and `new.stop -= distance` hit arrays the routine made itself -/
theorem frame_merge_model (acc mask pickStart pickStop : List Bytes → Bytes) (addD subD : Bytes → List Bytes → Bytes)
    (h : Heap) (env : Env) (s' : State)
    (hr : run (mergeIntervals acc mask pickStart pickStop addD subD) { heap := h, env := env } = some s') :
    s'.heap.take h.length = h :=
  frame _ rfl h env s' hr

/-- accumulating into the argument instead would overwrite the caller's stop column -/
theorem mergeIntervalsInPlace_unsound :
    (run (mergeIntervalsInPlace (fun a => (a.headD []).map (· + 0)) (fun _ => []) (fun _ => []) (fun _ => [])
            (fun c _ => c.map (· + 5)) (fun c _ => c))
        { heap := [⟨[1, 2], true⟩, ⟨[9, 4], true⟩], env := [some ⟨0, [0, 1]⟩, some ⟨1, [0, 1]⟩] }).map
        (fun s => s.heap.take 2)
      = some [⟨[1, 2], true⟩, ⟨[14, 9], true⟩] := by decide +kernel

/-- `bincount_reduce(a, b)` writes its first argument (the documented accumulator of the stream reduction) -/
theorem bincountReduce_writes_argument :
    (run (bincountReduce (fun c a => (c.zip (a.headD [])).map (fun p => p.1 + p.2)))
        { heap := [⟨[1, 2, 3], true⟩, ⟨[10, 10, 10], true⟩], env := [some ⟨0, [0, 1, 2]⟩, some ⟨1, [0, 1, 2]⟩] }).map
        (fun s => s.heap.take 2)
      = some [⟨[11, 12, 13], true⟩, ⟨[10, 10, 10], true⟩] := by decide +kernel

/-- inside `bnp.bincount(stream)` the reduction only ever writes the per-chunk counts it computed itself -/
theorem frame_bincount_stream_model (count : List Bytes → Bytes) (add : Bytes → List Bytes → Bytes)
    (h : Heap) (env : Env) (s' : State)
    (hr : run (bincountStream count add) { heap := h, env := env } = some s') :
    s'.heap.take h.length = h :=
  frame _ rfl h env s' hr

/-! ### fresh row selections (`col[1:4]`) and memoised columns -/

/-- once `v` is materialised (gathered into a new buffer, `v` rebound to it) that buffer is one more caller buffer for a
safe rest of the routine that never rebinds `v` -/
theorem materialised_reads (p : List Step) (hs : safe p [] = true) (v : Nat) (hp : p.all (·.dst != some v) = true)
    (h : Heap) (env : Env) (r0 : Ref) (s' : State) (h0 : env.get v = some r0)
    (hr : run (.alloc v [v] (fun a => a.headD []) :: p) { heap := h, env := env } = some s') :
    (s'.env.get v).map (read s'.heap) = some (read h r0) := by
  obtain ⟨s1, hs1, hr⟩ := run_cons_some.mp hr
  cases hs1
  rw [run_get hp hr, Env.get_set, if_pos rfl, Option.map_some, frame_reads p hs _ _ s' hr _ (by simp), read_new]
  simp [readAll, h0]

/-- `str_to_int` on a fresh, view-shaped selection: no caller buffer changes AND the caller's selection object (which the call
materialises) still reads exactly what it read before -/
theorem frame_fresh_selection_model (value : List Bytes → Bytes) (h : Heap) (env : Env) (r0 : Ref) (s' : State)
    (h0 : env.get 0 = some r0) (hr : run (strToIntFresh value) { heap := h, env := env } = some s') :
    s'.heap.take h.length = h ∧ (s'.env.get 0).map (read s'.heap) = some (read h r0) :=
  ⟨frame _ rfl h env s' hr, materialised_reads _ rfl 0 rfl h env r0 s' h0 hr⟩

/-- if `copy()` returns the gathered data itself, the signs are zeroed in the caller's selection object:
a selection reading "-12" reads "012" after the call (and a second call parses 12 instead of -12) -/
theorem strToIntFreshAlias_unsound :
    (run (strToIntFreshAlias (fun _ => [])) { heap := [⟨[55, 45, 49, 50, 55], true⟩, ⟨[3], true⟩], env := [some ⟨0, [1, 2, 3]⟩, some ⟨1, [0]⟩] }).map (fun s => ((s.env.get 0).map (read s.heap), s.heap.take 1))
      = some (some [48, 49, 50], [⟨[55, 45, 49, 50, 55], true⟩]) := by decide +kernel

/-- VCF positions: `val -= 1` is applied to the freshly parsed column, never to a caller buffer -/
theorem frame_vcf_position_model (parse : List Bytes → Bytes) (h : Heap) (env : Env) (s' : State)
    (hr : run (vcfPosition parse) { heap := h, env := env } = some s') : s'.heap.take h.length = h :=
  frame _ rfl h env s' hr

/-- with a per-buffer memo of parsed columns the same `val -= 1` hits the memo: a stored POS 15 reads 14, then 13 -/
theorem vcfPositionMemo_unsound :
    safe vcfPositionMemo [] = false ∧
    (run vcfPositionMemo { heap := [⟨[0], true⟩, ⟨[15, 30], true⟩], env := [some ⟨0, [0]⟩, some ⟨1, [0, 1]⟩] }).map (·.heap)
      = some [⟨[0], true⟩, ⟨[14, 29], true⟩] ∧
    ((run vcfPositionMemo { heap := [⟨[0], true⟩, ⟨[15, 30], true⟩], env := [some ⟨0, [0]⟩, some ⟨1, [0, 1]⟩] }).bind
        (fun s => run vcfPositionMemo { heap := s.heap, env := [some ⟨0, [0]⟩, some ⟨1, [0, 1]⟩] })).map (·.heap)
      = some [⟨[0], true⟩, ⟨[13, 28], true⟩] := by decide +kernel

/-! ### ILLUSTRATION (not audited, not evidence for the property): what `safe` rejects

The two programs below model code that does NOT exist in the package: a hypothetical patch (accept an upper-case exponent marker by
lower-casing it in place on the caller's array) and its hypothetical repair (the same on a private copy). `safe` is only ever applied
to hand-written `Step` programs, so a real patch of this kind is caught by the RESPELT correspondence cases of
`harness/props/c20.py`, not by anything here; the examples only show which shape of routine the static check refuses. -/

/-- (hypothetical code) `str_to_float` made to accept the exponent marker "E" by lower-casing it IN PLACE on what
`as_encoded_array(number_text)` returned — for an already encoded argument the caller's own array. var 0 = text, var 1 = lengths -/
def strToFloatFoldExponentInPlace (selRows value : List Bytes → Bytes) (zeroDots : Bytes → List Bytes → Bytes) : List Step :=
  [ .view 2 0 (fun c => List.range c.length),                     -- as_encoded_array(x) of an encoded x: x itself
    .write 2 [] (fun cur _ => cur.map (fun x => if x == 69 then 101 else x)),   -- number_text[number_text == "E"] = "e"
    .alloc 3 [2, 1] selRows,
    .write 3 [1] (fun cur a => zeroSigns cur (a.headD [])),
    .write 3 [1] zeroDots,
    .alloc 4 [3, 1, 2] value ]

/-- (hypothetical code) the same on a private copy (`number_text = number_text.copy()` first) -/
def strToFloatFoldExponentOnCopy (selRows value : List Bytes → Bytes) (zeroDots : Bytes → List Bytes → Bytes) : List Step :=
  [ .alloc 2 [0] (fun a => a.headD []),                           -- .copy()
    .write 2 [] (fun cur _ => cur.map (fun x => if x == 69 then 101 else x)),
    .alloc 3 [2, 1] selRows,
    .write 3 [1] (fun cur a => zeroSigns cur (a.headD [])),
    .write 3 [1] zeroDots,
    .alloc 4 [3, 1, 2] value ]

/-- "1E3" is left as "1e3" in the caller's text, also where a LATER step raises -/
example :
    let prog := strToFloatFoldExponentInPlace (fun a => a.headD []) (fun _ => []) (fun c _ => c)
    safe prog [] = false ∧
    (run prog { heap := [⟨[49, 69, 51], true⟩, ⟨[3], true⟩], env := [some ⟨0, [0, 1, 2]⟩, some ⟨1, [0]⟩] }).map
        (fun s => s.heap.take 1) = some [⟨[49, 101, 51], true⟩] ∧
    run (prog ++ [.view 9 8 (fun _ => [])]) { heap := [⟨[49, 69, 51], true⟩, ⟨[3], true⟩], env := [some ⟨0, [0, 1, 2]⟩, some ⟨1, [0]⟩] } = none ∧
    ((runUntil (prog ++ [.view 9 8 (fun _ => [])]) { heap := [⟨[49, 69, 51], true⟩, ⟨[3], true⟩], env := [some ⟨0, [0, 1, 2]⟩, some ⟨1, [0]⟩] }).heap.take 1)
      = [⟨[49, 101, 51], true⟩] := by decide +kernel

example (selRows value : List Bytes → Bytes) (zeroDots : Bytes → List Bytes → Bytes) (h : Heap) (env : Env) (s' : State)
    (hr : run (strToFloatFoldExponentOnCopy selRows value zeroDots) { heap := h, env := env } = some s') :
    s'.heap.take h.length = h :=
  frame _ rfl h env s' hr

/-! ### Gen obligations -/

/-- every view/copy tag a program of `Model/C20.lean` relies on is what `np.shares_memory` measures on
the running code this run (aliasing of the step's result with its source: true = view, false = fresh buffer) -/
theorem gen_tags_match : Gen.C20.stepAliasing = modelTags := rfl

/-- every probed site leaves its argument unchanged on the running code (so the `frame_*` instances,
not the `*_unsound` variants, are the programs that describe the code as it is now) -/
theorem gen_sites_clean : Gen.C20.sitesClean.all (·.2) = true := rfl

/-- the probed sites by name: a site cannot drop out of `sitesClean` unnoticed -/
theorem gen_sites_names : Gen.C20.sitesClean.map (·.1) =
    ["str_to_int", "str_to_float", "str_to_float_plain", "str_to_float_with_missing", "list_column", "list_column_gz_chunks",
     "single_list_column_no_final_newline", "single_float_list_column_gz_chunks", "GenotypeRowEncoding.encode", "PhasedGenotypeRowEncoding.encode", "genotype_column", "merge_intervals"] := rfl

/-! ### non-vacuity: the programs do run, and do write (into their own buffers); the driver's `mergeCols` on one vector -/

example : (run (strToInt (fun a => [digitsValue ((a.headD []).take 3)]))
    { heap := [⟨[45, 49, 50], true⟩, ⟨[3], true⟩], env := [some ⟨0, [0, 1, 2]⟩, some ⟨1, [0]⟩] }).map (·.heap)
    = some [⟨[45, 49, 50], true⟩, ⟨[3], true⟩, ⟨[48, 49, 50], true⟩, ⟨[12], true⟩] := by decide +kernel
example : safe (mergeIntervals (fun _ => []) (fun _ => []) (fun _ => []) (fun _ => []) (fun c _ => c) (fun c _ => c)) [] = true := rfl
example : safe (bincountReduce (fun c _ => c)) [] = false := rfl
example : mergeCols [1, 3, 10] [5, 4, 12] = ([1, 10], [5, 12]) := by decide +kernel

end C20
