import BnpVerif.Props.C02Delimited
/-! C02 — driver level, plain delimited family: the schemas the running package declares are the documented ones
(`gen_schemas`, `gen_delimited_family`), what `bnp.open` hands to the buffer has the lines of the text without its header
(`linesOf_openInput`), and so `parseFile` returns the documented reading `specParse` whenever that exists
(`parseFile_delimited_spec`). -/
namespace C02
open Base

/-! ## generated obligations: what the running package declares is what the documents define -/

/-- the INFO column is typed by the header: text when no key is declared -/
def genKind (k : String) : String := if k = "info" then "str" else k

def schemaMatches (fmt : String) (D : DocFmt) : Bool :=
  match Gen.C02.all.find? (·.1 == fmt) with
  | none => false
  | some (_, S) =>
    S.cols.map (fun c => (c.1, genKind c.2)) == D.cols.map (fun c => (c.1, normKind c.2)) &&
    S.delim == 9 && S.comment == D.comment && S.interiorComments == D.interior && S.linesPerEntry == 1

/-- what the running package declares for every delimited format (column order, names, types, delimiter, comment
character, interior comments) = what the format documents define (re-checked every run) -/
theorem gen_schemas : docFormats.all (fun p => schemaMatches p.1 p.2) = true := by decide +kernel

/-- FASTA/FASTQ line roles: lines per entry, header-marker offset, record marker -/
theorem gen_kline :
    (Gen.C02.all.find? (·.1 == "fasta2")).map (fun p => (p.2.linesPerEntry, p.2.lineOffsets, p.2.marker)) = some (2, [1, 0], 62) ∧
    (Gen.C02.all.find? (·.1 == "fastq")).map (fun p => (p.2.linesPerEntry, p.2.lineOffsets, p.2.marker)) = some (4, [1, 0, 0, 0], 64) ∧
    (Gen.C02.all.find? (·.1 == "fasta")).map (fun p => p.2.marker) = some 62 ∧
    (Gen.C02.all.find? (·.1 == "fastq")).map (fun p => p.2.cols.map (·.1)) = some ["name", "sequence", "quality"] := by
  decide +kernel

/-- the schema hypotheses of `parseFile_delimited_spec` hold for every format of the plain delimited family -/
theorem gen_delimited_family :
    ["bed3", "bed6", "bed12", "bdg", "narrowpeak", "sizes", "gtf", "pairs"].all (fun fmt =>
      match Gen.C02.all.find? (·.1 == fmt), docFormats.find? (·.1 == fmt) with
      | some (_, S), some (f, D) =>
        f == fmt && !(S.linesPerEntry > 1) && !S.interiorComments && !D.interior &&
        S.cols.map (·.2) == (D.cols.map (·.2)).map normKind && S.delim == 9 && S.comment == D.comment && D.comment != 13
      | _, _ => false) = true := by decide +kernel

/-! ## whole-file parse of the plain delimited family = the documented reading (`parseFile` vs `specParse`) -/

/-- with the final newline supplied: the complete lines, then the tail if there is one -/
theorem linesOf_ensureNl (bs : Bytes) :
    linesOf (ensureNl bs) = linesOf bs ++ (if tailOf bs = [] then [] else [tailOf bs]) := by
  have hfree := linesOf_free bs
  have htf := tailOf_free bs
  have hdec := unlines_linesOf bs
  generalize linesOf bs = L at *
  generalize tailOf bs = T at *
  subst hdec
  by_cases ht : T = []
  · subst ht
    rw [if_pos rfl, List.append_nil, List.append_nil, ensureNl, if_pos (unlines_nil_or_getLast L), linesOf_unlines L hfree]
  · obtain ⟨u, x, rfl⟩ := (List.eq_nil_or_concat T).resolve_left ht
    have hlast : (unlines L ++ u.concat x).getLast? = some x := by
      rw [List.concat_eq_append, ← List.append_assoc, List.getLast?_concat]
    have hx : x ≠ 10 := fun h => htf (by simp [h])
    rw [if_neg ht, ensureNl, if_neg (by
      rintro (h | h)
      · rw [h] at hlast; cases hlast
      · exact hx (Option.some.inj (hlast.symm.trans h))), ← unlines_snoc]
    exact linesOf_unlines _ (fun l hl => (List.mem_append.mp hl).elim (hfree l) (fun h => List.mem_singleton.mp h ▸ htf))

theorem dropHeaderLines_snoc (c : Nat) (ls : List Bytes) (t : Bytes) (h : ¬(c ≠ 0 ∧ t.head? = some c)) :
    dropHeaderLines c (ls ++ [t]) = dropHeaderLines c ls ++ [t] := by
  induction ls with
  | nil => simp [dropHeaderLines, h]
  | cons l rest ih =>
    simp only [List.cons_append, dropHeaderLines]
    split
    · exact ih
    · rfl

theorem dropHeaderLines_suffix (c : Nat) (ls : List Bytes) : ∃ pre, ls = pre ++ dropHeaderLines c ls := by
  induction ls with
  | nil => exact ⟨[], rfl⟩
  | cons l rest ih =>
    rw [dropHeaderLines]
    split
    · obtain ⟨pre, hpre⟩ := ih
      exact ⟨l :: pre, by rw [List.cons_append, ← hpre]⟩
    · exact ⟨[], rfl⟩

/-- what `bnp.open` hands to the buffer (header read off, final newline supplied) has as complete lines the lines of
the text without the leading comment lines -/
theorem linesOf_openInput (c : Nat) (bs0 : Bytes) (htail : ¬(c ≠ 0 ∧ (tailOf bs0).head? = some c)) :
    linesOf (ensureNl (dropHeader c bs0)) = dropHeaderLines c (linesOf (ensureNl bs0)) := by
  have hfree : ∀ l ∈ dropHeaderLines c (linesOf bs0), 10 ∉ l := fun l hl => by
    obtain ⟨pre, hpre⟩ := dropHeaderLines_suffix c (linesOf bs0)
    exact linesOf_free bs0 l (hpre ▸ List.mem_append_right _ hl)
  obtain ⟨hl, ht⟩ := linesOf_unlines_tail _ (tailOf bs0) hfree (tailOf_free bs0)
  rw [linesOf_ensureNl, linesOf_ensureNl, dropHeader, hl, ht]
  by_cases h0 : tailOf bs0 = []
  · simp [h0]
  · simp only [h0, if_false]
    exact (dropHeaderLines_snoc c _ _ htail).symm

theorem head_stripCR (c : Nat) (hc : c ≠ 13) (l : Bytes) : ((stripCR l).head? = some c) ↔ (l.head? = some c) := by
  unfold stripCR
  split
  · next h =>
    match l, h with
    | [x], h =>
      obtain rfl : x = 13 := by simpa using h
      simp [hc.symm]
    | x :: y :: rest, _ => simp [List.dropLast]
  · rfl

theorem dropHeaderLines_map_stripCR (c : Nat) (hc : c ≠ 13) (ls : List Bytes) :
    dropHeaderLines c (ls.map stripCR) = (dropHeaderLines c ls).map stripCR := by
  induction ls with
  | nil => rfl
  | cons l rest ih =>
    simp only [List.map_cons, dropHeaderLines, head_stripCR c hc l]
    split
    · exact ih
    · rfl

/-- line-end style of the data lines `Dl`, given that the text `L` as the format reads it holds no stray CR -/
theorem style_of_suffix (L pre Dl : List Bytes) (hL : L = pre ++ Dl) (hne : Dl ≠ [])
    (hno13 : (if crlfText L = true then L.map stripCR else L).any (·.contains 13) = false) :
    ((∀ l ∈ Dl, l.getLast? ≠ some 13) ∨ crlfText Dl = true) ∧
      (if crlfText L = true then Dl.map stripCR else Dl) = Dl.map stripCR := by
  by_cases hcr : crlfText L = true
  · -- all lines of `L` but the last end in CR, so the same holds of `Dl`
    refine ⟨?_, if_pos hcr⟩
    by_cases hany : Dl.any (fun l => l.getLast? = some 13) = true
    · refine Or.inr ?_
      simp only [crlfText, Bool.and_eq_true, List.all_eq_true] at hcr ⊢
      exact ⟨fun l hl => hcr.1 l (by rw [hL, List.dropLast_append_of_ne_nil hne]; exact List.mem_append_right _ hl), hany⟩
    · exact Or.inl fun l hl h13 => hany (List.any_eq_true.mpr ⟨l, hl, by simpa using h13⟩)
  · -- no line of `L` holds a CR at all
    rw [if_neg hcr, List.any_eq_false] at hno13
    have hnone : ∀ l ∈ Dl, l.getLast? ≠ some 13 := fun l hl h13 =>
      hno13 l (hL ▸ List.mem_append_right _ hl) (by simpa using List.mem_of_getLast? h13)
    exact ⟨Or.inl hnone, by rw [if_neg hcr, map_stripCR_id hnone]⟩

/-- Driver level, plain delimited family (BED3/6/12, bedGraph, narrowPeak, chrom.sizes, GTF, pairs): for every
text, read through `bnp.open` (leading comment lines skipped, final newline supplied; an unterminated last line
that is itself a comment excluded) or handed over raw ending in a newline, LF or CRLF, and every row selection
within the table: whenever the documented reading `specParse` exists, `parseFile` returns that table with the
selected rows. -/
theorem parseFile_delimited_spec (fmt : String) (S : Schema) (D : DocFmt) (viaOpen : Bool) (bs0 : Bytes)
    (shift : Int) (sel : Option (List Nat))
    (hf1 : fmt ≠ "fasta") (hf2 : fmt ≠ "sam") (hf3 : fmt ≠ "vcf") (hf4 : fmt ≠ "gfa")
    (hk1 : ¬ S.linesPerEntry > 1) (hi1 : S.interiorComments = false) (hi2 : D.interior = false)
    (hdoc : docFormats.find? (·.1 == fmt) = some (fmt, D))
    (hk : S.cols.map (·.2) = (D.cols.map (·.2)).map normKind) (hd : S.delim = 9) (hc : S.comment = D.comment)
    (hc13 : D.comment ≠ 13)
    (htail : if viaOpen then ¬(D.comment ≠ 0 ∧ (tailOf bs0).head? = some D.comment) else tailOf bs0 = [])
    (r : Nat × List Col) (hspec : specParse fmt viaOpen bs0 = some r) (hsel : selOK sel r.1 = true) :
    parseFile fmt S viaOpen bs0 shift sel = .ok (resPick sel r) := by
  -- `hspec` is peeled down to: `L` the lines of the text, no stray CR after the CRLF rule, `recs` the lines after the
  -- header split at TAB with one field per column, `cols` their documented reading. Then the model's input has exactly the
  -- data lines `Dl` as its lines, the specification's line list is `Dl.map stripCR`, and `parse_delimited` applies.
  have hmodel : parseFile fmt S viaOpen bs0 shift sel
      = parseDelimited S (if viaOpen then ensureNl (dropHeader S.comment bs0) else bs0) sel := by
    simp only [parseFile, hf1, hf2, hf3, hf4, hk1, hi1, if_false, Bool.false_eq_true]
  simp only [specParse, hdoc] at hspec
  cases hrec : specRecords D viaOpen fmt bs0 with
  | none => rw [hrec] at hspec; cases hspec
  | some recs =>
  rw [hrec] at hspec
  simp only at hspec
  split at hspec
  · cases hspec
  next hrne =>
  cases hcols : specColumnsFrom recs 0 (D.cols.map (·.2)) with
  | none => rw [hcols] at hspec; cases hspec
  | some cols =>
  rw [hcols] at hspec
  simp only [Option.some.injEq] at hspec
  subst hspec
  simp only [specRecords, hi2, hf2, hf3, hf4, if_false, Bool.false_eq_true] at hrec
  generalize hLdef : linesOf (ensureNl bs0) = L at hrec
  generalize hL'def : (if crlfText L = true then List.map stripCR L else L) = L' at hrec
  generalize hL''def : (if viaOpen = true then dropHeaderLines D.comment L' else L') = L'' at hrec
  by_cases hstray : L'.any (·.contains 13) = true
  · rw [if_pos hstray] at hrec; cases hrec
  by_cases hall : (L''.map (splitOn 9)).all (fun r => decide (r.length = D.cols.length)) = true
  case neg => rw [if_neg hstray, if_neg hall] at hrec; cases hrec
  rw [if_neg hstray, if_pos hall] at hrec
  obtain rfl := Option.some.inj hrec
  subst hL''def hL'def
  -- the complete lines of the model's input are the lines of the text after the header
  obtain ⟨Dl, hDl⟩ : ∃ Dl : List Bytes, Dl = (if viaOpen = true then dropHeaderLines D.comment L else L) := ⟨_, rfl⟩
  have hlines : linesOf (if viaOpen = true then ensureNl (dropHeader S.comment bs0) else bs0) = Dl := by
    cases viaOpen with
    | true => rw [hDl, if_pos rfl, if_pos rfl, hc, linesOf_openInput D.comment bs0 htail, hLdef]
    | false =>
      simp only [Bool.false_eq_true, if_false] at htail hDl ⊢
      rw [hDl, ← hLdef, linesOf_ensureNl, htail, if_pos rfl, List.append_nil]
  obtain ⟨pre, hpre⟩ : ∃ pre, L = pre ++ Dl := by
    cases viaOpen with
    | true => exact hDl ▸ dropHeaderLines_suffix D.comment L
    | false => exact ⟨[], hDl ▸ rfl⟩
  have hspecLines : (if viaOpen = true then dropHeaderLines D.comment (if crlfText L = true then L.map stripCR else L)
      else (if crlfText L = true then L.map stripCR else L)) = (if crlfText L = true then Dl.map stripCR else Dl) := by
    cases viaOpen with
    | true =>
      rw [hDl, if_pos rfl, if_pos rfl]
      split
      · exact dropHeaderLines_map_stripCR D.comment hc13 L
      · rfl
    | false => rw [hDl]; rfl
  rw [hspecLines] at hrne hall hcols hsel ⊢
  have hDne : Dl ≠ [] := fun h0 => hrne (by rw [h0]; split <;> rfl)
  obtain ⟨hstyle, hstrip⟩ := style_of_suffix L pre Dl hpre hDne (Bool.eq_false_iff.mpr hstray)
  rw [hstrip] at hall hcols hsel ⊢
  have hsl : specLines (if viaOpen = true then ensureNl (dropHeader S.comment bs0) else bs0) = Dl.map stripCR := by
    rw [specLines_eq_map_stripCR _ (hlines ▸ hstyle), hlines]
  have hlen2 : (linesOf (if viaOpen = true then ensureNl (dropHeader S.comment bs0) else bs0)).length
      = ((Dl.map stripCR).map (splitOn 9)).length := by rw [hlines]; simp
  rw [hmodel, ← hlen2]
  exact parse_delimited S (D.cols.map (·.2)) _ hk (by rw [hd]; decide) (by rw [hd]; decide)
    (hlines ▸ hDne) (hlines ▸ hstyle)
    (fun l hl => by rw [hsl] at hl; rw [hd]; simpa using List.all_eq_true.mp hall _ (List.mem_map_of_mem hl))
    cols (by rw [hsl, hd]; exact hcols) sel (by rw [hlen2]; exact hsel)

/-! ## non-vacuity -/

-- parseFile_delimited_spec: "#h\r\nc\t1\t2\r\nd\t3\t44" (header, CRLF, unterminated last line), rows in reverse
example :
    parseFile "bed3" Gen.C02.bed3 true [35,104,13,10, 99,9,49,9,50,13,10, 100,9,51,9,52,52] (-1) (some [1, 0])
      = .ok (resPick (some [1, 0]) (2, [Col.strs [[99], [100]], Col.ints [1, 3], Col.ints [2, 44]])) :=
  parseFile_delimited_spec "bed3" Gen.C02.bed3 ⟨bed3Doc, 35, false⟩ true _ (-1) (some [1, 0])
    (by decide) (by decide) (by decide) (by decide) (by decide) (by decide) rfl rfl (by decide) (by decide)
    (by decide) (by decide) (by decide) _ (by decide) (by decide)

end C02
