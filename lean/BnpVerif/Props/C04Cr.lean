import BnpVerif.Props.C04Build
/-! C04 — one line inside a whole file. What a row says about its line is proved for ONE line standing anywhere in a file
and carried to the table by one induction (`walk_ctx`): the text a row reads, the carriage-return rules, and what the
delimited extractor `expExtG` denotes. -/
namespace C04

section
variable {α : Type}

theorem ite_map (c : Bool) (f : α → α) (G : List α) : (if c then G.map f else G) = G.map (fun g => if c then f g else g) := by
  cases c <;> simp

theorem slice_drop (d : List α) (s a m : Nat) : slice d (s + a) (m - a) = ((d.drop s).take m).drop a := by
  unfold slice
  rw [List.drop_take, List.drop_drop]

end

theorem zip_sub_le (n : Nat) : ∀ (S E : List Nat), (∀ s ∈ S, s ≤ n) → (∀ e ∈ E, e ≤ n) →
    ∀ p ∈ List.zip S (List.zipWith (fun s e => e - s) S E), p.1 + p.2 ≤ n
  | [], _, _, _ => nofun
  | _ :: _, [], _, _ => nofun
  | s :: S, e :: E, hS, hE => by
    intro p hp
    rcases List.mem_cons.mp hp with rfl | hp
    · show s + (e - s) ≤ n
      rcases Nat.le_total s e with h | h
      · rw [Nat.add_sub_cancel' h]; exact hE e List.mem_cons_self
      · rw [Nat.sub_eq_zero_of_le h]; exact hS s List.mem_cons_self
    · exact zip_sub_le n S E (fun x hx => hS x (List.mem_cons_of_mem _ hx)) (fun x hx => hE x (List.mem_cons_of_mem _ hx)) p hp

theorem last_end (S E : List Nat) (hlen : S.length = E.length) (hle : S.getLastD 0 ≤ E.getLastD 0) :
    S.getLastD 0 + (List.zipWith (fun s e => e - s) S E).getLastD 0 = E.getLastD 0 := by
  cases S with
  | nil => cases E with | nil => rfl | cons _ _ => exact absurd hlen.symm (Nat.succ_ne_zero _)
  | cons s S' =>
    rw [getLastD_eq_getD, getLastD_eq_getD, ← hlen] at hle
    rw [getLastD_eq_getD, getLastD_eq_getD, getLastD_eq_getD, List.length_zipWith, ← hlen, Nat.min_self,
      getD_zipWith _ _ E _ (Nat.lt_succ_self _) (hlen ▸ Nat.lt_succ_self _) 0 0]
    exact Nat.add_sub_cancel' hle

/-- the text in front of a line does not end in a CR. Needed where a line may be empty: the byte in front of its newline
is then the last byte of this text -/
def PfxOK (A : Bytes) : Prop := A.getLast? ≠ some 13

section
variable {β : Type} (sep : Nat) (P : List Bytes → Prop) (g : List Bytes → β) (ls : List (List Bytes)) (h : ∀ l ∈ ls, P l)
include h

theorem walk_ctx (f : Bytes → Nat → List Bytes → β)
    (step : ∀ A B l, PfxOK A → P l → f (A ++ dumpLine sep l ++ B) A.length l = g l) (A : Bytes) (hA : PfxOK A) :
    walk (dumpLine sep) (f (A ++ dumpFile sep ls)) A.length ls = ls.map g := by
  induction ls generalizing A with
  | nil => rfl
  | cons l ls ih =>
    have e : A ++ dumpFile sep (l :: ls) = A ++ dumpLine sep l ++ dumpFile sep ls := (List.append_assoc ..).symm
    have := ih (fun x hx => h x (List.mem_cons_of_mem _ hx)) (A ++ dumpLine sep l) (by simp [PfxOK, dumpLine])
    rw [List.length_append, ← e] at this
    rw [walk, List.map_cons, this, e, step A _ l hA (h l List.mem_cons_self)]

/-- the form every field theorem uses: an observation `obs` of every row of a walk over the file is `g` of its line, if it is so
for one line in any context `A … B` with `PfxOK A` -/
theorem rows_ctx (row : Bytes → Nat → List Bytes → Row) (obs : Bytes → Row → β)
    (step : ∀ A B l, PfxOK A → P l → obs (A ++ dumpLine sep l ++ B) (row (A ++ dumpLine sep l ++ B) A.length l) = g l) :
    (walk (dumpLine sep) (row (dumpFile sep ls)) 0 ls).map (obs (dumpFile sep ls)) = ls.map g := by
  rw [walk_map]
  simpa using walk_ctx sep P g ls h (fun D k l => obs D (row D k l)) step [] (by simp [PfxOK])

end

/-- the row of one line: the record runs from the line's start to one past its newline -/
def lineRow (sep : Nat) (S E : List Nat) (k : Nat) (l : List Bytes) : Row :=
  ⟨S, List.zipWith (fun s e => e - s) S E, k, k + (dumpLine sep l).length⟩

theorem lineRow_fits (sep k : Nat) (l : List Bytes) (S E : List Nat) (hlen : S.length ≤ E.length)
    (hS : ∀ s ∈ S, k ≤ s ∧ s ≤ k + (dumpLine sep l).length) (hE : ∀ e ∈ E, e ≤ k + (dumpLine sep l).length) :
    RowFits k (dumpLine sep l) (lineRow sep S E k l) :=
  ⟨rfl, rfl, (List.length_zipWith.trans (Nat.min_eq_left hlen)).symm, fun s hs => (hS s hs).1,
    zip_sub_le _ S E (fun s hs => (hS s hs).2) hE⟩

theorem offsFrom_headD (k : Nat) (l : List Bytes) (hne : l ≠ []) : (offsFrom k l).headD 0 = k := by
  cases l with
  | nil => exact absurd rfl hne
  | cons _ _ => rfl

theorem intercalate_cons (s x : Bytes) (r : List Bytes) : ∃ Z, intercalate s (x :: r) = x ++ Z := by
  cases r with
  | nil => exact ⟨[], by simp [intercalate]⟩
  | cons y r => exact ⟨s ++ intercalate s (y :: r), by simp [intercalate]⟩

theorem intercalate_getLast? (sep : Nat) (l : List Bytes) (hl : l.getLastD [] ≠ []) :
    (intercalate [sep] l).getLast? = (l.getLastD []).getLast? := by
  induction l with
  | nil => rfl
  | cons f r ih =>
    cases r with
    | nil => rfl
    | cons g r' =>
      have hl' : (g :: r').getLastD [] ≠ [] := by simpa using hl
      obtain ⟨v, hv⟩ : ∃ v, ((g :: r').getLastD []).getLast? = some v := by
        cases hx : (g :: r').getLastD [] with
        | nil => exact absurd hx hl'
        | cons a b => exact ⟨_, List.getLast?_eq_some_getLast (by simp)⟩
      rw [intercalate, List.getLast?_append, ih hl', hv]
      simpa using hv.symm

section
variable (sep : Nat) (A B : Bytes) (l : List Bytes) (j : Nat) (hj : j < l.length)

include hj

/-- the file splits in front of the j-th field of a line (third conjunct: the text in front of a field does not end in a CR,
for `cut_field_end`) -/
theorem split_field :
    ∃ P, A ++ dumpLine sep l ++ B = P ++ (intercalate [sep] (l.drop j) ++ 10 :: B) ∧
      P.length = (offsFrom A.length l).getD j 0 ∧ (P = A ∨ P.getLast? = some sep) := by
  induction l generalizing A j with
  | nil => simp at hj
  | cons f r ih =>
    cases j with
    | zero => exact ⟨A, by simp [dumpLine], rfl, Or.inl rfl⟩
    | succ j =>
      cases r with
      | nil => simp at hj
      | cons g r' =>
        obtain ⟨P, h1, h2, h3⟩ := ih (A ++ f ++ [sep]) j (by simpa using hj)
        rw [List.length_append, List.length_append, List.length_singleton] at h2
        refine ⟨P, ?_, h2, Or.inr ?_⟩
        · rw [dumpLine_cons_cons, List.drop_succ_cons, ← h1]; simp only [List.append_assoc]
        · rcases h3 with rfl | h3
          · exact List.getLast?_concat
          · exact h3

theorem drop_field :
    (A ++ dumpLine sep l ++ B).drop ((offsFrom A.length l).getD j 0) = intercalate [sep] (l.drop j) ++ 10 :: B := by
  obtain ⟨P, h1, h2, _⟩ := split_field sep A B l j hj
  rw [h1, ← h2, List.drop_left]

/-- `a`: how far into the field the row's start lies (the header offset of the k-line formats, else 0); `m`: where its
(possibly CR-stripped) end lies -/
theorem field_cut (a m : Nat) (hm : m ≤ (l.getD j []).length) :
    slice (A ++ dumpLine sep l ++ B) ((offsFrom A.length l).getD j 0 + a) (m - a) = ((l.getD j []).take m).drop a := by
  obtain ⟨Z, hZ⟩ := intercalate_cons [sep] l[j] (l.drop (j + 1))
  rw [getD_eq_getElem l j [] hj] at hm ⊢
  rw [slice_drop, drop_field sep A B l j hj, List.drop_eq_getElem_cons hj, hZ, List.append_assoc,
    List.take_append_of_le_length hm]

/-- `drop_field` speaks of a text in front of the line: `k` arbitrary bytes stand in for the offset `k` -/
theorem offs_add_tail (k : Nat) :
    (offsFrom k l).getD j 0 + (intercalate [sep] (l.drop j)).length = k + (intercalate [sep] l).length := by
  have := congrArg List.length (drop_field sep (List.replicate k 0) [] l j hj)
  simp only [List.length_drop, List.length_append, List.length_replicate, dumpLine, List.length_cons, List.length_nil] at this
  omega

/-- `δ`: the bytes left off at the end of the line (`crLen` of the last field in `rest_strip`) -/
theorem rest_cut (δ : Nat) :
    slice (A ++ dumpLine sep l ++ B) ((offsFrom A.length l).getD j 0)
        (A.length + (intercalate [sep] l).length - δ - (offsFrom A.length l).getD j 0) =
      (intercalate [sep] (l.drop j)).take ((intercalate [sep] (l.drop j)).length - δ) := by
  have e : A.length + (intercalate [sep] l).length - δ - (offsFrom A.length l).getD j 0 =
      (intercalate [sep] (l.drop j)).length - δ := by
    rw [← offs_add_tail sep l j hj A.length, Nat.sub_right_comm, Nat.add_sub_cancel_left]
  rw [e, slice, drop_field sep A B l j hj, List.take_append_of_le_length (Nat.sub_le _ _)]

/-- `field_cut` read through a row's start and end tables `S`, `E` (lengths are `E - S`) -/
theorem row_field (S E : List Nat) (hjS : j < S.length) (hjE : j < E.length) (a m : Nat)
    (hS : S.getD j 0 = (offsFrom A.length l).getD j 0 + a) (hE : E.getD j 0 = (offsFrom A.length l).getD j 0 + m)
    (hm : m ≤ (l.getD j []).length) :
    slice (A ++ dumpLine sep l ++ B) (S.getD j 0) ((List.zipWith (fun s e => e - s) S E).getD j 0) =
      ((l.getD j []).take m).drop a := by
  rw [getD_zipWith _ S E j hjS hjE 0 0, hS, hE, Nat.add_sub_add_left, field_cut sep A B l j hj a _ hm]

end

theorem offs_last (sep k : Nat) (l : List Bytes) (hne : l ≠ []) :
    (offsFrom k l).getLastD 0 + (l.getLastD []).length = k + (intercalate [sep] l).length := by
  have hj : l.length - 1 < l.length := Nat.sub_lt (List.length_pos_iff.mpr hne) Nat.one_pos
  have ht := offs_add_tail sep l _ hj k
  have hd : l.drop (l.length - 1) = [l.getLastD []] := by
    rw [List.drop_eq_getElem_cons hj, Nat.sub_add_cancel (List.length_pos_iff.mpr hne), List.drop_length, getLastD_eq_getD,
      getD_eq_getElem l _ [] hj]
  rw [hd, intercalate] at ht
  rw [getLastD_eq_getD, offsFrom_length]
  exact ht

theorem offs_bounds (sep k : Nat) (l : List Bytes) (j : Nat) (hj : j < l.length) :
    k ≤ (offsFrom k l).getD j 0 ∧ (offsFrom k l).getD j 0 + (l.getD j []).length + 1 ≤ k + (dumpLine sep l).length := by
  obtain ⟨Z, hZ⟩ := intercalate_cons [sep] l[j] (l.drop (j + 1))
  have h := offs_add_tail sep l j hj k
  rw [List.drop_eq_getElem_cons hj, hZ, List.length_append] at h
  rw [dumpLine_length_intercalate, getD_eq_getElem l j [] hj]
  exact ⟨offsFrom_ge k l _ (Base.getD_mem _ j 0 (by rw [offsFrom_length]; exact hj)), by omega⟩

theorem lineDelims_le (sep k : Nat) (l : List Bytes) (hne : l ≠ []) : ∀ e ∈ lineDelims k l, e ≤ k + (dumpLine sep l).length := by
  intro d hd
  obtain ⟨j, hj, rfl⟩ := List.getElem_of_mem hd
  rw [lineDelims_length k l hne] at hj
  rw [← getD_eq_getElem _ j 0, lineDelims_getD k l j hj]
  exact Nat.le_of_succ_le (offs_bounds sep k l j hj).2

theorem offsFrom_le (sep k : Nat) (l : List Bytes) : ∀ s ∈ offsFrom k l, k ≤ s ∧ s ≤ k + (dumpLine sep l).length := by
  intro s hs
  obtain ⟨j, hj, rfl⟩ := List.getElem_of_mem hs
  have := offs_bounds sep k l j (offsFrom_length k l ▸ hj)
  rw [getD_eq_getElem _ j 0 hj] at this
  exact ⟨this.1, Nat.le_trans (Nat.le_add_right ..) (Nat.le_of_succ_le this.2)⟩

def dropCR (f : Bytes) : Bytes := if f.getLast? = some 13 then f.dropLast else f

/-- the number of bytes `dropCR` takes off when the switch `c` is on -/
def crLen (c : Bool) (x : Bytes) : Nat := if c && x.getLast? == some 13 then 1 else 0

theorem crLen_le (c : Bool) (x : Bytes) : crLen c x ≤ x.length := by
  unfold crLen
  split
  · cases x with
    | nil => simp_all
    | cons _ _ => simp
  · exact Nat.zero_le _

theorem crLen_mono (c : Bool) (x : Bytes) : crLen c x ≤ crLen true x := by
  cases c
  · exact Nat.zero_le _
  · exact Nat.le_refl _

theorem crLen_congr (c : Bool) (Z x : Bytes) (h : Z.getLast? = x.getLast?) : crLen c Z = crLen c x := by
  rw [crLen, crLen, h]

theorem crLen_append (c : Bool) (A x : Bytes) (hA : PfxOK A) : crLen c (A ++ x) = crLen c x := by
  rw [crLen, crLen, List.getLast?_append]
  cases x.getLast? with
  | none => rw [Option.none_or, if_neg (by simpa [PfxOK] using fun _ => hA)]; simp
  | some v => rfl

theorem dropCR_eq_take (c : Bool) (x : Bytes) : (if c then dropCR x else x) = x.take (x.length - crLen c x) := by
  cases c
  · simp [crLen]
  · by_cases h : x.getLast? = some 13 <;> simp [crLen, dropCR, h, List.dropLast_eq_take]

theorem dropCR_noCR (x : Bytes) (h : ∀ b ∈ x, b ≠ 13) : dropCR x = x := by
  unfold dropCR
  split
  · rename_i h13
    exact absurd rfl (h 13 (List.mem_of_getLast? h13))
  · rfl

/-- what `_modify_for_carriage_return` does to a field end -/
def cut (d : Bytes) (e : Nat) : Nat := if byteAt d (e - 1) == 13 then e - 1 else e

theorem cut_le (d : Bytes) (e : Nat) : cut d e ≤ e := by
  unfold cut; split <;> omega

theorem last_byte (X Y : Bytes) (h : X ≠ []) : (byteAt (X ++ Y) (X.length - 1) == 13) = (X.getLast? == some 13) := by
  obtain ⟨X', c, rfl⟩ : ∃ X' c, X = X' ++ [c] := ⟨_, _, (List.dropLast_concat_getLast h).symm⟩
  simp [byteAt, List.getD_eq_getElem?_getD, List.append_assoc]

theorem cut_nl (X Y : Bytes) : cut (X ++ 10 :: Y) X.length = X.length - crLen true X := by
  cases X with
  | nil => rfl
  | cons x X' =>
    rw [cut, crLen, last_byte _ _ (List.cons_ne_nil x X'), Bool.true_and]
    split <;> rfl

theorem stripCR_eq (d : Bytes) (g : List Nat) :
    stripCR d g = match g.getLast? with | none => g | some e => g.dropLast ++ [cut d e] := rfl

theorem stripCR_spec (d : Bytes) (E : List Nat) :
    (stripCR d E).length = E.length ∧ (∀ j, j + 1 < E.length → (stripCR d E).getD j 0 = E.getD j 0) := by
  rcases List.eq_nil_or_concat E with rfl | ⟨init, e, rfl⟩
  · exact ⟨rfl, fun _ _ => rfl⟩
  · rw [List.concat_eq_append, stripCR, List.getLast?_concat, List.dropLast_concat]
    simp only [List.getD_eq_getElem?_getD, List.length_append, List.length_singleton]
    refine ⟨trivial, fun j hj => ?_⟩
    have hlt := Nat.lt_of_succ_lt_succ hj
    rw [List.getElem?_append_left hlt, List.getElem?_append_left hlt]

theorem stripCR_le (d : Bytes) (g : List Nat) (n : Nat) (h : ∀ e ∈ g, e ≤ n) : ∀ e ∈ stripCR d g, e ≤ n := by
  rw [stripCR_eq]
  cases hg : g.getLast? with
  | none => exact h
  | some x =>
    intro e he
    rcases List.mem_append.mp he with he | he
    · exact h e (List.dropLast_subset g he)
    · rw [List.mem_singleton.mp he]
      exact Nat.le_trans (cut_le d x) (h x (List.mem_of_getLast? hg))

theorem stripCR_getD_last (d : Bytes) (g : List Nat) (j : Nat) (hj : j + 1 = g.length) :
    (stripCR d g).getD j 0 = cut d (g.getD j 0) := by
  rcases List.eq_nil_or_concat g with rfl | ⟨init, e, rfl⟩
  · nomatch hj
  · obtain rfl : j = init.length := by simpa using hj
    rw [List.concat_eq_append, stripCR_eq, List.getLast?_concat, List.dropLast_concat]
    simp only [List.getD_eq_getElem?_getD, List.getElem?_append_right (Nat.le_refl _), Nat.sub_self, List.getElem?_cons_zero,
      Option.getD_some]

/-- cutting the end of a field that a newline follows (any field when the separator is the newline, else the last) takes off
that field's CR. An empty field has no last byte: then the byte in front of it must not pass for a CR -/
theorem cut_field_end (sep : Nat) (A B : Bytes) (l : List Bytes) (j : Nat) (hj : j < l.length)
    (hnl : sep = 10 ∨ j + 1 = l.length) (hP : l.getD j [] ≠ [] ∨ (sep ≠ 13 ∧ PfxOK A)) :
    cut (A ++ dumpLine sep l ++ B) ((offsFrom A.length l).getD j 0 + (l.getD j []).length) =
      (offsFrom A.length l).getD j 0 + ((l.getD j []).length - crLen true (l.getD j [])) := by
  obtain ⟨P, h1, h2, h3⟩ := split_field sep A B l j hj
  obtain ⟨Y, hY⟩ : ∃ Y, intercalate [sep] (l.drop j) ++ 10 :: B = l.getD j [] ++ 10 :: Y := by
    rw [List.drop_eq_getElem_cons hj, getD_eq_getElem l j [] hj]
    cases hd : l.drop (j + 1) with
    | nil => exact ⟨B, rfl⟩
    | cons y r =>
      obtain rfl : sep = 10 := hnl.resolve_right fun e => by
        rw [List.drop_eq_nil_of_le (Nat.le_of_eq e.symm)] at hd
        nomatch hd
      exact ⟨intercalate [10] (y :: r) ++ 10 :: B, by simp [intercalate]⟩
  have hc : crLen true (P ++ l.getD j []) = crLen true (l.getD j []) := by
    rcases hP with hne | ⟨hs, hA⟩
    · refine crLen_congr _ _ _ ?_
      rw [List.getLast?_append]
      cases hx : (l.getD j []).getLast? with
      | none => exact absurd (List.getLast?_eq_none_iff.mp hx) hne
      | some v => rfl
    · exact crLen_append _ _ _ (h3.elim (· ▸ hA) fun h => by rw [PfxOK, h]; exact fun e => hs (Option.some.inj e))
  rw [h1, hY, ← List.append_assoc, ← h2, ← List.length_append, cut_nl, hc, List.length_append]
  exact Nat.add_sub_assoc (crLen_le true _) _

theorem lineDelims_last (sep k : Nat) (l : List Bytes) (hne : l ≠ []) :
    (lineDelims k l).getLast? = some (k + (intercalate [sep] l).length) := by
  have h := dumpLine_length sep l k hne
  have hG := lineDelims_ne_nil k l
  rw [List.getLastD_eq_getLast?, List.getLast?_eq_some_getLast hG, dumpLine_length_intercalate, Option.getD_some] at h
  rw [List.getLast?_eq_some_getLast hG]
  congr 1; omega

theorem intercalate_ne_nil (sep : Nat) (l : List Bytes) (hlast : l.getLastD [] ≠ []) : intercalate [sep] l ≠ [] := by
  intro e
  have hg := intercalate_getLast? sep l hlast
  rw [e] at hg
  exact hlast (List.getLast?_eq_none_iff.mp hg.symm)

/-! the end table of a line: `lineDelims`, its last entry cut (`stripCR`) when the switch `c` is on -/

section
variable (c : Bool) (sep : Nat) (A B : Bytes) (l : List Bytes)

theorem ends_length (d : Bytes) (k : Nat) (hne : l ≠ []) :
    (if c then stripCR d (lineDelims k l) else lineDelims k l).length = l.length := by
  cases c
  · exact lineDelims_length k l hne
  · exact (stripCR_spec _ _).1.trans (lineDelims_length k l hne)

theorem ends_le (d : Bytes) (k : Nat) (hne : l ≠ []) :
    ∀ e ∈ (if c then stripCR d (lineDelims k l) else lineDelims k l), e ≤ k + (dumpLine sep l).length := by
  cases c
  · exact lineDelims_le sep k l hne
  · exact stripCR_le d _ _ (lineDelims_le sep k l hne)

/-- the end table at column `j`: the end of field `j`, in front of its CR only in the last column and with the switch on -/
theorem ends_getD (j : Nat) (hj : j < l.length)
    (hl : c = true → j + 1 = l.length → l.getLastD [] ≠ [] ∨ (sep ≠ 13 ∧ PfxOK A)) :
    (if c then stripCR (A ++ dumpLine sep l ++ B) (lineDelims A.length l) else lineDelims A.length l).getD j 0 =
      (offsFrom A.length l).getD j 0 + ((l.getD j []).length - crLen (c && j + 1 == l.length) (l.getD j [])) := by
  have hne : l ≠ [] := List.ne_nil_of_length_pos (Nat.zero_lt_of_lt hj)
  cases c with
  | false => rw [if_neg Bool.false_ne_true, lineDelims_getD _ l j hj]; rfl
  | true =>
    by_cases hjl : j + 1 = l.length
    · rw [if_pos rfl, stripCR_getD_last _ _ j (hjl.trans (lineDelims_length _ l hne).symm), lineDelims_getD _ l j hj, hjl,
        beq_self_eq_true]
      exact cut_field_end sep A B l j hj (.inr hjl) ((hl rfl hjl).imp_left fun h => by
        rwa [getLastD_eq_getD, ← hjl, Nat.add_sub_cancel] at h)
    · rw [beq_false_of_ne hjl, Bool.and_false, show crLen false (l.getD j []) = 0 from rfl, Nat.sub_zero, ← lineDelims_getD _ l j hj]
      exact (stripCR_spec _ _).2 j (by rw [lineDelims_length _ _ hne]; exact Nat.lt_of_le_of_ne hj hjl)

end

/-! `hlast`: the last field is not empty, so that the byte in front of the newline is its last byte -/

section
variable (c : Bool) (sep : Nat) (A B : Bytes) (l : List Bytes) (hlast : l.getLastD [] ≠ [])
include hlast

theorem line_last_byte : (byteAt (A ++ dumpLine sep l ++ B) (A.length + (intercalate [sep] l).length - 1) == 13) =
    ((l.getLastD []).getLast? == some 13) := by
  have hg := intercalate_getLast? sep l hlast
  have hT := intercalate_ne_nil sep l hlast
  have e : A ++ dumpLine sep l ++ B = (A ++ intercalate [sep] l) ++ (10 :: B) := by simp [dumpLine, List.append_assoc]
  rw [e, ← List.length_append, last_byte _ _ (by simp [hT]), List.getLast?_append, hg]
  cases hx : (l.getLastD []).getLast? with
  | none => exact absurd (List.getLast?_eq_none_iff.mp hx) hlast
  | some v => rfl

theorem cut_line_end : cut (A ++ dumpLine sep l ++ B) (A.length + (intercalate [sep] l).length) =
    A.length + (intercalate [sep] l).length - crLen true (l.getLastD []) := by
  rw [cut, crLen, line_last_byte sep A B l hlast, Bool.true_and]
  split <;> rfl

theorem ends_last (hne : l ≠ []) :
    (if c then stripCR (A ++ dumpLine sep l ++ B) (lineDelims A.length l) else lineDelims A.length l).getLastD 0 =
      A.length + (intercalate [sep] l).length - crLen c (l.getLastD []) := by
  cases c with
  | false => rw [if_neg Bool.false_ne_true, List.getLastD_eq_getLast?, lineDelims_last sep _ l hne]; rfl
  | true => rw [if_pos rfl, stripCR_eq, lineDelims_last sep _ l hne, List.getLastD_concat, cut_line_end sep A B l hlast]

theorem rest_strip (j : Nat) (hj : j < l.length) :
    slice (A ++ dumpLine sep l ++ B) ((offsFrom A.length l).getD j 0)
        (A.length + (intercalate [sep] l).length - crLen c (l.getLastD []) - (offsFrom A.length l).getD j 0) =
      if c then dropCR (intercalate [sep] (l.drop j)) else intercalate [sep] (l.drop j) := by
  have hd : (l.drop j).getLastD [] = l.getLastD [] := by
    rw [List.getLastD_eq_getLast?, List.getLastD_eq_getLast?, List.getLast?_drop, if_neg (Nat.not_le.mpr hj)]
  rw [rest_cut sep A B l j hj, dropCR_eq_take, crLen_congr c (intercalate [sep] (l.drop j)) (l.getLastD [])]
  rw [intercalate_getLast? sep _ (by rw [hd]; exact hlast), hd]

end

/-- the CR switch: decided once per file on its first line, applied line by line (hence mixed files) -/
def delimCR (sep : Nat) (lines : List (List Bytes)) : Bool := crFlag (dumpFile sep lines) (lineGroups sep 0 lines)

/-- the row the delimited construction builds for one line; `c`: the CR switch -/
def delimRow (sep : Nat) (c : Bool) (d : Bytes) (k : Nat) (l : List Bytes) : Row :=
  lineRow sep (offsFrom k l) (if c then stripCR d (lineDelims k l) else lineDelims k l) k l

theorem expExtG_rows (sep : Nat) (lines : List (List Bytes)) (hne : ∀ l ∈ lines, l ≠ []) :
    LenWF (expExtG sep lines) ∧
      (expExtG sep lines).rows = walk (dumpLine sep) (delimRow sep (delimCR sep lines) (dumpFile sep lines)) 0 lines := by
  unfold expExtG expExtE endsOf delimCR
  generalize crFlag (dumpFile sep lines) (lineGroups sep 0 lines) = c
  rw [ite_map]
  simp only [startGroups_walk, lineGroups_walk, walk_map, walk_zipWith]
  refine ⟨lenWF_walk .., (rows_walk ..).trans (walk_congr _ _ _ _ (fun l hl k => ?_) 0)⟩
  simp only [delimRow, lineRow, lineStarts_closed k l (hne l hl), ← dumpLine_length sep l k (hne l hl),
    offsFrom_headD k l (hne l hl)]

theorem expExtG_inv (sep : Nat) (lines : List (List Bytes)) (hne : ∀ l ∈ lines, l ≠ []) :
    Inv (expExtG sep lines) ∧ (expExtG sep lines).abs.map (·.raw) = lines.map (dumpLine sep) :=
  inv_of_walk (dumpLine sep) _ lines _ (expExtG_rows sep lines hne).1 rfl (expExtG_rows sep lines hne).2
    fun l hl k => lineRow_fits sep k l _ _ (Nat.le_of_eq (by rw [ends_length _ l _ k (hne l hl), offsFrom_length]))
      (offsFrom_le sep k l) (ends_le _ sep l _ k (hne l hl))

/-- every column of every delimited file (LF, CRLF or mixed): the source field, the last one without its CR when the
switch is on. An empty last field is allowed when the separator cannot pass for a CR -/
theorem delimited_fields (sep n : Nat) (lines : List (List Bytes)) (j : Nat) (hj : j < n)
    (h : ∀ l ∈ lines, l.length = n ∧ (delimCR sep lines = true → j + 1 = n → l.getLastD [] ≠ [] ∨ sep ≠ 13)) :
    (expExtG sep lines).fieldText j =
      lines.map (fun l => if delimCR sep lines && j + 1 == n then dropCR (l.getD j []) else l.getD j []) := by
  have hne : ∀ l ∈ lines, l ≠ [] := fun l hl => List.ne_nil_of_length_pos ((h l hl).1 ▸ Nat.zero_lt_of_lt hj)
  rw [Ext.fieldText, (expExtG_rows sep lines hne).2]
  refine rows_ctx sep _ _ lines h _ (fun d r => slice d (r.fS.getD j 0) (r.fL.getD j 0)) (fun A B l hA hl => ?_)
  have hjl : j < l.length := by rw [hl.1]; exact hj
  rw [dropCR_eq_take, ← hl.1]
  exact row_field sep A B l j hjl (offsFrom A.length l) _ (by rw [offsFrom_length]; exact hjl)
    (by rw [ends_length _ l _ _ (List.ne_nil_of_length_pos (Nat.zero_lt_of_lt hjl))]; exact hjl) 0 _ rfl
    (ends_getD _ sep A B l j hjl fun hc e => (hl.2 hc (hl.1 ▸ e)).imp_right fun hs => ⟨hs, hA⟩) (Nat.sub_le _ _)

/-- **C04.delimited_rest** — `get_fields_by_range(from_nr=j)` (the VCF genotype columns) is, line by line, the source text from
column j to the end of the line, without the trailing CR when the switch is on -/
theorem delimited_rest (sep n : Nat) (hn : 0 < n) (lines : List (List Bytes)) (h : CleanTable sep n lines)
    (hlast : ∀ l ∈ lines, l.getLastD [] ≠ []) (j : Nat) (hj : j < n) :
    (expExtG sep lines).rest j =
      lines.map (fun l => if delimCR sep lines then dropCR (intercalate [sep] (l.drop j)) else intercalate [sep] (l.drop j)) := by
  rw [Ext.rest, (expExtG_rows sep lines (h.ne_nil hn)).2]
  refine rows_ctx sep (fun l => l.length = n ∧ l.getLastD [] ≠ []) _ lines (fun l hl => ⟨(h l hl).1, hlast l hl⟩) _
    (fun d r => slice d (r.fS.getD j 0) (r.fS.getLastD 0 + r.fL.getLastD 0 - r.fS.getD j 0)) (fun A B l _ hl => ?_)
  have hjl : j < l.length := by rw [hl.1]; exact hj
  have hl0 : l ≠ [] := List.ne_nil_of_length_pos (Nat.zero_lt_of_lt hjl)
  have hE := ends_last (delimCR sep lines) sep A B l hl.2 hl0
  have ho := offs_last sep A.length l hl0
  simp only [delimRow, lineRow]
  rw [last_end _ _ (by rw [ends_length _ l _ _ hl0, offsFrom_length])
    (by rw [hE, ← ho]; exact Nat.le_sub_of_add_le (Nat.add_le_add_left (crLen_le _ _) _)), hE]
  exact rest_strip _ sep A B l hl.2 j hjl

/-- **C04.delimited_last_column** — LF, CRLF or mixed files: the last column is returned exactly when the CR switch is off,
and without the trailing CR of each line that has one when it is on -/
theorem delimited_last_column (sep n : Nat) (hn : 0 < n) (lines : List (List Bytes))
    (h : CleanTable sep n lines) (hlast : ∀ l ∈ lines, l.getLastD [] ≠ []) :
    (expExtG sep lines).fieldText (n - 1) =
      lines.map (fun l => if delimCR sep lines then dropCR (l.getD (n - 1) []) else l.getD (n - 1) []) := by
  rw [delimited_fields sep n lines (n - 1) (Nat.sub_lt hn Nat.one_pos) (fun l hl => ⟨(h l hl).1, fun _ _ => .inl (hlast l hl)⟩),
    Nat.sub_add_cancel hn]
  simp only [beq_self_eq_true, Bool.and_true]

/-- **C04.delimCR_src** — when the first line's last field is not empty, the switch is on exactly when that field ends in a CR -/
theorem delimCR_src (sep : Nat) (l0 : List Bytes) (ls : List (List Bytes)) (hne0 : l0 ≠ []) (hlast : l0.getLastD [] ≠ []) :
    delimCR sep (l0 :: ls) = ((l0.getLastD []).getLast? == some 13) := by
  have hb : (byteAt (dumpFile sep (l0 :: ls)) (0 + (intercalate [sep] l0).length - 1) == 13) = _ :=
    line_last_byte sep [] (dumpFile sep ls) l0 hlast
  have hpos : ((0 + (intercalate [sep] l0).length) != 0) = true := by
    rw [bne_iff_ne, Nat.zero_add]
    exact fun e => intercalate_ne_nil sep l0 hlast (List.eq_nil_of_length_eq_zero e)
  simp only [delimCR, crFlag, lineGroups, List.head?_cons, Option.map_some, Option.getD_some]
  rw [List.getLastD_eq_getLast?, lineDelims_last sep 0 l0 hne0, Option.getD_some, hpos, Bool.true_and, hb]

/-- a table whose every line ends in a carriage return (a CRLF file seen as an LF dump) -/
def CRTable (lines : List (List Bytes)) : Prop := ∀ l ∈ lines, (l.getLastD []).getLast? = some 13

def NoCRTable (lines : List (List Bytes)) : Prop := ∀ l ∈ lines, ∀ f ∈ l, ∀ b ∈ f, b ≠ 13

/-- **C04.crlf_last_column** — for every CRLF table the last column is returned without its carriage return -/
theorem crlf_last_column (sep n : Nat) (hn : 0 < n) (lines : List (List Bytes)) (hne : lines ≠ [])
    (h : CleanTable sep n lines) (hcr : CRTable lines) :
    (expExtG sep lines).fieldText (n - 1) = lines.map (fun l => dropCR (l.getD (n - 1) [])) := by
  have hlast : ∀ l ∈ lines, l.getLastD [] ≠ [] := by
    intro l hl e; have := hcr l hl; rw [e] at this; simp at this
  rw [delimited_last_column sep n hn lines h hlast]
  cases lines with
  | nil => exact absurd rfl hne
  | cons l0 ls =>
    rw [delimCR_src sep l0 ls (h.ne_nil hn l0 List.mem_cons_self) (hlast l0 List.mem_cons_self), hcr l0 List.mem_cons_self]
    rfl

/-- **C04.build_delimited_records** — for every table of clean fields (CR allowed: CRLF and mixed files are "last column ends
in CR") the extractor the code constructs satisfies the invariant and denotes exactly the source lines;
`get_field_by_number(j)` returns the source field for every column but the last -/
theorem build_delimited_records (sep n : Nat) (hs10 : sep ≠ 10) (hn : 0 < n)
    (lines : List (List Bytes)) (hne : lines ≠ []) (h : CleanTable sep n lines) :
    ∃ e, buildDelimited true sep (dumpFile sep lines) = some e ∧ Inv e ∧
      e.abs.map (·.raw) = lines.map (dumpLine sep) ∧
      (∀ j, j + 1 < n → e.fieldText j = lines.map (fun l => l.getD j [])) :=
  ⟨expExtG sep lines, buildDelimited_eq sep n hs10 hn lines hne h, (expExtG_inv sep lines (h.ne_nil hn)).1,
    (expExtG_inv sep lines (h.ne_nil hn)).2, fun j hj => by
      rw [delimited_fields sep n lines j (Nat.lt_of_succ_lt hj) fun l hl => ⟨(h l hl).1, fun _ e => absurd e (Nat.ne_of_lt hj)⟩,
        beq_false_of_ne (Nat.ne_of_lt hj), Bool.and_false]
      rfl⟩

/-- **C04.build_delimited_records_lf** — plain LF text: every column, the last included, is returned exactly -/
theorem build_delimited_records_lf (sep n : Nat) (hs10 : sep ≠ 10) (hs13 : sep ≠ 13) (hn : 0 < n)
    (lines : List (List Bytes)) (hne : lines ≠ []) (h : CleanTable sep n lines) (hnocr : NoCRTable lines) :
    ∃ e, buildDelimited true sep (dumpFile sep lines) = some e ∧ Inv e ∧
      e.abs.map (·.raw) = lines.map (dumpLine sep) ∧
      (∀ j, j < n → e.fieldText j = lines.map (fun l => l.getD j [])) :=
  ⟨expExtG sep lines, buildDelimited_eq sep n hs10 hn lines hne h, (expExtG_inv sep lines (h.ne_nil hn)).1,
    (expExtG_inv sep lines (h.ne_nil hn)).2, fun j hj => by
      rw [delimited_fields sep n lines j hj fun l hl => ⟨(h l hl).1, fun _ _ => .inr hs13⟩]
      refine List.map_congr_left fun l hl => ?_
      rw [dropCR_noCR _ (hnocr l hl _ (Base.getD_mem l j [] ((h l hl).1 ▸ hj))), ite_self]⟩

/-- **C04.passthrough_all_files** — the property end to end for the delimited formats: for every list of tables read back by
the code's own construction and every program, the bytes handed to the writer are the selected SOURCE LINES in the
selected order, or the program fails exactly when it fails on lists of lines -/
theorem passthrough_all_files (sep n : Nat) (hs10 : sep ≠ 10) (hn : 0 < n)
    (tables : List (List (List Bytes))) (hne : ∀ t ∈ tables, t ≠ []) (h : ∀ t ∈ tables, CleanTable sep n t) (p : Prog) :
    (∀ t ∈ tables, buildDelimited true sep (dumpFile sep t) = some (expExtG sep t)) ∧
    (p.evalExt (tables.map (expExtG sep))).map Ext.bytes =
      (p.evalSpec (tables.map (·.map (dumpLine sep)))).map List.flatten :=
  ⟨fun t ht => buildDelimited_eq sep n hs10 hn t (hne t ht) (h t ht),
    passthrough_map (expExtG sep) _ tables (fun t ht => expExtG_inv sep t ((h t ht).ne_nil hn)) p⟩

end C04
