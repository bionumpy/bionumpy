import BnpVerif.Props.C02Text
import BnpVerif.Base.PyLaws
import BnpVerif.Base.Lists
/-! C02 — from positions to texts, for a whole buffer. The (start, end) pairs the code reads off the delimiter positions
are the `spans` of the pieces (`zip_delims_eq_spans`), and in any context the bytes at the spans are the pieces
(`spans_texts`); hence `fieldTable` in terms of the lines (`fieldTable_eq`): the offset table is built exactly when all
lines have the first line's field count, and then denotes `lines.map (splitOn d)`. -/
namespace C02
open Base

/-! ## spans: the (start, end) pairs are determined by the lengths of the pieces -/

/-- where pieces lie that follow one another from position `k`, each followed by one delimiter byte -/
def spans (k : Nat) : List Bytes → List (Nat × Nat)
  | [] => []
  | p :: ps => (k, k + p.length) :: spans (k + p.length + 1) ps

theorem spans_length (k : Nat) (ps : List Bytes) : (spans k ps).length = ps.length := by
  induction ps generalizing k with
  | nil => rfl
  | cons p ps ih => rw [spans, List.length_cons, ih, List.length_cons]

theorem spans_le (k : Nat) (ps : List Bytes) : ∀ p ∈ spans k ps, p.1 ≤ p.2 := by
  induction ps generalizing k with
  | nil => nofun
  | cons q qs ih => exact List.forall_mem_cons.mpr ⟨Nat.le_add_right k _, ih _⟩

theorem spans_take (k n : Nat) (ps : List Bytes) : (spans k ps).take n = spans k (ps.take n) := by
  induction ps generalizing k n with
  | nil => simp [spans]
  | cons p ps ih => cases n with
    | zero => rfl
    | succ n => simp only [spans, List.take_succ_cons, ih]

/-- the last span ends where the pieces, joined by single bytes, end (the left side is how `samRow` reads the end of its
last fixed field) -/
theorem spans_last (d k : Nat) {ps : List Bytes} (h : ps ≠ []) :
    ((spans k ps).getLast?.map (·.2)).getD 0 = k + (joinWith d ps).length := by
  induction ps generalizing k with
  | nil => exact absurd rfl h
  | cons p qs ih =>
    cases qs with
    | nil => rfl
    | cons q qs =>
      have := ih (k + p.length + 1) (List.cons_ne_nil _ _)
      rw [spans, spans, List.getLast?_cons_cons, ← spans, this, joinWith_cons d p (List.cons_ne_nil _ _), List.length_append,
        List.length_cons, Nat.add_assoc, Nat.add_assoc, Nat.add_comm 1]

/-- starts against ends: the code pairs `a :: l.dropLast.map g` (a start is the previous end moved on by `g`) with the ends
`l`; the last start it leaves out would have had no partner -/
theorem zipWith_dropLast {α β γ} (f : α → β → γ) (g : β → α) (a : α) (l : List β) :
    List.zipWith f (a :: l.dropLast.map g) l = List.zipWith f (a :: l.map g) l := by
  induction l generalizing a with
  | nil => rfl
  | cons x xs ih =>
    cases xs with
    | nil => rfl
    | cons y ys => simpa using ih (g x)

theorem zip_dropLast_eq {α β} (g : β → α) (a : α) (l : List β) :
    List.zip (a :: l.dropLast.map g) l = List.zip (a :: l.map g) l :=
  zipWith_dropLast Prod.mk g a l

theorem zip_prev_take (g : Nat → Nat) (a : Nat) (l : List Nat) (t : Nat) :
    List.zip (a :: (l.take t).map g) (l.take t) = (List.zip (a :: l.map g) l).take t := by
  induction l generalizing a t with
  | nil => simp
  | cons x xs ih =>
    cases t with
    | zero => simp
    | succ t' =>
      simp only [List.take_succ_cons, List.map_cons, List.zip_cons_cons, List.cons.injEq, true_and]
      exact ih (g x) t'

theorem zip_cons_map_split (g : Nat → Nat) (a : Nat) (r1 r2 : List Nat) (hne : r1 ≠ []) :
    List.zip (a :: (r1 ++ r2).map g) (r1 ++ r2)
      = List.zip (a :: r1.map g) r1 ++ List.zip (g (r1.getLast hne) :: r2.map g) r2 := by
  induction r1 generalizing a with
  | nil => exact absurd rfl hne
  | cons x xs ih =>
    cases xs with
    | nil => rfl
    | cons y ys =>
      have := ih (g x) (List.cons_ne_nil _ _)
      simp only [List.cons_append, List.map_cons, List.zip_cons_cons] at this ⊢
      rw [this, List.getLast_cons (List.cons_ne_nil _ _)]

/-- the scan: the pairs read off the delimiter positions are the spans of the pieces (`acc`: the open piece, begun at `s`) -/
theorem zip_delims_eq_spans (isD : Nat → Bool) (s k : Nat) (acc bs : Bytes) (hk : k = s + acc.length) :
    List.zip (s :: (delimsFrom isD k bs).map (· + 1)) (delimsFrom isD k bs) = spans s (piecesAcc isD acc bs) := by
  subst hk
  induction bs generalizing s acc with
  | nil => rfl
  | cons b rest ih =>
    rw [delimsFrom, piecesAcc]
    split
    · have := ih (s + acc.length + 1) []
      rw [List.length_nil, Nat.add_zero] at this
      rw [List.map_cons, List.zip_cons_cons, this, spans]
    · have := ih s (acc ++ [b])
      rwa [List.length_append, List.length_singleton, ← Nat.add_assoc] at this

/-- wherever the scanned stretch stands (`A` in front, `B` behind), the bytes at the spans of its pieces are the pieces -/
theorem spans_texts (isD : Nat → Bool) (W A acc bs B : Bytes) (hW : W = A ++ acc ++ bs ++ B) :
    (spans A.length (piecesAcc isD acc bs)).map (fun p => slice W p.1 p.2) = piecesAcc isD acc bs := by
  induction bs generalizing A acc with
  | nil => rfl
  | cons b rest ih =>
    rw [piecesAcc]
    split
    · have := ih (A ++ acc ++ [b]) [] (by simp [hW])
      rw [List.length_append, List.length_append, List.length_singleton] at this
      rw [spans, List.map_cons, this, hW, List.append_assoc (A ++ acc), slice_mid]
    · exact ih A (acc ++ [b]) (by simp [hW])

/-! ## delimiter positions, and the well-formed pairs they give -/

theorem delimsFrom_eq (isD : Nat → Bool) (k : Nat) (bs : Bytes) : delimsFrom isD k bs = Py.maskPositions k (bs.map isD) := by
  induction bs generalizing k with
  | nil => rfl
  | cons b rest ih => rw [delimsFrom, List.map_cons, Py.maskPositions, ih]

/-- The delimiter positions are exactly the positions (counted from `k`) whose byte is a
delimiter. -/
theorem delimsFrom_mem_iff (isD : Nat → Bool) (k : Nat) (bs : Bytes) (e : Nat) :
    e ∈ delimsFrom isD k bs ↔ k ≤ e ∧ e < k + bs.length ∧ isD (bs.getD (e - k) 0) = true := by
  rw [delimsFrom_eq, Py.mem_maskPositions]
  constructor
  · rintro ⟨j, rfl, hj⟩
    obtain ⟨hlt, h⟩ := List.getElem?_eq_some_iff.mp hj
    rw [List.length_map] at hlt
    rw [Nat.add_sub_cancel_left, List.getD_eq_getElem?_getD, List.getElem?_eq_getElem hlt]
    exact ⟨Nat.le_add_right k j, Nat.add_lt_add_left hlt k, (List.getElem_map isD).symm.trans h⟩
  · rintro ⟨hk, hlt, h⟩
    have hj : e - k < bs.length := Nat.sub_lt_left_of_lt_add hk hlt
    rw [List.getD_eq_getElem?_getD, List.getElem?_eq_getElem hj] at h
    exact ⟨e - k, (Nat.add_sub_cancel' hk).symm, by rw [List.getElem?_map, List.getElem?_eq_getElem hj]; exact congrArg some h⟩

/-- Delimiter positions come out strictly increasing. -/
theorem delimsFrom_sorted (isD : Nat → Bool) (k : Nat) (bs : Bytes) :
    List.Pairwise (· < ·) (delimsFrom isD k bs) :=
  delimsFrom_eq isD k bs ▸ Py.maskPositions_sorted _ k

theorem delimsFrom_append (isD : Nat → Bool) (k : Nat) (a b : Bytes) :
    delimsFrom isD k (a ++ b) = delimsFrom isD k a ++ delimsFrom isD (k + a.length) b := by
  rw [delimsFrom_eq, delimsFrom_eq, delimsFrom_eq, List.map_append, Py.maskPositions_append, List.length_map]

theorem delimsFrom_length (isD : Nat → Bool) (k : Nat) (bs : Bytes) :
    (delimsFrom isD k bs).length = (pieces isD bs).length := by
  have := congrArg List.length (zip_delims_eq_spans isD k k [] bs rfl)
  rwa [List.length_zip, List.length_cons, List.length_map, Nat.min_eq_right (Nat.le_succ _), spans_length] at this

/-- a (start, end) pair of an offset table: the end is a delimiter position, the start is `s0` or follows a delimiter (what
the CR rule needs: in front of an empty field stands a delimiter, not a CR) -/
def wfPair (isD : Nat → Bool) (whole : Bytes) (s0 : Nat) (p : Nat × Nat) : Prop :=
  p.1 ≤ p.2 ∧ p.2 < whole.length ∧ isD (whole.getD p.2 0) = true ∧
  (p.1 = s0 ∨ (0 < p.1 ∧ isD (whole.getD (p.1 - 1) 0) = true))

theorem pairs_wf (isD : Nat → Bool) (bs : Bytes) :
    ∀ p ∈ List.zip (0 :: (delimsFrom isD 0 bs).dropLast.map (· + 1)) (delimsFrom isD 0 bs), wfPair isD bs 0 p := by
  rw [zip_dropLast_eq]
  intro ⟨s, e⟩ hp
  have hmem : ∀ x ∈ delimsFrom isD 0 bs, x < bs.length ∧ isD (bs.getD x 0) = true := fun x hx => by
    simpa using ((delimsFrom_mem_iff isD 0 bs x).mp hx).2
  obtain ⟨hs, he⟩ := List.of_mem_zip hp
  refine ⟨spans_le _ _ _ (zip_delims_eq_spans isD 0 0 [] bs rfl ▸ hp), (hmem e he).1, (hmem e he).2, ?_⟩
  rcases List.mem_cons.mp hs with rfl | hs
  · exact Or.inl rfl
  · obtain ⟨x, hx, rfl⟩ := List.mem_map.mp hs
    exact Or.inr ⟨Nat.succ_pos x, (hmem x hx).2⟩

/-! ## the offset table of a delimited buffer -/

theorem pairs_texts (isD : Nat → Bool) (bs : Bytes) :
    (List.zip (0 :: (delimsFrom isD 0 bs).dropLast.map (· + 1)) (delimsFrom isD 0 bs)).map (fun p => slice bs p.1 p.2)
      = pieces isD bs := by
  rw [zip_dropLast_eq, zip_delims_eq_spans isD 0 0 [] bs rfl]
  exact spans_texts isD bs [] [] bs [] (by simp)

theorem pieces_complete (d : Nat) (bs : Bytes) :
    pieces (isDelim d) (complete bs) = ((linesOf bs).map (splitOn d)).flatten := by
  rw [complete_eq]
  exact pieces_stretches (isDelim d) d 10 _ (fun l hl => isDelim_line (linesOf_free bs l hl)) (by simp [isDelim])

theorem delims_length (d : Nat) (bs : Bytes) (n : Nat) (huni : ∀ l ∈ linesOf bs, (splitOn d l).length = n) :
    (delimsFrom (isDelim d) 0 (complete bs)).length = (linesOf bs).length * n := by
  rw [delimsFrom_length, pieces_complete,
    length_flatten_const n _ (List.forall_mem_map.mpr huni), List.length_map]

/-- what `fieldTable` returns when every line has `n` fields -/
def delimTable (d : Nat) (bs : Bytes) (n : Nat) : Table :=
  ⟨n, 0 :: (delimsFrom (isDelim d) 0 (complete bs)).dropLast.map (· + 1), delimsFrom (isDelim d) 0 (complete bs)⟩

/-- `fieldTable` in terms of the lines (once the field counts agree the reshape check cannot fail) -/
theorem fieldTable_eq (d : Nat) (bs : Bytes) :
    fieldTable d bs =
      if linesOf bs = [] then .error .other else
      match ((linesOf bs).map (fun l => (splitOn d l).length)).findIdx?
          (· != (splitOn d ((linesOf bs).headD [])).length) with
      | some i => .error (.format i)
      | none => .ok (delimTable d bs (splitOn d ((linesOf bs).headD [])).length) := by
  have hcomp := complete_eq bs
  have hfree := linesOf_free bs
  have hlen := delims_length d bs
  unfold fieldTable
  cases hl : linesOf bs with
  | nil => rw [hcomp, hl]; rfl
  | cons l0 rest =>
    rw [hl] at hfree hlen
    have hne : complete bs ≠ [] := by rw [hcomp, hl, unlines_cons]; simp
    have hn : ((complete bs).takeWhile (· != 10)).count d + 1 = (splitOn d l0).length := by
      rw [hcomp, hl, unlines_cons, takeWhile_append_stop _ l0 10 _ (ne_nl_of_free (hfree l0 List.mem_cons_self)) rfl,
        splitOn_length]
    have hlines : (linesOf (complete bs)).map (fun l => l.count d + 1)
        = (l0 :: rest).map (fun l => (splitOn d l).length) := by
      rw [hcomp, linesOf_unlines _ (hl ▸ hfree), hl]
      exact List.map_congr_left (fun l _ => (splitOn_length d l).symm)
    simp only [hne, if_false, hn, hlines, List.headD_cons, reduceCtorEq]
    split
    · next h => rw [h]
    · next hnone =>
      rw [hnone]
      rw [List.findIdx?_eq_none_iff] at hnone
      rw [hlen _ (fun l hl => by simpa using hnone _ (List.mem_map_of_mem hl)), Nat.mul_mod_left]
      rfl

theorem fieldTable_ok (d : Nat) (bs : Bytes) (n : Nat) (hne : linesOf bs ≠ [])
    (huni : ∀ l ∈ linesOf bs, (splitOn d l).length = n) :
    fieldTable d bs = .ok (delimTable d bs n) := by
  obtain ⟨l0, rest, hl⟩ := List.ne_nil_iff_exists_cons.mp hne
  have hnone : ((linesOf bs).map (fun l => (splitOn d l).length)).findIdx? (· != n) = none :=
    List.findIdx?_eq_none_iff.mpr (fun x hx => by
      obtain ⟨l, hl, rfl⟩ := List.mem_map.mp hx
      simp [huni l hl])
  rw [fieldTable_eq, if_neg hne, hl, List.headD_cons, huni l0 (hl ▸ List.mem_cons_self), ← hl, hnone]

theorem table_texts (d : Nat) (bs : Bytes) (n : Nat) (hne : linesOf bs ≠ [])
    (huni : ∀ l ∈ linesOf bs, (splitOn d l).length = n) :
    tableFields (complete bs) (delimTable d bs n) = (linesOf bs).map (splitOn d) := by
  obtain ⟨l0, rest, hl⟩ := List.ne_nil_iff_exists_cons.mp hne
  have hn : 0 < n := huni l0 (hl ▸ List.mem_cons_self) ▸ List.length_pos_iff.mpr (splitOn_ne_nil d l0)
  have hrows : ∀ r ∈ (linesOf bs).map (splitOn d), r.length = n := List.forall_mem_map.mpr huni
  simp only [tableFields, Table.rows, Table.pairs, delimTable]
  rw [delims_length d bs n huni, Nat.mul_div_cancel _ hn, chunkF_map, pairs_texts, pieces_complete,
    ← List.length_map (splitOn d), chunkF_flatten n _ hrows]

/-- For every buffer with at least one complete line, all lines having `n` fields (separator `d`, TAB in the package):
the delimiter-offset table (`n` from the first line, starts = previous delimiter + 1, reshape to `n` columns) is
built, has `n` columns, and slicing the buffer at its (start, end) pairs gives exactly `lines.map (splitOn d)`. -/
theorem fieldTable_spec (d : Nat) (hd : d ≠ 10) (bs : Bytes) (n : Nat)
    (hne : linesOf bs ≠ [])
    (huni : ∀ l ∈ linesOf bs, (splitOn d l).length = n) :
    ∃ t, fieldTable d bs = .ok t ∧ t.nCols = n ∧
      tableFields (complete bs) t = (linesOf bs).map (splitOn d) :=
  ⟨_, fieldTable_ok d bs n hne huni, rfl, table_texts d bs n hne huni⟩

/-- The offset table is built exactly for buffers with at least one complete line whose lines all have as many
fields as the first one. -/
theorem fieldTable_ok_iff (d : Nat) (hd : d ≠ 10) (bs : Bytes) :
    (∃ t, fieldTable d bs = .ok t) ↔
      linesOf bs ≠ [] ∧ ∀ l ∈ linesOf bs, (splitOn d l).length = (splitOn d ((linesOf bs).headD [])).length := by
  constructor
  · rintro ⟨t, ht⟩
    rw [fieldTable_eq] at ht
    split at ht
    · simp at ht
    · next hne =>
      refine ⟨hne, fun l hl => ?_⟩
      split at ht
      · simp at ht
      · next hnone => simpa using List.findIdx?_eq_none_iff.mp hnone _ (List.mem_map_of_mem hl)
  · exact fun ⟨hne, huni⟩ => ⟨_, fieldTable_ok d bs _ hne huni⟩

/-! ## non-vacuity -/

-- "c\t1\t22\nxy\t333\t4\n"
example : linesOf [99,9,49,9,50,50,10,120,121,9,51,51,51,9,52,10] ≠ [] := by decide +kernel
example : ∀ l ∈ linesOf [99,9,49,9,50,50,10,120,121,9,51,51,51,9,52,10], (splitOn 9 l).length = 3 := by decide +kernel
example : (match fieldTable 9 [99,9,49,9,50,50,10,120,121,9,51,51,51,9,52,10] with
    | .ok t => tableFields [99,9,49,9,50,50,10,120,121,9,51,51,51,9,52,10] t
    | .error _ => []) = [[[99],[49],[50,50]], [[120,121],[51,51,51],[52]]] := by decide +kernel
-- a ragged file
example : (match fieldTable 9 [97, 9, 98, 10, 99, 10] with | .error (.format 1) => true | _ => false) = true := by decide +kernel

end C02
