import BnpVerif.Model.C06
import BnpVerif.Gen.C06
/-! C06 property theorems (those of `Audit/C06.lean`): proved on the specification, for any alphabet; `tableOK` carries
them over to the code's lookup tables. -/
namespace C06

open Base

theorem omap_flatten {α β} (f : α → Option β) : ∀ (rows : List (List α)),
    omap f rows.flatten = (omap (omap f) rows).map List.flatten :=
  Base.omap_flatten f

theorem unflatten_map_flatten {α β} (g : α → β) (rows : List (List α)) :
    unflatten (rows.map List.length) (rows.flatten.map g) = rows.map (List.map g) := by
  induction rows with
  | nil => rfl
  | cons r rs ih => simp [unflatten, -List.map_flatten, ih]

/-! ### the specification, for any alphabet -/

theorem specEncByte_isSome (alph : List Nat) (b : Nat) : (specEncByte alph b).isSome = accepts alph b := by
  unfold specEncByte; split <;> simp [*]

theorem toUpper_of_mem {alph : List Nat} (hno : alph.all (fun b => !isLower b) = true) {b : Nat} (hb : b ∈ alph) :
    toUpper b = b := by
  rw [toUpper, if_neg]
  simpa using List.all_eq_true.mp hno b hb

theorem getElem?_of_specEncByte (alph : List Nat) (hno : alph.all (fun b => !isLower b) = true) (b c : Nat)
    (h : specEncByte alph b = some c) : alph[c]? = some (toUpper b) := by
  simp only [specEncByte, Option.ite_none_right_eq_some, Option.some.injEq, accepts, Bool.or_eq_true,
    Bool.and_eq_true, List.contains_iff_mem] at h
  obtain ⟨hacc, rfl⟩ := h
  have hm : toUpper b ∈ alph := by
    rcases hacc with hm | ⟨hl, hm⟩
    · rwa [toUpper_of_mem hno hm]
    · rwa [toUpper, if_pos hl]
  exact List.getElem?_eq_some_iff.mpr ⟨List.idxOf_lt_length_of_mem hm, List.getElem_idxOf _⟩

theorem specEncByte_of_getElem? (alph : List Nat) (hno : alph.all (fun b => !isLower b) = true) (hnd : alph.Nodup)
    (c b : Nat) (h : alph[c]? = some b) : specEncByte alph b = some c := by
  obtain ⟨hc, rfl⟩ := List.getElem?_eq_some_iff.mp h
  simp [specEncByte, accepts, toUpper_of_mem hno (List.getElem_mem hc), hnd.idxOf_getElem c hc]

theorem spec_encode_iff (alph : List Nat) (s : Bytes) :
    (specEncode alph s).isSome ↔ ∀ b ∈ s, accepts alph b = true := by
  simp only [specEncode, omap_isSome_iff, specEncByte_isSome]

theorem spec_decode_encode (alph : List Nat) (hno : alph.all (fun b => !isLower b) = true)
    (s : Bytes) (cs : List Nat) (h : specEncode alph s = some cs) :
    specDecode alph cs = some (s.map toUpper) :=
  omap_omap_of_some (getElem?_of_specEncByte alph hno) s cs h

/-- codes and text determine each other: in a duplicate-free alphabet (part of `tableOK`) no two codes share a letter -/
theorem encode_decode (alph : List Nat) (hno : alph.all (fun b => !isLower b) = true) (hnd : alph.Nodup) :
    ∀ (cs : List Nat) (t : Bytes), specDecode alph cs = some t → specEncode alph t = some cs := by
  intro cs t h
  exact cs.map_id ▸ omap_omap_of_some (specEncByte_of_getElem? alph hno hnd) cs t h

/-- ragged input: the code encodes the flat data and keeps the row lengths -/
theorem ragged_shape (alph : List Nat) (hno : alph.all (fun b => !isLower b) = true)
    (rows : List Bytes) (cs : List Nat) (h : specEncode alph rows.flatten = some cs) :
    (specDecode alph cs).map (unflatten (rows.map List.length)) = some (rows.map (·.map toUpper)) := by
  rw [spec_decode_encode alph hno _ cs h]
  exact congrArg some (unflatten_map_flatten toUpper rows)

/-! ### the lookup tables under `tableOK` -/

/-- `tableOK` looks every byte up in the list; comparing the table with the tabulated specification says the same in
one pass, and is what the kernel evaluates on the generated tables -/
theorem tableOK_iff (E : Enc) : tableOK E = true ↔
    E.encT = (List.range 256).map (specEncByte E.alphabet) ∧ E.decT = E.alphabet ∧
      E.alphabet.all (fun b => !isLower b) = true ∧ E.alphabet.Nodup := by
  have henc : (E.encT.length = 256 ∧ ∀ b < 256, encByte E b = specEncByte E.alphabet b) ↔
      E.encT = (List.range 256).map (specEncByte E.alphabet) := by
    constructor
    · intro ⟨hlen, h⟩
      refine List.ext_getElem (by simp [hlen]) fun b hb _ => ?_
      simpa [encByte, List.getElem?_eq_getElem hb] using h b (hlen ▸ hb)
    · intro h
      exact ⟨by simp [h], fun b hb => by simp [encByte, h, hb]⟩
  simp only [tableOK, Bool.and_eq_true, beq_iff_eq, decide_eq_true_eq, and_assoc, ← henc, List.all_eq_true,
    List.mem_range]

theorem encByte_eq_spec (E : Enc) (h : tableOK E = true) (b : Nat) (hb : b < 256) :
    encByte E b = specEncByte E.alphabet b := by
  simp [encByte, ((tableOK_iff E).mp h).1, hb]

/-- the lookup is by the code itself: a code that does not fit a byte is refused whatever its low byte is (the table
has exactly 256 entries). A lookup wrapping modulo 256 (`np.take(..., mode='wrap')`, seeded change C06-x3) would take
`256 + 'A'` for `A`. -/
theorem wide_code_rejected (E : Enc) (h : tableOK E = true) (b : Nat) (hb : 256 ≤ b) : encByte E b = none := by
  simp [encByte, ((tableOK_iff E).mp h).1, Nat.not_lt.mpr hb]

theorem encode_eq_spec (E : Enc) (h : tableOK E = true) (s : Bytes) (hs : ∀ b ∈ s, b < 256) :
    encode E s = specEncode E.alphabet s :=
  omap_congr _ _ _ fun b hb => encByte_eq_spec E h b (hs b hb)

theorem decode_eq_spec (E : Enc) (h : tableOK E = true) (cs : List Nat) :
    decode E cs = specDecode E.alphabet cs := by
  rw [decode, ((tableOK_iff E).mp h).2.1, specDecode]

theorem tableOK_noLower (E : Enc) (h : tableOK E = true) :
    E.alphabet.all (fun b => !isLower b) = true :=
  ((tableOK_iff E).mp h).2.2.1

/-- C06 clause 1: encoding succeeds exactly when every character belongs to the alphabet
(letters case-insensitively) -/
theorem encode_iff (E : Enc) (h : tableOK E = true) (s : Bytes) (hs : ∀ b ∈ s, b < 256) :
    (encode E s).isSome ↔ ∀ b ∈ s, accepts E.alphabet b = true := by
  rw [encode_eq_spec E h s hs]; exact spec_encode_iff _ _

/-- C06 clause 2: decode ∘ encode = upper-casing, element for element -/
theorem decode_encode (E : Enc) (h : tableOK E = true) (s : Bytes) (hs : ∀ b ∈ s, b < 256)
    (cs : List Nat) (he : encode E s = some cs) : decode E cs = some (s.map toUpper) := by
  rw [encode_eq_spec E h s hs] at he
  rw [decode_eq_spec E h]
  exact spec_decode_encode _ (tableOK_noLower E h) s cs he

/-- `ragged_shape` on the table model, which the driver runs -/
theorem ragged_shape_table (E : Enc) (h : tableOK E = true) (rows : List Bytes) (hs : ∀ b ∈ rows.flatten, b < 256)
    (cs : List Nat) (he : encode E rows.flatten = some cs) :
    (decode E cs).map (unflatten (rows.map List.length)) = some (rows.map (·.map toUpper)) := by
  rw [encode_eq_spec E h _ hs] at he
  rw [decode_eq_spec E h]
  exact ragged_shape E.alphabet (tableOK_noLower E h) rows cs he

theorem wide_text_rejected (E : Enc) (h : tableOK E = true) (s : Bytes) (hs : ∃ b ∈ s, 256 ≤ b) : encode E s = none := by
  obtain ⟨b, hb, hge⟩ := hs
  exact omap_eq_none_iff.mpr ⟨b, hb, wide_code_rejected E h b hge⟩

theorem encode_eq_none_iff (E : Enc) (s : Bytes) : encode E s = none ↔ (firstBad E s).isSome = true := by
  simp [encode, omap_eq_none_iff, firstBad, List.findIdx_lt_length]

theorem firstBad_spec (E : Enc) (h : tableOK E = true) (s : Bytes) (hs : ∀ b ∈ s, b < 256) :
    firstBad E s = (let i := s.findIdx (fun b => !accepts E.alphabet b); if i < s.length then some i else none) := by
  unfold firstBad
  rw [findIdx_congr _ (fun b => !accepts E.alphabet b) s fun b hb => by
    rw [encByte_eq_spec E h b (hs b hb), ← specEncByte_isSome, Option.not_isSome]]

/-- the error clause: encoding fails exactly when an offset is reported (neither hypothesis is used) -/
theorem encode_none_iff (E : Enc) (h : tableOK E = true) (s : Bytes) (hs : ∀ b ∈ s, b < 256) :
    encode E s = none ↔ (firstBad E s).isSome = true :=
  encode_eq_none_iff E s

/-- the reported offset is the FIRST offending position -/
theorem firstBad_least (E : Enc) (h : tableOK E = true) (s : Bytes) (hs : ∀ b ∈ s, b < 256) (i : Nat)
    (hi : firstBad E s = some i) :
    (∃ hlt : i < s.length, accepts E.alphabet s[i] = false) ∧ ∀ j (hj : j < i) (hjl : j < s.length), accepts E.alphabet s[j] = true := by
  rw [firstBad_spec E h s hs] at hi
  simp only [Option.ite_none_right_eq_some, Option.some.injEq] at hi
  obtain ⟨hlt, rfl⟩ := hi
  exact ⟨⟨hlt, by simpa using List.findIdx_getElem (w := hlt)⟩,
    fun j hj hjl => by simpa using List.not_of_lt_findIdx hj⟩

/-- encoding is local: row by row, chunk by chunk or as one flat array gives the same codes, and the whole is refused
exactly when a part is -/
theorem encode_append (E : Enc) (a b : Bytes) :
    encode E (a ++ b) = (encode E a).bind (fun x => (encode E b).map (x ++ ·)) := omap_append _ a b

theorem decode_append (E : Enc) (a b : List Nat) :
    decode E (a ++ b) = (decode E a).bind (fun x => (decode E b).map (x ++ ·)) := omap_append _ a b

theorem encode_flatten (E : Enc) : ∀ (rows : List Bytes),
    encode E rows.flatten = (omap (encode E) rows).map List.flatten :=
  omap_flatten (encByte E)

example : specEncode [65, 67, 71, 84] ([65, 67] ++ [103, 84]) = some ([0, 1] ++ [2, 3]) := rfl

/-! ### the generated tables (re-extracted from /repo on every run) -/

/-- the alphabet as a bit set: one bit test per byte, which the kernel does on binary numbers, instead of a pass over
the alphabet -/
def alphabetMask (alph : List Nat) : Nat := alph.foldr (fun a m => 2 ^ a ||| m) 0

theorem testBit_alphabetMask (alph : List Nat) (b : Nat) : (alphabetMask alph).testBit b = alph.contains b := by
  induction alph with
  | nil => simp [alphabetMask]
  | cons a l ih => simp [alphabetMask, Nat.testBit_two_pow, eq_comm] at ih ⊢; rw [ih]

theorem gen_tables_ok : Gen.C06.all.all (fun p => tableOK p.2) = true :=
  List.all_eq_true.mpr (by
    -- `==` on the tables is much quicker for the kernel than their `DecidableEq`
    simp only [tableOK_iff, ← beq_iff_eq (α := List (Option Nat))]
    unfold specEncByte
    simp only [accepts, ← testBit_alphabetMask]
    decide +kernel)

theorem gen_names : Gen.C06.all.map (·.1) =
    ["ACTGEncoding", "ACGTEncoding", "ACTGnEncoding", "ACGTnEncoding", "DigitEncoding", "ACUGEncoding",
     "AminoAcidEncoding", "BamEncoding", "CigarOpEncoding", "StrandEncoding"] := rfl

/-- the documented alphabets, written here independently of the code -/
theorem gen_alphabets : Gen.C06.all.map (·.2.alphabet) =
    ["ACTG".toList.map Char.toNat, "ACGT".toList.map Char.toNat, "ACTGN".toList.map Char.toNat,
     "ACGTN".toList.map Char.toNat, "0123456789".toList.map Char.toNat, "ACUG".toList.map Char.toNat,
     "ACDEFGHIKLMNPQRSTVWY*".toList.map Char.toNat, "=ACMGRSVTWYHKDBN".toList.map Char.toNat,
     "MIDNSHP=X".toList.map Char.toNat, "+-.".toList.map Char.toNat] := by decide +kernel

theorem tableOK_of_mem {n : String} {E : Enc} (hE : (n, E) ∈ Gen.C06.all) : tableOK E = true :=
  List.all_eq_true.mp gen_tables_ok (n, E) hE

/-- clauses 1 and 2 for every predefined encoding of the package -/
theorem predefined (n : String) (E : Enc) (hE : (n, E) ∈ Gen.C06.all) (s : Bytes) (hs : ∀ b ∈ s, b < 256) :
    ((encode E s).isSome ↔ ∀ b ∈ s, accepts E.alphabet b = true) ∧
    (∀ cs, encode E s = some cs → decode E cs = some (s.map toUpper)) :=
  ⟨encode_iff E (tableOK_of_mem hE) s hs, decode_encode E (tableOK_of_mem hE) s hs⟩

example : tableOK Gen.C06.ACGTEncoding = true := tableOK_of_mem (.tail _ (.head _))

/-- `256 + 'A'` (321) in the middle of `GA?TACA` -/
example : tableOK Gen.C06.ACGTEncoding = true ∧ encode Gen.C06.ACGTEncoding [71, 65, 321, 84, 65, 67, 65] = none ∧
    encode Gen.C06.ACGTEncoding [71, 65, 65, 84, 65, 67, 65] = some [2, 0, 0, 3, 0, 1, 0] :=
  ⟨tableOK_of_mem (.tail _ (.head _)), by decide +kernel⟩

/-! ### re-targeting: `as_encoded_array` on data that is already encoded -/

/-- the rule the code shipped with (prefix of length `max`, not `max+1`) is unsound:
"ACG" in ACGT re-targeted to ACTG silently becomes "ACT". -/
theorem retargetOld_unsound :
    retargetOld [65,67,71,84] [65,67,84,71] [0,1,2] = some [0,1,2] ∧
    specDecode [65,67,71,84] [0,1,2] = some [65,67,71] ∧
    specDecode [65,67,84,71] [0,1,2] = some [65,67,84] := by decide +kernel

/-- a compared prefix that reaches beyond the maximum code is sound; one shorter is not (`retargetOld_unsound`) -/
theorem retargetWith_sound (off : Nat) (hoff : 0 < off) (src tgt : List Nat) (d d' : List Nat)
    (h : retargetWith off src tgt d = some d') :
    ∃ text, specDecode src d = some text ∧ specDecode tgt d' = some text := by
  unfold retargetWith at h
  split at h
  · next hnone => cases h; rw [List.max?_eq_none_iff.mp hnone]; exact ⟨[], rfl, rfl⟩
  · next m hm =>
    simp only [Option.ite_none_right_eq_some, beq_iff_eq, Option.some.injEq] at h
    obtain ⟨htake, hlt, rfl⟩ := h
    have hle := (List.max?_eq_some_iff.mp hm).2
    -- every code is one of `tgt`, and lies in the compared prefix, so means the same letter in `src`
    obtain ⟨text, ht⟩ := Option.isSome_iff_exists.mp
      ((omap_isSome_iff (fun c => tgt[c]?) d).mpr fun c hc => by simp [Nat.lt_of_le_of_lt (hle c hc) hlt])
    refine ⟨text, (omap_congr _ _ _ fun c hc => ?_).trans ht, ht⟩
    have hc : c < m + off := Nat.lt_of_le_of_lt (hle c hc) (Nat.lt_add_of_pos_right hoff)
    rw [← List.getElem?_take_of_lt hc, htake, List.getElem?_take_of_lt hc]

/-- C06 clause 3 (re-targeting), for ALL alphabets: a returned result decodes, with the target alphabet, to the text
the data denoted under the source alphabet -/
theorem retarget_sound (src tgt : List Nat) (d d' : List Nat) (h : retarget src tgt d = some d') :
    ∃ text, specDecode src d = some text ∧ specDecode tgt d' = some text :=
  retargetWith_sound 1 Nat.one_pos src tgt d d' h

/-- the whole step, with the "same encoding: return as is" shortcut -/
theorem retargetFull_sound (src tgt : List Nat) (d d' : List Nat) (text : Bytes)
    (hd : specDecode src d = some text) (h : retargetFull src tgt d = some d') :
    specDecode tgt d' = some text := by
  unfold retargetFull at h
  split at h
  · next he => cases h; exact eq_of_beq he ▸ hd
  · obtain ⟨t, h1, h2⟩ := retarget_sound src tgt d d' h
    exact h2.trans (h1.symm.trans hd)

example : retarget [65,67,71,84] [65,67,71,84,78] [0,1,2,3] = some [0,1,2,3] := rfl
example : retarget [65,67,71,84] [65,67,84,71] [0,1,2] = none := rfl

/-! ### `change_encoding` -/

/-- `change_encoding` (decode, then encode): a returned result decodes to the upper-cased source text -/
theorem change_encoding_sound (src tgt : List Nat) (hno : tgt.all (fun b => !isLower b) = true)
    (d d' : List Nat) (h : changeEncoding src tgt d = some d') :
    ∃ text, specDecode src d = some text ∧ specDecode tgt d' = some (text.map toUpper) := by
  unfold changeEncoding at h
  split at h
  · cases h
  · next text ht => exact ⟨text, ht, spec_decode_encode tgt hno text d' h⟩

theorem mem_of_specDecode (alph : List Nat) (cs : List Nat) :
    ∀ (t : Bytes), specDecode alph cs = some t → ∀ b ∈ t, b ∈ alph := fun t h b hb =>
  let ⟨_, _, hc⟩ := omap_mem _ cs t h b hb
  List.mem_of_getElem? hc

/-- between two alphabets without lower-case letters (every `AlphabetEncoding` upper-cases its alphabet on
construction) the text is kept EXACTLY -/
theorem change_encoding_same_text (src tgt : List Nat) (hs : src.all (fun b => !isLower b) = true)
    (ht : tgt.all (fun b => !isLower b) = true) (d d' : List Nat) (h : changeEncoding src tgt d = some d') :
    ∃ text, specDecode src d = some text ∧ specDecode tgt d' = some text := by
  obtain ⟨text, h1, h2⟩ := change_encoding_sound src tgt ht d d' h
  refine ⟨text, h1, h2.trans (congrArg some ?_)⟩
  -- the decoded text consists of letters of `src`
  exact (List.map_congr_left fun b hb => toUpper_of_mem hs (mem_of_specDecode src d text h1 b hb)).trans text.map_id

example : changeEncoding [65,67,71,84] [65,67,84,71] [0,1,2] = some [0,1,3] := rfl

/-- the guard on the source is needed: a lower-case "alphabet" -/
example : changeEncoding [97] [65] [0] = some [0] ∧ specDecode [97] [0] = some [97] ∧ specDecode [65] [0] = some [65] := by decide +kernel

/-! ### from text to text, as the driver runs both -/

/-- what the driver runs for re-targeting (text → codes → `as_encoded_array(·, target)` → text): a returned text is the
upper-cased original, never other letters -/
theorem retargetText_sound (src tgt : List Nat) (hno : src.all (fun b => !isLower b) = true) (s t : Bytes)
    (h : retargetText src tgt s = some t) : t = s.map toUpper := by
  simp only [retargetText, Option.bind_eq_some_iff] at h
  obtain ⟨d, he, d', hr, h⟩ := h
  exact Option.some.inj (h.symm.trans (retargetFull_sound src tgt d d' _ (spec_decode_encode src hno s d he) hr))

/-- `retargetText_sound` for `change_encoding` (text → codes → `change_encoding(·, target)` → text), between alphabets
without lower-case letters -/
theorem changeText_sound (src tgt : List Nat) (hs : src.all (fun b => !isLower b) = true)
    (ht : tgt.all (fun b => !isLower b) = true) (s t : Bytes) (h : changeText src tgt s = some t) : t = s.map toUpper := by
  simp only [changeText, Option.bind_eq_some_iff] at h
  obtain ⟨d, he, d', hc, h⟩ := h
  obtain ⟨_, h1, h2⟩ := change_encoding_same_text src tgt hs ht d d' hc
  exact Option.some.inj (h.symm.trans (h2.trans (h1.symm.trans (spec_decode_encode src hs s d he))))

theorem retargetRows_sound (src tgt : List Nat) (hno : src.all (fun b => !isLower b) = true) (rows out : List Bytes)
    (h : retargetRows src tgt rows = some out) : out = rows.map (·.map toUpper) := by
  obtain ⟨t, ht, rfl⟩ := Option.map_eq_some_iff.mp h
  rw [retargetText_sound src tgt hno _ t ht]
  exact unflatten_map_flatten toUpper rows

/-! ### numeric encodings by offset -/

/-- an offset encoding never changes the text: uint8 arithmetic wraps, and wraps back -/
theorem offset_roundtrip (m b : Nat) (hb : b < 256) : offsetDecode m (offsetEncode m b) = b := by
  have hk : m % 256 ≤ b + 256 := Nat.le_trans (Nat.le_of_lt (Nat.mod_lt m (by decide))) (Nat.le_add_left 256 b)
  -- `(b + 256 - m % 256) % 256 + m` is `b + 256 - m % 256 + m % 256` modulo 256
  rw [offsetDecode, offsetEncode, Nat.mod_add_mod, ← Nat.add_mod_mod, Nat.sub_add_cancel hk, Nat.add_mod_right,
    Nat.mod_eq_of_lt hb]

/-- on and above `min_code` the code is the plain difference (the quality / digit value) -/
theorem offset_value (m b : Nat) (hm : m ≤ b) (hb : b < 256) : offsetEncode m b = b - m := by
  rw [offsetEncode, Nat.mod_eq_of_lt (Nat.lt_of_le_of_lt hm hb), Nat.sub_add_comm hm, Nat.add_mod_right,
    Nat.mod_eq_of_lt (Nat.lt_of_le_of_lt (Nat.sub_le b m) hb)]

theorem offset_injective (m b b' : Nat) (hb : b < 256) (hb' : b' < 256) (h : offsetEncode m b = offsetEncode m b') : b = b' := by
  rw [← offset_roundtrip m b hb, h, offset_roundtrip m b' hb']

/-- the three predefined offset encodings (`min_code`s `'0'`, `'!'`, NUL) are exactly `b ↦ b − min_code (mod 256)` and
its inverse -/
theorem gen_offset_tables_ok : Gen.C06.offsets.all (fun p => offsetTableOK p.2) = true := by decide +kernel

theorem gen_offset_min_codes : Gen.C06.offsets.map (fun p => (p.1, p.2.minCode)) =
    [("NumDigitEncoding", 48), ("QualityEncoding", 33), ("CigarEncoding", 0)] := rfl

theorem predefined_offset (n : String) (E : OffsetEnc) (hE : (n, E) ∈ Gen.C06.offsets) (b : Nat) (hb : b < 256) :
    E.encT[b]? = some (offsetEncode E.minCode b) ∧ E.decT[offsetEncode E.minCode b]? = some b := by
  have h := List.all_eq_true.mp gen_offset_tables_ok (n, E) hE
  simp only [offsetTableOK, Bool.and_eq_true, beq_iff_eq] at h
  obtain ⟨⟨-, henc⟩, hdec⟩ := h
  have hlt : offsetEncode E.minCode b < 256 := Nat.mod_lt _ (by decide)
  simp [henc, hdec, hb, hlt, offset_roundtrip E.minCode b hb]

end C06
