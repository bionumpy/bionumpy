import BnpVerif.Props.C02Text
import BnpVerif.Props.C02Columns
import BnpVerif.Props.C02Table
import BnpVerif.Props.C02Delimited
import BnpVerif.Props.C02Records
import BnpVerif.Props.C02Lines
import BnpVerif.Props.C02Vcf
import BnpVerif.Props.C02File
/-! C02 — parsed columns mean what the format says: theorems about the model of `Model/C02.lean`.

The index-level code (delimiter positions, (start, end) pairs, reshapes, digit matrices) is tied to the text-level
specification (`linesOf`, `splitOn`, `specInt`, `specColumn`, `specParse`) in three steps: the texts at the pairs are
the fields of the lines; each typed extraction reads a column as its documented kind does; the CR rule, row
selection and the per-format layouts preserve that. The property is the theorems listed in `Audit/C02.lean`. -/
