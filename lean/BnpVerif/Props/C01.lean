import BnpVerif.Model.C01
/-! C01 property theorems: the chunked reader delivers exactly the newline-terminated file,
for every well-formed file, every chunk size and both modes. -/
namespace C01

theorem addNL_getLast (b : Bytes) : (addNL b).getLast? = some NL := by
  unfold addNL; split
  · assumption
  · simp

theorem addNL_ne_nil (b : Bytes) : addNL b ≠ [] :=
  List.ne_nil_of_mem (List.mem_of_getLast? (addNL_getLast b))

theorem addNL_append {a b : Bytes} (hb : b ≠ []) : addNL (a ++ b) = a ++ addNL b := by
  have h : (a ++ b).getLast? = b.getLast? := by
    rw [List.getLast?_append, List.getLast?_eq_some_getLast hb]; rfl
  unfold addNL
  rw [h]
  split <;> simp

theorem addNL_of_getLast {b : Bytes} (h : b.getLast? = some NL) : addNL b = b := by
  unfold addNL; simp [h]

theorem fixEnd_append {F : Fmt} {a b : Bytes} (hb : b ≠ []) : fixEnd F (a ++ b) = a ++ fixEnd F b := by
  unfold fixEnd; rw [addNL_append hb, List.append_assoc]

/-- What the reader theorems ask of a format. `WF` holds of the remainders of a file the format can read to the end (the
file itself, and what is left behind each cut); `AL` holds of what is delivered (whole entries). -/
structure Laws (F : Fmt) (WF : Bytes → Prop) (AL : Bytes → Prop) : Prop where
  /-- a complete pending buffer yields a positive cut inside the buffer … -/
  cut_pos : ∀ c, F.complete c = true → 0 < F.cutLen c ∧ F.cutLen c ≤ c.length
  /-- … that ends right after a newline -/
  cut_nl : ∀ c, F.complete c = true → (c.take (F.cutLen c)).getLast? = some NL
  /-- cutting a complete prefix of a well-formed remainder leaves a well-formed remainder -/
  wf_drop : ∀ r c, WF r → c <+: r → F.complete c = true → WF (r.drop (F.cutLen c))
  /-- the terminated remainder is complete and is consumed whole (only the marker is cut off) -/
  wf_final : ∀ r, WF r → r ≠ [] →
    F.complete (fixEnd F r) = true ∧ F.cutLen (fixEnd F r) = (addNL r).length
  /-- what is delivered is entry-aligned (`AL`): a cut prefix of a well-formed remainder … -/
  cut_al : ∀ r c, WF r → c <+: r → F.complete c = true → AL (c.take (F.cutLen c))
  /-- … and the terminated well-formed remainder -/
  final_al : ∀ r, WF r → r ≠ [] → AL (addNL r)

/-! Laws for any file (a truncated last record); `marker_nil` restricts them to the k-line formats. -/

structure LawsT (F : Fmt) (AL : Bytes → Prop) : Prop where
  marker_nil : F.marker = []
  nil_incomplete : F.complete [] = false
  cut_pos : ∀ c, F.complete c = true → 0 < F.cutLen c ∧ F.cutLen c ≤ c.length
  cut_nl : ∀ c, F.complete c = true → (c.take (F.cutLen c)).getLast? = some NL
  cut_al : ∀ c, F.complete c = true → AL (c.take (F.cutLen c))
  /-- the cut is maximal: what is left behind it holds no complete entry -/
  cut_rest : ∀ c, F.complete c = true → F.complete (c.drop (F.cutLen c)) = false

theorem fixEnd_of_marker_nil {F : Fmt} (h : F.marker = []) (b : Bytes) : fixEnd F b = addNL b := by
  rw [fixEnd, h, List.append_nil]

/-- What the inner loop returns when `d` bytes of the remainder `file.drop lp` are pending: it gives up only on an empty
remainder; otherwise a complete buffer, a non-empty prefix of the remainder that holds the pending bytes, or (`fin`) the whole
terminated remainder. -/
def AccPost (F : Fmt) (file : Bytes) (lp d : Nat) : Option (Bytes × Nat × Bool) → Prop
  | none => file.drop lp = []
  | some (chunk, pos', fin) =>
    F.complete chunk = true ∧ lp + d ≤ pos' ∧ pos' ≤ file.length ∧
    (fin = false → chunk = (file.drop lp).take (pos' - lp) ∧ lp < pos') ∧
    (fin = true → pos' = file.length ∧ file.drop lp ≠ [] ∧ chunk = fixEnd F (file.drop lp))

/-- `AccPost` for any remainder: giving up may also mean that the terminated remainder is incomplete. `d` serves the induction. -/
def AccPostT (F : Fmt) (file : Bytes) (lp d : Nat) : Option (Bytes × Nat × Bool) → Prop
  | none => file.drop lp = [] ∨ F.complete (fixEnd F (file.drop lp)) = false
  | some (chunk, pos', fin) =>
    F.complete chunk = true ∧ lp + d ≤ pos' ∧ pos' ≤ file.length ∧
    (fin = false → chunk = (file.drop lp).take (pos' - lp) ∧ lp < pos') ∧
    (fin = true → pos' = file.length ∧ file.drop lp ≠ [] ∧ chunk = fixEnd F (file.drop lp))

theorem accumulate_eof_none {F : Fmt} {nr : Bool} {file : Bytes} {k fuel pos : Nat} {acc : Bytes} {fp : Bool}
    (hpos : file.length ≤ pos) (h : acc = [] ∨ fp = true) :
    accumulate F nr file k fuel pos acc fp = none := by
  cases fuel with
  | zero => rfl
  | succ fuel =>
    rw [accumulate, List.drop_of_length_le hpos]
    rcases h with rfl | rfl <;> simp

theorem accumulate_eof {F : Fmt} {file : Bytes} {k fuel pos : Nat} {acc : Bytes}
    (hpos : file.length ≤ pos) (h : acc ≠ []) :
    accumulate F true file k (fuel + 1) pos acc false =
      if F.complete (fixEnd F acc) then some (fixEnd F acc, pos, true) else none := by
  rw [accumulate, List.drop_of_length_le hpos]
  simp [h]

theorem accumulate_short {F : Fmt} {nr : Bool} {file : Bytes} {k fuel pos : Nat} {acc : Bytes} {fp : Bool}
    (hpos : pos < file.length) (hk : file.length < pos + k) :
    accumulate F nr file k (fuel + 1) pos acc fp =
      if F.complete (acc ++ fixEnd F (file.drop pos)) then some (acc ++ fixEnd F (file.drop pos), file.length, true)
      else none := by
  have hle := Nat.le_of_lt hpos
  have hfin : file.length - pos < k := Nat.sub_lt_left_of_lt_add hle hk
  rw [accumulate, List.take_of_length_le (by rw [List.length_drop]; exact Nat.le_of_lt hfin), List.length_drop]
  simp only [Nat.sub_ne_zero_of_lt hpos, hfin, Nat.add_sub_cancel' hle, decide_true, if_true, if_false]
  rw [accumulate_eof_none (Nat.le_refl _) (Or.inr rfl)]

theorem accumulate_full {F : Fmt} {nr : Bool} {file : Bytes} {k fuel pos : Nat} {acc : Bytes} {fp : Bool}
    (hk : 0 < k) (hpos : pos + k ≤ file.length) :
    accumulate F nr file k (fuel + 1) pos acc fp =
      if F.complete (acc ++ (file.drop pos).take k) then some (acc ++ (file.drop pos).take k, pos + k, false)
      else accumulate F nr file k fuel (pos + k) (acc ++ (file.drop pos).take k) false := by
  have hlen : ((file.drop pos).take k).length = k := by
    rw [List.length_take, List.length_drop]; exact Nat.min_eq_left (Nat.le_sub_of_add_le' hpos)
  rw [accumulate]
  simp only [hlen, Nat.ne_of_gt hk, Nat.lt_irrefl, decide_false, if_false, Bool.false_eq_true]

theorem fuel_step {len p n fuel : Nat} (hn : 0 < n) (hle : p + n ≤ len) (h : len - p < fuel + 1) :
    len - (p + n) < fuel :=
  have hlt := Nat.lt_add_of_pos_right hn
  Nat.lt_of_lt_of_le (Nat.sub_lt_sub_left (Nat.lt_of_lt_of_le hlt hle) hlt) (Nat.le_of_lt_succ h)

theorem AccPostT.mono {F : Fmt} {file : Bytes} {lp d d' : Nat} (h : d ≤ d') :
    ∀ {res}, AccPostT F file lp d' res → AccPostT F file lp d res
  | none, p => p
  | some (_, _, _), ⟨hc, hle, rest⟩ => ⟨hc, Nat.le_trans (Nat.add_le_add_left h lp) hle, rest⟩

/-- `file.drop lp` is what remains from the logical position `lp`; `d` bytes of it are pending in `acc`. -/
theorem accumulate_specT (F : Fmt) (file : Bytes) (k : Nat) (hk : 0 < k) (lp : Nat) :
    ∀ (fuel d : Nat) (acc : Bytes) (finPrev : Bool),
      lp + d ≤ file.length → acc = (file.drop lp).take d →
      (finPrev = true → lp + d = file.length ∧ d = 0) →
      file.length - (lp + d) < fuel →
      AccPostT F file lp d (accumulate F true file k fuel (lp + d) acc finPrev) := by
  intro fuel
  induction fuel with
  | zero => intro d acc finPrev _ _ _ hf; exact absurd hf (Nat.not_lt_zero _)
  | succ fuel ih =>
    intro d acc finPrev hle hacc hfin hfuel
    -- the pending bytes followed by what is unread are the remainder
    have hr : acc ++ file.drop (lp + d) = file.drop lp := by
      rw [hacc, ← List.drop_drop, List.take_append_drop]
    rcases Nat.lt_or_ge (lp + d) file.length with hlt | hge
    · rcases Nat.lt_or_ge file.length (lp + d + k) with hs | hf
      · have hne : file.drop (lp + d) ≠ [] := fun h => Nat.not_le.mpr hlt (List.drop_eq_nil_iff.mp h)
        have hrne : file.drop lp ≠ [] := by
          rw [← hr]; intro h; exact hne (List.append_eq_nil_iff.mp h).2
        rw [accumulate_short hlt hs, ← fixEnd_append hne, hr]
        split
        · next hc => exact ⟨hc, hle, Nat.le_refl _, nofun, fun _ => ⟨rfl, hrne, rfl⟩⟩
        · next hc => exact Or.inr (Bool.eq_false_iff.mpr hc)
      · have happ : acc ++ (file.drop (lp + d)).take k = (file.drop lp).take (d + k) := by
          rw [hacc, List.take_add, List.drop_drop]
        rw [accumulate_full hk hf, happ]
        split
        · next hc =>
          exact ⟨hc, Nat.le_add_right _ _, hf, fun _ => ⟨by rw [Nat.add_assoc, Nat.add_sub_cancel_left],
            Nat.add_assoc lp d k ▸ Nat.lt_add_of_pos_right (Nat.add_pos_right d hk)⟩, nofun⟩
        · have := ih (d + k) _ false (Nat.add_assoc lp d k ▸ hf) rfl nofun (Nat.add_assoc lp d k ▸ fuel_step hk hf hfuel)
          rw [← Nat.add_assoc] at this
          exact this.mono (Nat.le_add_right d k)
    · rw [List.drop_of_length_le hge, List.append_nil] at hr
      by_cases h : acc = [] ∨ finPrev = true
      · rw [accumulate_eof_none hge h]
        refine Or.inl ?_
        rcases h with h | h
        · rw [← hr, h]
        · rw [← hr, hacc, (hfin h).2]; rfl
      · have hne : acc ≠ [] := fun e => h (Or.inl e)
        have hfp : finPrev = false := by
          cases finPrev
          · rfl
          · exact absurd (Or.inr rfl) h
        rw [hfp, accumulate_eof hge hne, hr]
        split
        · next hc => exact ⟨hc, Nat.le_refl _, hle, nofun, fun _ => ⟨Nat.le_antisymm hle hge, hr ▸ hne, rfl⟩⟩
        · next hc => exact Or.inr (Bool.eq_false_iff.mpr hc)

theorem Laws.stop {F : Fmt} {WF AL : Bytes → Prop} (L : Laws F WF AL) {r : Bytes} (hwf : WF r)
    (h : r = [] ∨ F.complete (fixEnd F r) = false) : r = [] :=
  h.elim id fun h => Decidable.byContradiction fun hne => by rw [(L.wf_final r hwf hne).1] at h; cases h

-- `accumulate_specT` read under `Laws`; `readChunk_spec` and what follows it start from `accumulate_specT`.
theorem accumulate_spec (F : Fmt) (WF : Bytes → Prop) (AL : Bytes → Prop) (L : Laws F WF AL) (file : Bytes) (k : Nat) (hk : 0 < k)
    (lp : Nat) (hwf : WF (file.drop lp)) :
    ∀ (fuel d : Nat) (acc : Bytes) (finPrev : Bool),
      lp + d ≤ file.length → acc = (file.drop lp).take d →
      (finPrev = true → lp + d = file.length ∧ d = 0) →
      file.length - (lp + d) < fuel →
      AccPost F file lp d (accumulate F true file k fuel (lp + d) acc finPrev) := by
  intro fuel d acc finPrev hle hacc hfin hfuel
  have h := accumulate_specT F file k hk lp fuel d acc finPrev hle hacc hfin hfuel
  revert h
  cases accumulate F true file k fuel (lp + d) acc finPrev with
  | some res => exact id
  | none => exact L.stop hwf

/-- reader state `s` is consistent with logical position `lp` -/
structure Inv (file : Bytes) (s : St) (lp : Nat) : Prop where
  pos : lp + s.carry.length = s.pos
  le : s.pos ≤ file.length
  carry : s.carry = (file.drop lp).take s.carry.length
  fin : s.finished = true → s.pos = file.length ∧ s.carry = []

theorem Inv.nil {file : Bytes} {lp : Nat} {fin : Bool} (hle : lp ≤ file.length) (hfin : fin = true → lp = file.length) :
    Inv file { pos := lp, carry := [], finished := fin } lp :=
  ⟨rfl, hle, rfl, fun h => ⟨hfin h, rfl⟩⟩

theorem Inv.lp_le {file : Bytes} {s : St} {lp : Nat} (hI : Inv file s lp) : lp ≤ file.length :=
  Nat.le_trans (Nat.le_add_right _ _) (hI.pos ▸ hI.le)

theorem Inv.carry_drop {file : Bytes} {s : St} {lp : Nat} (hI : Inv file s lp) :
    s.carry ++ file.drop s.pos = file.drop lp := by
  have h := List.take_append_drop s.carry.length (file.drop lp)
  rwa [← hI.carry, List.drop_drop, hI.pos] at h

/-- `file.length + 2` is the fuel the reader starts its loops with -/
theorem fuel_enough (n m : Nat) : n - m < n + 2 :=
  Nat.lt_of_le_of_lt (Nat.sub_le _ _) (Nat.lt_add_of_pos_right (Nat.succ_pos 1))

theorem take_of_prefix {α} {c r : List α} (h : c <+: r) {n : Nat} (hn : n ≤ c.length) : c.take n = r.take n := by
  obtain ⟨t, rfl⟩ := h
  rw [List.take_append_of_le_length hn]

/-- the field `cut_pos` of `Laws` and of `LawsT`: all that one call and the loop need of the format -/
def Fmt.CutInside (F : Fmt) : Prop := ∀ c, F.complete c = true → 0 < F.cutLen c ∧ F.cutLen c ≤ c.length

/-- One call of `read_chunk` from a consistent state: it gives up, or cuts a prefix of the remainder and goes on, or cuts
the terminated remainder and is finished. `restOf` is what it examines in the two cases that end the iteration. -/
theorem readChunk_spec {F : Fmt} (hcut : F.CutInside)
    (mode : Mode) {file : Bytes} {k : Nat} (hk : 0 < k) {s : St} {lp : Nat} (hI : Inv file s lp) :
    match readChunk F true mode file k s with
    | none => (file.drop lp = [] ∨ F.complete (fixEnd F (file.drop lp)) = false) ∧ restOf F file k s = file.drop lp
    | some (out, s') => ∃ chunk, F.complete chunk = true ∧ out = chunk.take (F.cutLen chunk) ∧
        (chunk <+: file.drop lp ∧ Inv file s' (lp + F.cutLen chunk) ∧ s'.finished = false ∨
         chunk = fixEnd F (file.drop lp) ∧ file.drop lp ≠ [] ∧ Inv file s' file.length ∧ s'.finished = true ∧
           restOf F file k s = chunk.drop (F.cutLen chunk)) := by
  have h := accumulate_specT F file k hk lp (file.length + 2) s.carry.length s.carry s.finished
    (hI.pos ▸ hI.le) hI.carry (fun h => ⟨hI.pos.trans (hI.fin h).1, congrArg List.length (hI.fin h).2⟩) (fuel_enough _ _)
  rw [hI.pos] at h
  unfold readChunk restOf
  revert h
  cases accumulate F true file k (file.length + 2) s.pos s.carry s.finished with
  | none => exact fun h => ⟨h, hI.carry_drop⟩
  | some res =>
    obtain ⟨chunk, pos', fin⟩ := res
    rintro ⟨hcomp, -, hle, hnf, hf⟩
    refine ⟨chunk, hcomp, rfl, ?_⟩
    cases fin with
    | true =>
      obtain ⟨rfl, hne, hchunk⟩ := hf rfl
      exact Or.inr ⟨hchunk, hne, Inv.nil (Nat.le_refl _) (fun _ => rfl), rfl, rfl⟩
    | false =>
      obtain ⟨hchunk, hlt⟩ := hnf rfl
      obtain ⟨-, hn⟩ := hcut chunk hcomp
      have hclen : lp + chunk.length = pos' := by
        rw [hchunk, List.length_take, List.length_drop, Nat.min_eq_left (Nat.sub_le_sub_right hle lp)]
        exact Nat.add_sub_cancel' (Nat.le_of_lt hlt)
      refine Or.inl ⟨hchunk ▸ List.take_prefix _ _, ?_, by cases mode <;> rfl⟩
      cases mode with
      | seek =>
        -- seeking back over the unconsumed bytes puts the file offset at the cut
        have : pos' - (chunk.length - F.cutLen chunk) = lp + F.cutLen chunk := by
          rw [← hclen, Nat.add_sub_assoc (Nat.sub_le _ _), Nat.sub_sub_self hn]
        show Inv file ⟨pos' - (chunk.length - F.cutLen chunk), [], false⟩ _
        rw [this]
        exact Inv.nil (Nat.le_trans (Nat.add_le_add_left hn lp) (hclen ▸ hle)) nofun
      | carry =>
        have hcl : lp + F.cutLen chunk + (chunk.drop (F.cutLen chunk)).length = pos' := by
          rw [List.length_drop, Nat.add_assoc, Nat.add_sub_cancel' hn, hclen]
        refine ⟨hcl, hle, ?_, nofun⟩
        show chunk.drop _ = List.take (chunk.drop _).length _
        rw [List.length_drop, hchunk, List.drop_take, List.drop_drop, List.length_take, List.length_drop,
          Nat.min_eq_left (Nat.sub_le_sub_right hle lp)]

theorem readChunk_specT (F : Fmt) (AL : Bytes → Prop) (L : LawsT F AL) (mode : Mode) (file : Bytes)
    (k : Nat) (hk : 0 < k) (s : St) (lp : Nat) (hI : Inv file s lp) :
    match readChunk F true mode file k s with
    | none => file.drop lp = [] ∨ F.complete (addNL (file.drop lp)) = false
    | some (out, s') =>
      (∃ n, 0 < n ∧ out = (file.drop lp).take n ∧ out.length = n ∧ out.getLast? = some NL ∧
        Inv file s' (lp + n) ∧ lp + n ≤ file.length ∧ AL out ∧ s'.finished = false) ∨
      (∃ n, 0 < n ∧ n ≤ (addNL (file.drop lp)).length ∧ out = (addNL (file.drop lp)).take n ∧
        out.getLast? = some NL ∧ F.complete ((addNL (file.drop lp)).drop n) = false ∧
        file.drop lp ≠ [] ∧ Inv file s' file.length ∧ s'.finished = true ∧ AL out) := by
  have hfix := fixEnd_of_marker_nil L.marker_nil
  have h := readChunk_spec L.cut_pos mode hk hI
  revert h
  cases readChunk F true mode file k s with
  | none => exact fun h => hfix _ ▸ h.1
  | some res =>
    obtain ⟨out, s'⟩ := res
    rintro ⟨chunk, hcomp, rfl, h⟩
    obtain ⟨hpos, hlen⟩ := L.cut_pos chunk hcomp
    rcases h with ⟨hpre, hI', hfin⟩ | ⟨rfl, hne, hI', hfin, -⟩
    · exact Or.inl ⟨_, hpos, take_of_prefix hpre hlen, List.length_take_of_le hlen, L.cut_nl _ hcomp, hI', hI'.lp_le,
        L.cut_al _ hcomp, hfin⟩
    · rw [hfix] at hcomp hpos hlen ⊢
      exact Or.inr ⟨_, hpos, hlen, rfl, L.cut_nl _ hcomp, L.cut_rest _ hcomp, hne, hI', hfin, L.cut_al _ hcomp⟩

theorem readLoop_finished {F : Fmt} {nr : Bool} {mode : Mode} {file : Bytes} {k fuel : Nat} {s : St}
    (hI : Inv file s file.length) : readLoop F nr mode file k fuel s = [] := by
  cases fuel with
  | zero => rfl
  | succ fuel =>
    have hc : s.carry.length = 0 :=
      Nat.add_left_cancel (Nat.le_antisymm (hI.pos ▸ hI.le) (Nat.le_add_right _ _) : file.length + _ = file.length + 0)
    rw [readLoop, readChunk, accumulate_eof_none (hI.pos ▸ Nat.le_add_right _ _ : file.length ≤ s.pos)
      (Or.inl (List.eq_nil_of_length_eq_zero hc))]

/-- A read told without reader states: from the remainder `r` the reader delivers the chunks `cs`, and the call that ends
the iteration examines `ρ` (`readLoopRest`; only `readAllRest_blank_iff` looks at it). -/
inductive Run (F : Fmt) : Bytes → List Bytes → Bytes → Prop
  | stop {r} : r = [] ∨ F.complete (fixEnd F r) = false → Run F r [] r
  | step {r chunk cs ρ} : F.complete chunk = true → chunk <+: r →
      Run F (r.drop (F.cutLen chunk)) cs ρ → Run F r (chunk.take (F.cutLen chunk) :: cs) ρ
  | final {r} : r ≠ [] → F.complete (fixEnd F r) = true →
      Run F r [(fixEnd F r).take (F.cutLen (fixEnd F r))] ((fixEnd F r).drop (F.cutLen (fixEnd F r)))

theorem readLoop_run (F : Fmt) (hcut : F.CutInside)
    (mode : Mode) (file : Bytes) (k : Nat) (hk : 0 < k) :
    ∀ (fuel : Nat) (s : St) (lp : Nat), Inv file s lp → file.length - lp < fuel →
      Run F (file.drop lp) (readLoop F true mode file k fuel s) (readLoopRest F mode file k fuel s) := by
  intro fuel
  induction fuel with
  | zero => intro s lp _ hf; exact absurd hf (Nat.not_lt_zero _)
  | succ fuel ih =>
    intro s lp hI hfuel
    have h := readChunk_spec hcut mode hk hI
    rw [readLoop, readLoopRest]
    revert h
    cases readChunk F true mode file k s with
    | none => intro h; rw [h.2]; exact Run.stop h.1
    | some res =>
      obtain ⟨out, s'⟩ := res
      rintro ⟨chunk, hcomp, rfl, h⟩
      obtain ⟨hpos, hlen⟩ := hcut chunk hcomp
      have hne : (chunk.take (F.cutLen chunk)).isEmpty = false :=
        List.isEmpty_eq_false_iff.mpr (List.ne_nil_of_length_pos ((List.length_take_of_le hlen).symm ▸ hpos))
      simp only [hne, Bool.false_eq_true, if_false]
      rcases h with ⟨hpre, hI', hfin⟩ | ⟨rfl, hr, hI', hfin, hrest⟩
      · rw [hfin]
        exact Run.step hcomp hpre (List.drop_drop ▸ ih s' _ hI' (fuel_step hpos hI'.lp_le hfuel))
      · rw [hfin, hrest, readLoop_finished hI']
        exact Run.final hr hcomp

theorem readAll_run (F : Fmt) (hcut : F.CutInside)
    (mode : Mode) (file : Bytes) (k : Nat) (hk : 0 < k) :
    Run F file (readAll F true mode file k) (readAllRest F mode file k) :=
  readLoop_run F hcut mode file k hk (file.length + 2) init 0 (Inv.nil (Nat.zero_le _) nofun) (fuel_enough _ _)

theorem norm_of_ne_nil {r : Bytes} (h : r ≠ []) : norm r = addNL r := by
  cases r with
  | nil => exact absurd rfl h
  | cons x xs => rfl

theorem norm_of_getLast {b : Bytes} (h : b.getLast? = some NL) : norm b = b := by
  rw [norm_of_ne_nil (List.ne_nil_of_mem (List.mem_of_getLast? h)), addNL_of_getLast h]

theorem take_append_norm_drop (file : Bytes) (lp : Nat) (hJ : lp = 0 ∨ (file.take lp).getLast? = some NL) :
    file.take lp ++ norm (file.drop lp) = norm file := by
  by_cases hd : file.drop lp = []
  · rw [hd, show norm [] = [] from rfl, List.append_nil]
    rcases hJ with rfl | hJ
    · rw [show file = [] from hd]; rfl
    · rw [List.take_of_length_le (List.drop_eq_nil_iff.mp hd)] at hJ ⊢
      exact (norm_of_getLast hJ).symm
  · have hf : file ≠ [] := fun e => hd (by rw [e, List.drop_nil])
    rw [norm_of_ne_nil hd, norm_of_ne_nil hf, ← addNL_append hd, List.take_append_drop]

theorem cut_append_norm_drop {r chunk : Bytes} {n : Nat} (hpre : chunk <+: r) (hn : n ≤ chunk.length)
    (hnl : (chunk.take n).getLast? = some NL) : chunk.take n ++ norm (r.drop n) = norm r := by
  rw [take_of_prefix hpre hn] at hnl ⊢
  exact take_append_norm_drop r n (Or.inr hnl)

theorem Laws.take_final {F : Fmt} {WF AL : Bytes → Prop} (L : Laws F WF AL) {r : Bytes} (hwf : WF r) (hne : r ≠ []) :
    (fixEnd F r).take (F.cutLen (fixEnd F r)) = addNL r := by
  rw [(L.wf_final r hwf hne).2]; exact List.take_left' rfl

theorem Run.spec {F : Fmt} {WF AL : Bytes → Prop} (L : Laws F WF AL) {r : Bytes} {cs : List Bytes} {ρ : Bytes}
    (h : Run F r cs ρ) : WF r → cs.flatten = norm r ∧ ∀ c ∈ cs, c ≠ [] ∧ c.getLast? = some NL ∧ AL c := by
  induction h with
  | stop h => intro hwf; rw [L.stop hwf h]; exact ⟨rfl, nofun⟩
  | step hcomp hpre _ ih =>
    intro hwf
    have hnl := L.cut_nl _ hcomp
    obtain ⟨h1, h2⟩ := ih (L.wf_drop _ _ hwf hpre hcomp)
    rw [List.flatten_cons, h1]
    exact ⟨cut_append_norm_drop hpre (L.cut_pos _ hcomp).2 hnl, List.forall_mem_cons.mpr
      ⟨⟨List.ne_nil_of_mem (List.mem_of_getLast? hnl), hnl, L.cut_al _ _ hwf hpre hcomp⟩, h2⟩⟩
  | final hne hcomp =>
    intro hwf
    rw [L.take_final hwf hne, List.flatten_singleton, norm_of_ne_nil hne]
    exact ⟨rfl, List.forall_mem_singleton.mpr ⟨addNL_ne_nil _, addNL_getLast _, L.final_al _ hwf hne⟩⟩

/-- For every format satisfying the laws, every well-formed file, chunk size and mode: the delivered chunks concatenate
to exactly the newline-terminated file (nothing lost, duplicated or reordered); every chunk is non-empty, ends after a
newline and holds a whole number of entries (`AL`). -/
theorem readAll_bytes (F : Fmt) (WF : Bytes → Prop) (AL : Bytes → Prop) (L : Laws F WF AL) (hnil : WF []) (mode : Mode)
    (file : Bytes) (hwf : WF file) (k : Nat) (hk : 0 < k) :
    (readAll F true mode file k).flatten = norm file ∧
    ∀ c ∈ readAll F true mode file k, c ≠ [] ∧ c.getLast? = some NL ∧ AL c :=
  (readAll_run F L.cut_pos mode file k hk).spec L hwf

/-- `read()` (the whole file at once) delivers the newline-terminated file too -/
theorem whole_read (F : Fmt) (WF : Bytes → Prop) (AL : Bytes → Prop) (L : Laws F WF AL) (file : Bytes)
    (hwf : WF file) : readWhole F file = norm file := by
  cases file with
  | nil => rfl
  | cons x xs => exact L.take_final hwf (List.cons_ne_nil _ _)

/-- the chunks of `read_chunks`, concatenated, are what `read()` delivers -/
theorem chunked_eq_whole (F : Fmt) (WF : Bytes → Prop) (AL : Bytes → Prop) (L : Laws F WF AL) (hnil : WF [])
    (mode : Mode) (file : Bytes) (hwf : WF file) (k : Nat) (hk : 0 < k) :
    (readAll F true mode file k).flatten = readWhole F file := by
  rw [(readAll_bytes F WF AL L hnil mode file hwf k hk).1, whole_read F WF AL L file hwf]

theorem isBlank_norm (r : Bytes) : isBlank (norm r) = isBlank r := by
  cases r with
  | nil => rfl
  | cons x xs =>
    show isBlank (addNL (x :: xs)) = _
    unfold addNL
    split
    · rfl
    · exact List.all_append.trans (Bool.and_true _)

theorem Run.specT {F : Fmt} {AL : Bytes → Prop} (L : LawsT F AL) {r : Bytes} {cs : List Bytes} {ρ : Bytes}
    (h : Run F r cs ρ) :
    (∃ rest, cs.flatten ++ rest = norm r ∧ F.complete rest = false ∧ isBlank rest = isBlank ρ) ∧
      ∀ c ∈ cs, c ≠ [] ∧ c.getLast? = some NL ∧ AL c := by
  have hfix := fixEnd_of_marker_nil L.marker_nil
  induction h with
  | @stop r h =>
    refine ⟨⟨norm r, rfl, ?_, isBlank_norm r⟩, nofun⟩
    by_cases hd : r = []
    · rw [hd]; exact L.nil_incomplete
    · rw [norm_of_ne_nil hd, ← hfix]; exact h.resolve_left hd
  | step hcomp hpre _ ih =>
    have hnl := L.cut_nl _ hcomp
    obtain ⟨⟨rest, h1, h2⟩, hall⟩ := ih
    refine ⟨⟨rest, ?_, h2⟩, List.forall_mem_cons.mpr
      ⟨⟨List.ne_nil_of_mem (List.mem_of_getLast? hnl), hnl, L.cut_al _ hcomp⟩, hall⟩⟩
    rw [List.flatten_cons, List.append_assoc, h1]
    exact cut_append_norm_drop hpre (L.cut_pos _ hcomp).2 hnl
  | final hne hcomp =>
    rw [hfix] at hcomp ⊢
    have hnl := L.cut_nl _ hcomp
    refine ⟨⟨_, ?_, L.cut_rest _ hcomp, rfl⟩, List.forall_mem_singleton.mpr
      ⟨List.ne_nil_of_mem (List.mem_of_getLast? hnl), hnl, L.cut_al _ hcomp⟩⟩
    rw [List.flatten_singleton, List.take_append_drop, norm_of_ne_nil hne]

theorem readLoop_specT (F : Fmt) (AL : Bytes → Prop) (L : LawsT F AL) (mode : Mode)
    (file : Bytes) (k : Nat) (hk : 0 < k) :
    ∀ (fuel : Nat) (s : St) (lp : Nat), Inv file s lp →
      (lp = 0 ∨ (file.take lp).getLast? = some NL) → lp ≤ file.length → file.length - lp < fuel →
      (∃ rest, file.take lp ++ (readLoop F true mode file k fuel s).flatten ++ rest = norm file ∧
        F.complete rest = false) ∧
      ∀ c ∈ readLoop F true mode file k fuel s, c ≠ [] ∧ c.getLast? = some NL ∧ AL c := by
  intro fuel s lp hI hJ _ hfuel
  obtain ⟨⟨rest, h1, h2, -⟩, hall⟩ := (readLoop_run F L.cut_pos mode file k hk fuel s lp hI hfuel).specT L
  exact ⟨⟨rest, by rw [List.append_assoc, h1]; exact take_append_norm_drop file lp hJ, h2⟩, hall⟩

/-- No hypothesis on the file: the chunks followed by what is never delivered are the terminated file, and what is never
delivered holds no complete entry. `marker_nil` keeps this to the k-line formats: wrapped FASTA appends a marker at end of file. -/
theorem readAll_bytesT (F : Fmt) (AL : Bytes → Prop) (L : LawsT F AL) (mode : Mode) (file : Bytes) (k : Nat) (hk : 0 < k) :
    (∃ rest, (readAll F true mode file k).flatten ++ rest = norm file ∧ F.complete rest = false) ∧
    ∀ c ∈ readAll F true mode file k, c ≠ [] ∧ c.getLast? = some NL ∧ AL c :=
  have ⟨⟨rest, h1, h2, _⟩, hall⟩ := (readAll_run F L.cut_pos mode file k hk).specT L
  ⟨⟨rest, h1, h2⟩, hall⟩

/-! The end-of-file rule the code shipped with loses data: two recorded refutations. -/

/-- BED-like file `a\nb` (no final newline), chunk size 1, seek mode: the old rule returns only
the first line; the repaired rule returns both. -/
theorem readAll_old_loses :
    readAll (Fmt.kLine 1) false .seek [97, 10, 98] 1 = [[97, 10]] ∧
    readAll (Fmt.kLine 1) true .seek [97, 10, 98] 1 = [[97, 10], [98, 10]] := by decide +kernel

/-- wrapped FASTA `>a\nAC\n>b\nGG\n`, chunk size 2 (tail length a multiple of k): old rule loses `b` -/
theorem readAll_old_loses_fasta :
    (readAll Fmt.fasta false .seek [62,97,10,65,67,10,62,98,10,71,71,10] 2).flatten = [62,97,10,65,67,10] ∧
    (readAll Fmt.fasta true .seek [62,97,10,65,67,10,62,98,10,71,71,10] 2).flatten = [62,97,10,65,67,10,62,98,10,71,71,10] := by
  decide +kernel

theorem linesOf_cons (x : Nat) (xs : Bytes) :
    linesOf (x :: xs) = if x = NL then [] :: linesOf xs
      else match linesOf xs with
        | [] => [[x]]
        | l :: ls => (x :: l) :: ls := by
  rw [linesOf]; rfl

theorem linesOf_ne_nil (l : Bytes) (h : l ≠ []) : linesOf l ≠ [] := by
  cases l with
  | nil => exact absurd rfl h
  | cons x xs =>
    rw [linesOf_cons]
    split
    · simp
    · split <;> simp

theorem linesOf_append {a b : Bytes} (ha : a.getLast? = some NL) :
    linesOf (a ++ b) = linesOf a ++ linesOf b := by
  induction a with
  | nil => cases ha
  | cons x xs ih =>
    cases xs with
    | nil => cases ha; rfl
    | cons y ys =>
      obtain ⟨l, ls, hl⟩ := List.exists_cons_of_ne_nil (linesOf_ne_nil (y :: ys) (List.cons_ne_nil _ _))
      rw [List.cons_append, linesOf_cons, linesOf_cons x (y :: ys), ih (by rwa [List.getLast?_cons_cons] at ha), hl]
      split <;> rfl

/-- parsing newline-terminated chunks into lines (delimited-format entries) one by one gives, in order, the lines of their
concatenation -/
theorem lines_chunks (cs : List Bytes) (h : ∀ c ∈ cs, c ≠ [] ∧ c.getLast? = some NL) :
    (cs.map linesOf).flatten = linesOf cs.flatten := by
  induction cs with
  | nil => rfl
  | cons c cs ih =>
    rw [List.map_cons, List.flatten_cons, List.flatten_cons, linesOf_append (h c (List.mem_cons_self ..)).2,
      ih (fun c hc => h c (List.mem_cons_of_mem _ hc))]

theorem countNL_cons (x : Nat) (xs : Bytes) : countNL (x :: xs) = (if x = NL then 1 else 0) + countNL xs := by
  unfold countNL
  rw [List.count_cons, Nat.add_comm]
  by_cases h : x = NL <;> simp [h]

theorem countNL_append (a b : Bytes) : countNL (a ++ b) = countNL a + countNL b := List.count_append

theorem prefixThroughNL_zero (b : Bytes) : prefixThroughNL 0 b = 0 := by cases b <;> rfl

theorem prefixThroughNL_succ (m x : Nat) (xs : Bytes) :
    prefixThroughNL (m + 1) (x :: xs) = prefixThroughNL (if x = NL then m else m + 1) xs + 1 := by
  rw [prefixThroughNL]
  split <;> exact Nat.add_comm _ _

theorem prefix_spec : ∀ (b : Bytes) (m : Nat), 0 < m → m ≤ countNL b →
    0 < prefixThroughNL m b ∧ prefixThroughNL m b ≤ b.length ∧
    (b.take (prefixThroughNL m b)).getLast? = some NL ∧ countNL (b.take (prefixThroughNL m b)) = m := by
  intro b
  induction b with
  | nil => intro m hm hle; exact absurd hle (Nat.not_le.mpr hm)
  | cons x xs ih =>
    intro m hm hle
    obtain ⟨m, rfl⟩ := Nat.exists_eq_succ_of_ne_zero (Nat.ne_of_gt hm)
    rw [countNL_cons] at hle
    rw [prefixThroughNL_succ, List.take_succ_cons, countNL_cons, List.length_cons]
    by_cases hx : x = NL
    · rw [if_pos hx, Nat.add_comm] at hle
      rw [if_pos hx, if_pos hx]
      cases m with
      | zero =>
        rw [prefixThroughNL_zero, hx]; exact ⟨Nat.one_pos, Nat.succ_pos _, rfl, rfl⟩
      | succ m =>
        obtain ⟨-, h2, h3, h4⟩ := ih (m + 1) (Nat.succ_pos m) (Nat.le_of_succ_le_succ hle)
        exact ⟨Nat.succ_pos _, Nat.succ_le_succ h2, by rw [List.getLast?_cons, h3]; rfl, by rw [h4, Nat.add_comm]⟩
    · rw [if_neg hx, Nat.zero_add] at hle
      rw [if_neg hx, if_neg hx]
      obtain ⟨-, h2, h3, h4⟩ := ih (m + 1) hm hle
      exact ⟨Nat.succ_pos _, Nat.succ_le_succ h2, by rw [List.getLast?_cons, h3]; rfl, by rw [h4, Nat.zero_add]⟩

/-- reading through `p` uses up its newlines -/
theorem prefixThroughNL_append (p rest : Bytes) (m : Nat) :
    prefixThroughNL (countNL p + (m + 1)) (p ++ rest) = p.length + prefixThroughNL (m + 1) rest := by
  induction p with
  | nil => rw [show countNL [] = 0 from rfl, Nat.zero_add, List.nil_append, List.length_nil, Nat.zero_add]
  | cons x xs ih =>
    rw [List.cons_append, ← Nat.add_assoc, prefixThroughNL_succ, countNL_cons, List.length_cons]
    by_cases hx : x = NL
    · rw [if_pos hx, if_pos hx, Nat.add_comm 1, Nat.add_assoc, Nat.add_comm 1 m, ih, Nat.add_right_comm]
    · rw [if_neg hx, if_neg hx, Nat.zero_add, Nat.add_assoc, ih, Nat.add_right_comm]

theorem prefixThroughNL_countNL {p : Bytes} (rest : Bytes) (h : p.getLast? = some NL) :
    prefixThroughNL (countNL p) (p ++ rest) = p.length := by
  obtain ⟨q, rfl⟩ := List.getLast?_eq_some_iff.mp h
  have h1 := prefixThroughNL_append q (NL :: rest) 0
  rw [prefixThroughNL_succ, if_pos rfl, prefixThroughNL_zero] at h1
  rw [List.append_assoc, countNL_append, List.length_append]
  exact h1

theorem prefix_all (b : Bytes) (h : b.getLast? = some NL) : prefixThroughNL (countNL b) b = b.length := by
  have := prefixThroughNL_countNL [] h
  rwa [List.append_nil] at this

/-- the cut of a complete buffer: through the last newline whose ordinal is a multiple of `n` -/
theorem kLine_cut {n : Nat} (hn : 0 < n) {c : Bytes} (hc : (Fmt.kLine n).complete c = true) :
    0 < (Fmt.kLine n).cutLen c ∧ (Fmt.kLine n).cutLen c ≤ c.length ∧
    (c.take ((Fmt.kLine n).cutLen c)).getLast? = some NL ∧
    countNL (c.take ((Fmt.kLine n).cutLen c)) = countNL c - countNL c % n :=
  -- `complete` says `n ≤ countNL c`, so rounding down to a multiple of `n` leaves a positive count
  prefix_spec c _ (Nat.sub_pos_of_lt (Nat.lt_of_lt_of_le (Nat.mod_lt _ hn) (of_decide_eq_true hc))) (Nat.sub_le _ _)

theorem kLine_cut_al {n : Nat} (hn : 0 < n) {c : Bytes} (hc : (Fmt.kLine n).complete c = true) :
    n ∣ countNL (c.take ((Fmt.kLine n).cutLen c)) :=
  (kLine_cut hn hc).2.2.2 ▸ Nat.dvd_sub_mod _

def WFk (n : Nat) (r : Bytes) : Prop := n ∣ countNL (norm r)

theorem kLine_laws (n : Nat) (hn : 0 < n) : Laws (Fmt.kLine n) (WFk n) (fun c => n ∣ countNL c) where
  cut_pos c hc := ⟨(kLine_cut hn hc).1, (kLine_cut hn hc).2.1⟩
  cut_nl c hc := (kLine_cut hn hc).2.2.1
  wf_drop r c hwf hpre hc := by
    obtain ⟨-, hle, hnl, hcnt⟩ := kLine_cut hn hc
    -- the terminated remainder splits at the cut, and the cut prefix holds a multiple of `n` newlines
    unfold WFk at hwf ⊢
    rw [← cut_append_norm_drop hpre hle hnl, countNL_append, hcnt] at hwf
    exact (Nat.dvd_add_right (Nat.dvd_sub_mod _)).mp hwf
  wf_final r hwf hne := by
    rw [WFk, norm_of_ne_nil hne] at hwf
    have hlast := addNL_getLast r
    rw [fixEnd_of_marker_nil rfl]
    refine ⟨decide_eq_true (Nat.le_of_dvd (List.count_pos_iff.mpr (List.mem_of_getLast? hlast)) hwf), ?_⟩
    show prefixThroughNL _ _ = _
    rw [Nat.mod_eq_zero_of_dvd hwf]; exact prefix_all _ hlast
  cut_al _ _ _ _ hc := kLine_cut_al hn hc
  final_al r hwf hne := by rwa [WFk, norm_of_ne_nil hne] at hwf

/-- `readAll_bytes` for FASTQ (n = 4), two-line FASTA (n = 2) and delimited (n = 1) files whose line count is a multiple of `n` -/
theorem readAll_bytes_kLine (n : Nat) (hn : 0 < n) (mode : Mode) (file : Bytes)
    (hwf : n ∣ countNL (norm file)) (k : Nat) (hk : 0 < k) :
    (readAll (Fmt.kLine n) true mode file k).flatten = norm file ∧
    ∀ c ∈ readAll (Fmt.kLine n) true mode file k, c ≠ [] ∧ c.getLast? = some NL ∧ n ∣ countNL c :=
  readAll_bytes (Fmt.kLine n) (WFk n) (fun c => n ∣ countNL c) (kLine_laws n hn) (Nat.dvd_zero n) mode file hwf k hk

/-- every byte string is a well-formed delimited file: the lines of the chunks, in order, are the lines of the
newline-terminated file — no entry lost, duplicated or reordered -/
theorem readAll_delimited (mode : Mode) (file : Bytes) (k : Nat) (hk : 0 < k) :
    ((readAll (Fmt.kLine 1) true mode file k).map linesOf).flatten = linesOf (norm file) := by
  have h := readAll_bytes_kLine 1 Nat.one_pos mode file (Nat.one_dvd _) k hk
  rw [lines_chunks _ (fun c hc => ⟨(h.2 c hc).1, (h.2 c hc).2.1⟩), h.1]

/-- FASTQ `@a/A/+/I/@b/C/+/I` without a final newline: eight lines once terminated, delivered in two chunks (k = 5, carry mode) -/
example : 4 ∣ countNL (norm [64,97,10,65,10,43,10,73,10,64,98,10,67,10,43,10,73]) := by decide +kernel
example : (readAll (Fmt.kLine 4) true .carry [64,97,10,65,10,43,10,73,10,64,98,10,67,10,43,10,73] 5).length = 2 := by decide +kernel

theorem kLine_lawsT (n : Nat) (hn : 0 < n) : LawsT (Fmt.kLine n) (fun c => n ∣ countNL c) where
  marker_nil := rfl
  nil_incomplete := decide_eq_false (Nat.not_le.mpr hn)
  cut_pos := (kLine_laws n hn).cut_pos
  cut_nl := (kLine_laws n hn).cut_nl
  cut_al _ hc := kLine_cut_al hn hc
  cut_rest c hc := by
    have h := congrArg countNL (List.take_append_drop ((Fmt.kLine n).cutLen c) c)
    rw [countNL_append, (kLine_cut hn hc).2.2.2] at h
    -- so the rest holds `countNL c % n` newlines
    refine decide_eq_false (Nat.not_le.mpr ?_)
    rw [Nat.add_left_cancel (h.trans (Nat.sub_add_cancel (Nat.mod_le _ _)).symm)]
    exact Nat.mod_lt _ hn

theorem dvd_countNL_flatten {n : Nat} {cs : List Bytes} (h : ∀ c ∈ cs, n ∣ countNL c) : n ∣ countNL cs.flatten := by
  induction cs with
  | nil => exact Nat.dvd_zero n
  | cons c cs ih =>
    rw [List.flatten_cons, countNL_append]
    exact Nat.dvd_add (h c (List.mem_cons_self ..)) (ih (fun c hc => h c (List.mem_cons_of_mem _ hc)))

theorem flatten_getLast {cs : List Bytes} (h : ∀ c ∈ cs, c.getLast? = some NL) :
    cs.flatten = [] ∨ cs.flatten.getLast? = some NL := by
  induction cs with
  | nil => exact Or.inl rfl
  | cons c cs ih =>
    rw [List.flatten_cons, List.getLast?_append]
    rcases ih (fun c hc => h c (List.mem_cons_of_mem _ hc)) with h' | h' <;> rw [h']
    · exact Or.inr (h c (List.mem_cons_self ..))
    · exact Or.inr rfl

/-- FASTQ / two-line FASTA files of ANY content, also ending inside a record: the chunks concatenate to the first
`⌊lines/n⌋·n` lines of the terminated file — all whole records, nothing of the truncated one. -/
theorem readAll_kLine_any_file (n : Nat) (hn : 0 < n) (mode : Mode) (file : Bytes) (k : Nat) (hk : 0 < k) :
    (readAll (Fmt.kLine n) true mode file k).flatten =
      (norm file).take (prefixThroughNL (countNL (norm file) - countNL (norm file) % n) (norm file)) ∧
    countNL (readAll (Fmt.kLine n) true mode file k).flatten = countNL (norm file) - countNL (norm file) % n ∧
    ∀ c ∈ readAll (Fmt.kLine n) true mode file k, c ≠ [] ∧ c.getLast? = some NL ∧ n ∣ countNL c := by
  obtain ⟨⟨rest, hsplit, hrest⟩, hall⟩ := readAll_bytesT (Fmt.kLine n) _ (kLine_lawsT n hn) mode file k hk
  generalize readAll (Fmt.kLine n) true mode file k = cs at hsplit hall ⊢
  -- the chunks hold a multiple of `n` newlines and what is left fewer than `n`: quotient and remainder
  obtain ⟨q, hq⟩ := dvd_countNL_flatten fun c hc => (hall c hc).2.2
  have hlt : countNL rest < n := Nat.not_le.mp (of_decide_eq_false hrest)
  have hm : countNL cs.flatten = countNL (norm file) - countNL (norm file) % n := by
    rw [← hsplit, countNL_append, hq, Nat.mul_add_mod, Nat.mod_eq_of_lt hlt, Nat.add_sub_cancel]
  refine ⟨?_, hm, hall⟩
  rw [← hm, ← hsplit]
  rcases flatten_getLast fun c hc => (hall c hc).2.1 with h | h
  · rw [h, show countNL [] = 0 from rfl, prefixThroughNL_zero]; rfl
  · rw [prefixThroughNL_countNL _ h, List.take_left' rfl]

/-- `@a/A/+/I/@b` ends inside the second record: one record delivered, `@b` never -/
example : (readAll (Fmt.kLine 4) true .seek [64,97,10,65,10,43,10,73,10,64,98,10] 3).flatten = [64,97,10,65,10,43,10,73,10] := by decide +kernel

/-- Files of any content: the chunks of `read_chunks`, concatenated, are what `read()` delivers (a truncated last record
is left out by both). `hc` is there because below one record the code's `read()` raises `IncompleteEntryException`, which
`readWhole` does not model (C15's `wholeValidateT` does). -/
theorem chunks_eq_whole_kLine_any_file (n : Nat) (hn : 0 < n) (mode : Mode) (file : Bytes) (k : Nat) (hk : 0 < k)
    (hc : n ≤ countNL (norm file)) :
    (readAll (Fmt.kLine n) true mode file k).flatten = readWhole (Fmt.kLine n) file := by
  rw [(readAll_kLine_any_file n hn mode file k hk).1]
  cases file with
  | nil => exact absurd hc (Nat.not_le.mpr hn)
  | cons x xs => rw [readWhole, fixEnd_of_marker_nil rfl]; rfl

/-- two-line FASTA `>a/A/>b`, ending inside the second record -/
example : (readAll (Fmt.kLine 2) true .carry [62,97,10,65,10,62,98] 3).flatten = readWhole (Fmt.kLine 2) [62,97,10,65,10,62,98] := by decide +kernel

/-- the bytes the reader examines when its iteration ends (site 1: the pending chunks; site 2: the final chunk behind its
buffer) are blank exactly when what was never delivered is -/
theorem readAllRest_blank_iff (n : Nat) (hn : 0 < n) (mode : Mode) (file : Bytes) (k : Nat) (hk : 0 < k) :
    isBlank (readAllRest (Fmt.kLine n) mode file k) =
      isBlank ((norm file).drop (readAll (Fmt.kLine n) true mode file k).flatten.length) := by
  obtain ⟨⟨rest, h1, -, h2⟩, -⟩ :=
    (readAll_run (Fmt.kLine n) (kLine_laws n hn).cut_pos mode file k hk).specT (kLine_lawsT n hn)
  rw [← h1, List.drop_left' rfl, h2]

theorem linesOf_length (b : Bytes) (h : b = [] ∨ b.getLast? = some NL) : (linesOf b).length = countNL b := by
  induction b with
  | nil => rfl
  | cons x xs ih =>
    replace h := h.resolve_left (List.cons_ne_nil _ _)
    cases xs with
    | nil => cases h; rfl
    | cons y ys =>
      obtain ⟨l, ls, hl⟩ := List.exists_cons_of_ne_nil (linesOf_ne_nil (y :: ys) (List.cons_ne_nil _ _))
      rw [linesOf_cons, countNL_cons, ← ih (Or.inr (by rwa [List.getLast?_cons_cons] at h)), hl]
      split
      · exact Nat.add_comm _ _
      · exact (Nat.zero_add _).symm

theorem groupsOf_append {α} {n : Nat} (hn : 0 < n) {l1 : List α} (l2 : List α) (h : n ∣ l1.length) :
    groupsOf n (l1 ++ l2) = groupsOf n l1 ++ groupsOf n l2 := by
  obtain ⟨a, ha⟩ := h
  unfold groupsOf
  rw [List.length_append, ha, Nat.mul_add_div hn, Nat.mul_div_cancel_left _ hn, List.range_add, List.map_append,
    List.map_map]
  congr 1 <;> apply List.map_congr_left
  · -- the first `a` groups lie inside `l1`
    intro i hi
    have : (i + 1) * n ≤ a * n := Nat.mul_le_mul_right n (List.mem_range.mp hi)
    rw [Nat.add_mul, Nat.one_mul, Nat.mul_comm a] at this
    rw [← ha] at this
    rw [List.drop_append_of_le_length (Nat.le_trans (Nat.le_add_right _ _) this),
      List.take_append_of_le_length (by rw [List.length_drop]; exact Nat.le_sub_of_add_le' this)]
  · intro j _
    show ((l1 ++ l2).drop ((a + j) * n)).take n = _
    rw [Nat.add_mul, Nat.mul_comm a, ← ha, ← List.drop_drop, List.drop_left' rfl]

theorem entriesK_append {n : Nat} (hn : 0 < n) {a b : Bytes} (ha : a.getLast? = some NL)
    (hal : n ∣ countNL a) : entriesK n (a ++ b) = entriesK n a ++ entriesK n b := by
  unfold entriesK
  rw [linesOf_append ha]
  exact groupsOf_append hn _ (by rwa [linesOf_length a (Or.inr ha)])

theorem entriesK_chunks (n : Nat) (hn : 0 < n) (cs : List Bytes)
    (h : ∀ c ∈ cs, c ≠ [] ∧ c.getLast? = some NL ∧ n ∣ countNL c) :
    (cs.map (entriesK n)).flatten = entriesK n cs.flatten := by
  induction cs with
  | nil => simp [entriesK, groupsOf, linesOf]
  | cons c cs ih =>
    have hc := h c (List.mem_cons_self ..)
    rw [List.map_cons, List.flatten_cons, List.flatten_cons, entriesK_append hn hc.2.1 hc.2.2,
      ih (fun c hc => h c (List.mem_cons_of_mem _ hc))]

/-- the entries (groups of `n` lines) of the chunks, in order, are the entries of the newline-terminated file -/
theorem entries_chunks_kLine (n : Nat) (hn : 0 < n) (mode : Mode) (file : Bytes)
    (hwf : n ∣ countNL (norm file)) (k : Nat) (hk : 0 < k) :
    ((readAll (Fmt.kLine n) true mode file k).map (entriesK n)).flatten = entriesK n (norm file) := by
  have h := readAll_bytes_kLine n hn mode file hwf k hk
  rw [entriesK_chunks n hn _ h.2, h.1]

/-- two-line FASTA `>a/A/>b/C/`: two entries of two lines -/
example : entriesK 2 [62,97,10,65,10,62,98,10,67,10] = [[[62,97],[65]],[[62,98],[67]]] := by decide +kernel

/-- `bnp.count_entries` adds up the entry counts of the buffers of a chunked read: the sum is the number of entries of the file -/
theorem count_entries_chunks (n : Nat) (hn : 0 < n) (mode : Mode) (file : Bytes)
    (hwf : n ∣ countNL (norm file)) (k : Nat) (hk : 0 < k) :
    ((readAll (Fmt.kLine n) true mode file k).map (fun c => (entriesK n c).length)).sum = (entriesK n (norm file)).length := by
  have h := congrArg List.length (entries_chunks_kLine n hn mode file hwf k hk)
  rwa [List.length_flatten, List.map_map] at h

/-- the same file read with chunk size 3 -/
example : ((readAll (Fmt.kLine 2) true .seek [62,97,10,65,10,62,98,10,67,10] 3).map (fun c => (entriesK 2 c).length)).sum = 2 := by decide +kernel

/-! Wrapped FASTA. A remainder is well formed when it is empty or starts with `>` (`WFfasta`); what the code does with
other files (`assert chunk[0] == '>'`) is outside the model. -/

theorem lastEntryStart_cons_cons (x y : Nat) (rest : Bytes) :
    lastEntryStart (x :: y :: rest) =
      if lastEntryStart (y :: rest) > 0 then lastEntryStart (y :: rest) + 1
      else if x = NL ∧ y = GT then 1 else 0 := by
  rw [lastEntryStart]

/-- a buffer with an entry break splits, at the cut, behind a newline and in front of a `>` -/
theorem lastEntryStart_pos : ∀ (b : Bytes), 0 < lastEntryStart b →
    ∃ p t, b = p ++ GT :: t ∧ p.getLast? = some NL ∧ lastEntryStart b = p.length := by
  intro b
  induction b with
  | nil => exact nofun
  | cons x xs ih =>
    cases xs with
    | nil => exact nofun
    | cons y rest =>
      rw [lastEntryStart_cons_cons]
      by_cases hpos : lastEntryStart (y :: rest) > 0
      · obtain ⟨p, t, hb, hp, hl⟩ := ih hpos
        rw [if_pos hpos]
        exact fun _ => ⟨x :: p, t, by rw [hb]; rfl, by rw [List.getLast?_cons, hp]; rfl, by rw [hl]; rfl⟩
      · rw [if_neg hpos]
        by_cases hxy : x = NL ∧ y = GT
        · rw [if_pos hxy, hxy.1, hxy.2]; exact fun _ => ⟨[NL], rest, rfl, rfl, rfl⟩
        · rw [if_neg hxy]; exact nofun

theorem lastEntryStart_append_pair (a : Bytes) : lastEntryStart (a ++ [NL, GT]) = a.length + 1 := by
  induction a with
  | nil => rfl
  | cons x a' ih =>
    cases hrest : a' ++ [NL, GT] with
    | nil => simp at hrest
    | cons y rest =>
      rw [List.cons_append, hrest, lastEntryStart_cons_cons, ← hrest, ih]
      simp

/-- a remaining FASTA content is well formed when it is empty or starts with a header marker -/
def WFfasta (r : Bytes) : Prop := r = [] ∨ r.head? = some GT

theorem fasta_cut {c : Bytes} (hc : Fmt.fasta.complete c = true) :
    ∃ p t, c = p ++ GT :: t ∧ p.getLast? = some NL ∧ Fmt.fasta.cutLen c = p.length :=
  lastEntryStart_pos c (of_decide_eq_true hc)

theorem fasta_laws : Laws Fmt.fasta WFfasta (fun c => c.head? = some GT) where
  cut_pos c hc := by
    obtain ⟨p, t, rfl, hp, hl⟩ := fasta_cut hc
    rw [hl, List.length_append]
    exact ⟨List.length_pos_iff.mpr (List.ne_nil_of_mem (List.mem_of_getLast? hp)), Nat.le_add_right _ _⟩
  cut_nl c hc := by
    obtain ⟨p, t, rfl, hp, hl⟩ := fasta_cut hc
    rwa [hl, List.take_left' rfl]
  wf_drop r c _ hpre hc := by
    obtain ⟨p, t, rfl, -, hl⟩ := fasta_cut hc
    obtain ⟨s, rfl⟩ := hpre
    rw [hl, List.append_assoc, List.drop_left' rfl]
    exact Or.inr rfl
  wf_final r _ _ := by
    obtain ⟨a, ha⟩ := List.getLast?_eq_some_iff.mp (addNL_getLast r)
    have h := lastEntryStart_append_pair a
    rw [fixEnd, ha, List.append_assoc]
    exact ⟨decide_eq_true (h ▸ Nat.succ_pos _), by rw [List.length_append]; exact h⟩
  cut_al r c hwf hpre hc := by
    obtain ⟨p, t, rfl, hp, hl⟩ := fasta_cut hc
    obtain ⟨s, rfl⟩ := hpre
    rw [hl, List.take_left' rfl]
    cases p with
    | nil => cases hp
    | cons x xs => exact hwf.resolve_left (List.cons_ne_nil _ _)
  final_al r hwf hne := by
    unfold addNL
    split
    · exact hwf.resolve_left hne
    · rw [List.head?_append, hwf.resolve_left hne]; rfl

/-- wrapped FASTA, file empty or starting with a header line: the chunks concatenate to the newline-terminated file and
each chunk starts with a header marker — a record is never split -/
theorem readAll_bytes_fasta (mode : Mode) (file : Bytes) (hwf : file = [] ∨ file.head? = some GT)
    (k : Nat) (hk : 0 < k) :
    (readAll Fmt.fasta true mode file k).flatten = norm file ∧
    ∀ c ∈ readAll Fmt.fasta true mode file k, c ≠ [] ∧ c.getLast? = some NL ∧ c.head? = some GT :=
  readAll_bytes Fmt.fasta WFfasta (fun c => c.head? = some GT) fasta_laws (Or.inl rfl) mode file hwf k hk

/-- `>a/AC/>b/GG/`, chunk size 2: one record per chunk -/
example : (readAll Fmt.fasta true .seek [62,97,10,65,67,10,62,98,10,71,71,10] 2) = [[62,97,10,65,67,10],[62,98,10,71,71,10]] := by decide +kernel

/-- a header line closes the record collected so far -/
theorem splitRec_append_hdr (h : Bytes) (t : List Bytes) (hh : isHdr h = true) :
    ∀ (a cur : List Bytes), cur ++ a ≠ [] →
      splitRec (a ++ h :: t) cur = splitRec a cur ++ splitRec (h :: t) [] := by
  intro a
  induction a with
  | nil =>
    intro cur hne
    rw [List.append_nil] at hne
    show splitRec (h :: t) cur = splitRec [] cur ++ splitRec (h :: t) []
    unfold splitRec
    rw [if_pos ⟨hh, hne⟩, if_neg hne, if_neg (fun h => h.2 rfl)]
    rfl
  | cons l a ih =>
    intro cur _
    rw [List.cons_append, splitRec, splitRec]
    split
    · exact congrArg _ (ih [l] (List.cons_ne_nil _ _))
    · exact ih _ (by simp)

theorem linesOf_head_hdr (b : Bytes) (hb : b.head? = some GT) : ∃ h t, linesOf b = h :: t ∧ isHdr h = true := by
  cases b with
  | nil => cases hb
  | cons x xs =>
    cases hb
    rw [linesOf_cons, if_neg (by decide)]
    cases linesOf xs with
    | nil => exact ⟨_, _, rfl, rfl⟩
    | cons l ls => exact ⟨_, _, rfl, rfl⟩

theorem recordsFasta_append {a b : Bytes} (ha : a ≠ []) (hal : a.getLast? = some NL) (hb : b = [] ∨ b.head? = some GT) :
    recordsFasta (a ++ b) = recordsFasta a ++ recordsFasta b := by
  unfold recordsFasta
  rcases hb with rfl | hb
  · rw [List.append_nil]; exact (List.append_nil _).symm
  · obtain ⟨h, t, hl, hh⟩ := linesOf_head_hdr b hb
    rw [linesOf_append hal, hl, splitRec_append_hdr h t hh _ [] (linesOf_ne_nil a ha)]

theorem flatten_head {cs : List Bytes} (h : ∀ c ∈ cs, c.head? = some GT) :
    cs.flatten = [] ∨ cs.flatten.head? = some GT := by
  cases cs with
  | nil => exact Or.inl rfl
  | cons c cs => exact Or.inr (by rw [List.flatten_cons, List.head?_append, h c (List.mem_cons_self ..)]; rfl)

/-- wrapped FASTA at the level of records: the records of the chunks, in order, are the records of the file — none lost,
duplicated, reordered or split between two chunks -/
theorem records_chunks_fasta (mode : Mode) (file : Bytes) (hwf : file = [] ∨ file.head? = some GT)
    (k : Nat) (hk : 0 < k) :
    ((readAll Fmt.fasta true mode file k).map recordsFasta).flatten = recordsFasta (norm file) := by
  obtain ⟨hflat, hall⟩ := readAll_bytes_fasta mode file hwf k hk
  rw [← hflat]
  generalize readAll Fmt.fasta true mode file k = cs at hall
  induction cs with
  | nil => rfl
  | cons c cs ih =>
    obtain ⟨⟨hne, hnl, -⟩, hcs⟩ := List.forall_mem_cons.mp hall
    -- what follows the chunk is empty or starts with the header of the next chunk
    rw [List.map_cons, List.flatten_cons, List.flatten_cons,
      recordsFasta_append hne hnl (flatten_head fun d hd => (hcs d hd).2.2), ih hcs]

/-- `>a/AC/G/>b/GG/`: the first record has two sequence lines -/
example : recordsFasta [62,97,10,65,67,10,71,10,62,98,10,71,71,10] = [[[62,97],[65,67],[71]], [[62,98],[71,71]]] := by decide +kernel

/-! `max_chunk_size`: a cap can only turn a read into an error, never change what is delivered. -/

/-- One test of the pending buffer `x` (`b`: over the cap; `c`: complete) as `accumulateCap` and `accumulate` unfold:
if what happens otherwise (`R`, `O`) agrees, so does the test. -/
theorem refines_test {α} {b c : Prop} [Decidable b] [Decidable c] (x : α) {R : Res α} {O : Option α}
    (h : (∀ r, R = .ok r → O = some r) ∧ (R = .stop → O = none)) :
    (∀ r, (if b then .err else if c then .ok x else R) = Res.ok r → (if c then some x else O) = some r) ∧
    ((if b then .err else if c then .ok x else R) = Res.stop → (if c then some x else O) = none) := by
  by_cases hb : b
  · rw [if_pos hb]; exact ⟨nofun, nofun⟩
  · rw [if_neg hb]
    by_cases hc : c
    · rw [if_pos hc, if_pos hc]; exact ⟨fun r h => by cases h; rfl, nofun⟩
    · rw [if_neg hc, if_neg hc]; exact h

theorem accumulateCap_refines (F : Fmt) (nr : Bool) (file : Bytes) (k cap : Nat) :
    ∀ (fuel pos : Nat) (acc : Bytes) (fp : Bool),
      (∀ r, accumulateCap F nr file k cap fuel pos acc fp = .ok r → accumulate F nr file k fuel pos acc fp = some r) ∧
      (accumulateCap F nr file k cap fuel pos acc fp = .stop → accumulate F nr file k fuel pos acc fp = none) := by
  intro fuel
  induction fuel with
  | zero => exact fun _ _ _ => ⟨nofun, fun _ => rfl⟩
  | succ fuel ih =>
    intro pos acc fp
    simp only [accumulateCap, accumulate]
    by_cases h0 : ((file.drop pos).take k).length = 0
    · rw [if_pos h0, if_pos h0]
      by_cases hc : (nr && !acc.isEmpty && !fp) = true
      · rw [if_pos hc, if_pos hc]; exact refines_test _ ⟨nofun, fun _ => rfl⟩
      · rw [if_neg hc, if_neg hc]; exact ⟨nofun, fun _ => rfl⟩
    · rw [if_neg h0, if_neg h0]; exact refines_test _ (ih _ _ _)

theorem readChunkCap_refines (F : Fmt) (nr : Bool) (mode : Mode) (file : Bytes) (k cap : Nat) (s : St) :
    readChunkCap F nr mode file k cap s = .err ∨
      readChunkCap F nr mode file k cap s = toRes (readChunk F nr mode file k s) := by
  have h := accumulateCap_refines F nr file k cap (file.length + 2) s.pos s.carry s.finished
  unfold readChunkCap readChunk
  cases hc : accumulateCap F nr file k cap (file.length + 2) s.pos s.carry s.finished with
  | stop => rw [h.2 hc]; exact Or.inr rfl
  | err => exact Or.inl rfl
  | ok r => rw [h.1 r hc]; exact Or.inr rfl

theorem readLoopCap_refines (F : Fmt) (nr : Bool) (mode : Mode) (file : Bytes) (k cap : Nat) :
    ∀ (fuel : Nat) (s : St), readLoopCap F nr mode file k cap fuel s = none ∨
      readLoopCap F nr mode file k cap fuel s = some (readLoop F nr mode file k fuel s) := by
  intro fuel
  induction fuel with
  | zero => exact fun _ => Or.inr rfl
  | succ fuel ih =>
    intro s
    rw [readLoopCap, readLoop]
    rcases readChunkCap_refines F nr mode file k cap s with h | h <;> rw [h]
    · exact Or.inl rfl
    · cases readChunk F nr mode file k s with
      | none => exact Or.inr rfl
      | some r =>
        obtain ⟨out, s'⟩ := r
        dsimp only [toRes]
        split
        · exact Or.inr rfl
        · rcases ih s' with h | h <;> rw [h]
          · exact Or.inl rfl
          · exact Or.inr rfl

/-- `read_chunks(min_chunk_size=k, max_chunk_size=cap)`: a capped read that completes delivers exactly the chunks of the
uncapped read — the cap can make the read refuse, never lose, duplicate or alter an entry -/
theorem capped_read (F : Fmt) (nr : Bool) (mode : Mode) (file : Bytes) (k cap : Nat) (cs : List Bytes)
    (h : readAllCap F nr mode file k cap = some cs) : cs = readAll F nr mode file k :=
  (readLoopCap_refines F nr mode file k cap _ init).elim (fun e => nomatch e.symm.trans h)
    fun e => Option.some.inj (h.symm.trans e)

/-- a cap below the first entry refuses, a generous one does not -/
example : readAllCap (Fmt.kLine 1) true .seek [65, 66, 67, 10, 68, 10] 2 3 = none ∧
    readAllCap (Fmt.kLine 1) true .seek [65, 66, 67, 10, 68, 10] 2 6 = some [[65, 66, 67, 10], [68, 10]] := by decide +kernel

/-- the capped call does not refuse, and what it returns satisfies `P` -/
def Res.Holds {α} (P : α → Prop) : Res α → Prop
  | .ok a => P a
  | .stop => True
  | .err => False

theorem holds_test {α} {P : α → Prop} {b c : Prop} [Decidable b] [Decidable c] {x : α} {R : Res α}
    (hb : ¬ b) (hx : P x) (hR : R.Holds P) : (if b then .err else if c then .ok x else R).Holds P := by
  rw [if_neg hb]
  split
  · exact hx
  · exact hR

theorem fixEnd_length (F : Fmt) (b : Bytes) : (fixEnd F b).length ≤ b.length + 1 + F.marker.length := by
  rw [fixEnd, addNL, List.length_append]
  split
  · exact Nat.add_le_add_right (Nat.le_succ _) _
  · rw [List.length_append]; exact Nat.le_refl _

theorem raw_length (file : Bytes) (k pos : Nat) (hpos : pos ≤ file.length) :
    pos + ((file.drop pos).take k).length ≤ file.length ∧
    (((file.drop pos).take k).length < k → pos + ((file.drop pos).take k).length = file.length) := by
  rw [List.length_take, List.length_drop]
  refine ⟨Nat.add_le_of_le_sub' hpos (Nat.min_le_right _ _), fun h => ?_⟩
  rw [Nat.min_eq_right (Nat.le_of_not_le fun hk => by rw [Nat.min_eq_left hk] at h; exact Nat.lt_irrefl k h),
    Nat.add_sub_cancel' hpos]

theorem accumulateCap_eof_fin {F : Fmt} {nr : Bool} {file : Bytes} {k cap fuel pos : Nat} {acc : Bytes}
    (hpos : file.length ≤ pos) : accumulateCap F nr file k cap fuel pos acc true = .stop := by
  cases fuel with
  | zero => rfl
  | succ fuel => rw [accumulateCap, List.drop_of_length_le hpos]; simp

/-- a loop whose pending bytes are bytes already read never refuses, and what it completes is again bytes read (unless
it is the last buffer) -/
theorem accumulateCap_of_bound (F : Fmt) (nr : Bool) (file : Bytes) (k cap : Nat)
    (hcap : file.length + 1 + F.marker.length ≤ cap) :
    ∀ (fuel pos : Nat) (acc : Bytes) (fp : Bool), acc.length ≤ pos → pos ≤ file.length →
      (accumulateCap F nr file k cap fuel pos acc fp).Holds
        fun r => r.2.1 ≤ file.length ∧ (r.2.2 = false → r.1.length ≤ r.2.1) := by
  -- a terminated buffer of bytes of the file fits under the cap
  have hfits : ∀ b : Bytes, b.length ≤ file.length → ¬ (fixEnd F b).length > cap := fun b hb =>
    Nat.not_lt.mpr (Nat.le_trans (fixEnd_length F b) (Nat.le_trans (Nat.add_le_add_right (Nat.add_le_add_right hb 1) _) hcap))
  have hfile : file.length ≤ cap := Nat.le_trans (Nat.le_trans (Nat.le_add_right _ 1) (Nat.le_add_right _ _)) hcap
  intro fuel
  induction fuel with
  | zero => exact fun _ _ _ _ _ => trivial
  | succ fuel ih =>
    intro pos acc fp hacc hpos
    have hraw := raw_length file k pos hpos
    simp only [accumulateCap]
    generalize (file.drop pos).take k = raw at hraw
    have hlen : (acc ++ raw).length ≤ pos + raw.length := by
      rw [List.length_append]; exact Nat.add_le_add_right hacc _
    by_cases h0 : raw.length = 0
    · rw [if_pos h0]
      by_cases hc : (nr && !acc.isEmpty && !fp) = true
      · rw [if_pos hc]; exact holds_test (hfits acc (Nat.le_trans hacc hpos)) ⟨hpos, nofun⟩ trivial
      · rw [if_neg hc]; trivial
    · rw [if_neg h0]
      by_cases hf : raw.length < k
      · simp only [hf, decide_true, if_true]
        rw [← fixEnd_append fun e : raw = [] => h0 (e ▸ rfl)]
        refine holds_test (hfits _ (Nat.le_trans hlen hraw.1)) ⟨hraw.1, nofun⟩ ?_
        rw [accumulateCap_eof_fin (Nat.le_of_eq (hraw.2 hf).symm)]; trivial
      · simp only [hf, decide_false, Bool.false_eq_true, if_false]
        exact holds_test (Nat.not_lt.mpr (Nat.le_trans hlen (Nat.le_trans hraw.1 hfile))) ⟨hraw.1, fun _ => hlen⟩
          (ih _ _ _ hlen hraw.1)

theorem readChunkCap_of_bound (F : Fmt) (nr : Bool) (mode : Mode) (file : Bytes) (k cap : Nat)
    (hcap : file.length + 1 + F.marker.length ≤ cap) (s : St) (hs : StOK file s) :
    (readChunkCap F nr mode file k cap s).Holds fun r => StOK file r.2 := by
  have h := accumulateCap_of_bound F nr file k cap hcap (file.length + 2) s.pos s.carry s.finished hs.1 hs.2
  unfold readChunkCap
  revert h
  cases accumulateCap F nr file k cap (file.length + 2) s.pos s.carry s.finished with
  | err => exact id
  | stop => exact id
  | ok r =>
    obtain ⟨chunk, pos', fin⟩ := r
    rintro ⟨hle, hlen⟩
    cases fin with
    | true => exact ⟨Nat.zero_le _, hle⟩
    | false =>
      cases mode with
      | seek => exact ⟨Nat.zero_le _, Nat.le_trans (Nat.sub_le _ _) hle⟩
      | carry => exact ⟨(List.length_drop ..).symm ▸ Nat.le_trans (Nat.sub_le _ _) (hlen rfl), hle⟩

theorem readLoopCap_of_bound (F : Fmt) (nr : Bool) (mode : Mode) (file : Bytes) (k cap : Nat)
    (hcap : file.length + 1 + F.marker.length ≤ cap) :
    ∀ (fuel : Nat) (s : St), StOK file s → readLoopCap F nr mode file k cap fuel s ≠ none := by
  intro fuel
  induction fuel with
  | zero => exact fun _ _ => nofun
  | succ fuel ih =>
    intro s hs
    have h := readChunkCap_of_bound F nr mode file k cap hcap s hs
    rw [readLoopCap]
    revert h
    cases readChunkCap F nr mode file k cap s with
    | err => exact False.elim
    | stop => exact fun _ => nofun
    | ok r =>
      obtain ⟨out, s'⟩ := r
      intro h
      dsimp only
      split
      · nofun
      · rw [Ne, Option.map_eq_none_iff]; exact ih s' h

/-- a cap of at least the file size plus what is appended at end of file (a newline and the entry marker) never refuses:
the capped read delivers the chunks of the uncapped one -/
theorem capped_read_succeeds (F : Fmt) (nr : Bool) (mode : Mode) (file : Bytes) (k cap : Nat)
    (hcap : file.length + 1 + F.marker.length ≤ cap) :
    readAllCap F nr mode file k cap = some (readAll F nr mode file k) :=
  (readLoopCap_refines F nr mode file k cap _ init).resolve_left
    (readLoopCap_of_bound F nr mode file k cap hcap _ init ⟨Nat.zero_le _, Nat.zero_le _⟩)

/-- the bound is tight for wrapped FASTA in carry mode: one byte less can refuse -/
example : readAllCap Fmt.fasta true .carry [62, 97, 10, 65, 67, 10, 62, 98, 10, 71, 71] 100 12 = none ∧
    readAllCap Fmt.fasta true .carry [62, 97, 10, 65, 67, 10, 62, 98, 10, 71, 71] 100 13 =
      some (readAll Fmt.fasta true .carry [62, 97, 10, 65, 67, 10, 62, 98, 10, 71, 71] 100) := by decide +kernel

/-! CRLF: the buffers strip a trailing carriage return from every line of a chunk when the chunk's FIRST line has
one (`_modify_for_carriage_return`), so parsing happens per chunk — it must still compose -/

theorem dropCR_of_not {l : Bytes} (h : endsCR l = false) : dropCR l = l := by rw [dropCR, h]; rfl

theorem parseLines_LF {ls : List Bytes} (h : AllLF ls) : parseLines ls = ls.map dropCR := by
  rw [List.map_congr_left (fun l hl => dropCR_of_not (h l hl)), List.map_id']
  cases ls with
  | nil => rfl
  | cons l t => rw [parseLines, h l (List.mem_cons_self ..)]; rfl

theorem parseLines_CRLF {ls : List Bytes} (h : ∀ l ∈ ls.dropLast, endsCR l = true) : parseLines ls = ls.map dropCR := by
  cases ls with
  | nil => rfl
  | cons l t =>
    rw [parseLines]
    cases t with
    | nil =>
      split
      · rfl
      · next hl => rw [List.map_singleton, dropCR_of_not (Bool.eq_false_iff.mpr hl)]
    | cons l' t' => rw [if_pos (h l (List.mem_cons_self ..))]

theorem crlf_chunks_LF {cs : List (List Bytes)} (hA : AllLF cs.flatten) :
    (cs.map parseLines).flatten = cs.flatten.map dropCR := by
  rw [List.map_flatten, List.map_congr_left fun c hc => parseLines_LF fun l hl => hA l (List.mem_flatten.mpr ⟨c, hc, hl⟩)]

theorem crlf_chunks_CRLF : ∀ (cs : List (List Bytes)), (∀ c ∈ cs, c ≠ []) →
    (∀ l ∈ cs.flatten.dropLast, endsCR l = true) → (cs.map parseLines).flatten = cs.flatten.map dropCR := by
  intro cs
  induction cs with
  | nil => exact fun _ _ => rfl
  | cons c cs ih =>
    intro hne h
    obtain ⟨-, hcs⟩ := List.forall_mem_cons.mp hne
    rw [List.flatten_cons] at h
    rw [List.map_cons, List.flatten_cons, List.flatten_cons, List.map_append]
    by_cases hf : cs.flatten = []
    · -- `c` is the last chunk: only its last line may lack the carriage return
      rw [hf, List.append_nil] at h
      rw [parseLines_CRLF h, ih hcs (by rw [hf]; nofun)]
    · -- every line of `c` ends with one, and the rest is again such a text
      rw [List.dropLast_append_of_ne_nil hf] at h
      rw [parseLines_CRLF fun l hl => h l (List.mem_append_left _ (List.dropLast_subset c hl)),
        ih hcs fun l hl => h l (List.mem_append_right _ hl)]

/-- per-chunk stripping composes: for a file whose lines all end with LF, or all with CRLF (the last possibly
unterminated), stripping per chunk and concatenating is stripping the whole file -/
theorem crlf_chunks (n : Nat) (hn : 0 < n) (mode : Mode) (file : Bytes) (hwf : n ∣ countNL (norm file)) (k : Nat) (hk : 0 < k)
    (hU : AllLF (linesOf (norm file)) ∨ AllCRLF (linesOf (norm file))) :
    ((readAll (Fmt.kLine n) true mode file k).map (fun c => parseLines (linesOf c))).flatten = parseLines (linesOf (norm file)) := by
  obtain ⟨hflat, hall⟩ := readAll_bytes_kLine n hn mode file hwf k hk
  have hl := lines_chunks _ fun c hc => ⟨(hall c hc).1, (hall c hc).2.1⟩
  rw [hflat] at hl
  -- two maps, so that `lines_chunks` speaks of the inner one
  show (List.map (parseLines ∘ linesOf) _).flatten = _
  rw [← List.map_map]
  rcases hU with hA | ⟨init, last, e, hi⟩
  · rw [crlf_chunks_LF (hl ▸ hA), hl, parseLines_LF hA]
  · have hd : ∀ l ∈ (linesOf (norm file)).dropLast, endsCR l = true := by rwa [e, List.dropLast_concat]
    have hne : ∀ c ∈ (readAll (Fmt.kLine n) true mode file k).map linesOf, c ≠ [] := by
      intro c hc
      obtain ⟨b, hb, rfl⟩ := List.mem_map.mp hc
      exact linesOf_ne_nil b (hall b hb).1
    rw [crlf_chunks_CRLF _ hne (hl ▸ hd), hl, parseLines_CRLF hd]

/-- mixed line ends are outside the property ({LF, CRLF}); there the per-chunk rule IS chunk dependent -/
theorem crlf_mixed_chunk_dependent :
    parseLines [[97], [98, 13]] = [[97], [98, 13]] ∧ ([[[97]], [[98, 13]]].map parseLines).flatten = [[97], [98]] := by decide +kernel

end C01
