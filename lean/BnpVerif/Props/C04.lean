import BnpVerif.Props.C04Core
import BnpVerif.Props.C04Walk
import BnpVerif.Props.C04Build
import BnpVerif.Props.C04KLine
import BnpVerif.Props.C04Eager
import BnpVerif.Props.C04Sam
import BnpVerif.Props.C04Bam
import BnpVerif.Props.C04Cr
import BnpVerif.Props.C04Laws
import BnpVerif.Props.C04Write
import BnpVerif.Props.C04Fields
/-! C04 — unmodified records and fields are written back byte for byte. The audited theorems are listed in `Audit/C04.lean`.
* `C04Core`: the extractor refines "a list of records" (selection, concatenation, compaction, programs, field / rest-of-line /
  tag texts as functions of the record), soundness of the invariant checker, the BAM extractor, refutation of the shipped
  record-end and rest-of-line rules (`buildOld_unsound`, `restOld_unsound`). `C04Laws`: the index semantics in list vocabulary,
  algebraic laws. `C04Write`: modified writes (`Ext.writeModified`, `writeRowsModified`).
  `C04Eager`: tables without `concatenate` (the driver's `evalTab`).
* `C04Walk`: format-independent: extractors laid out block after block, `inv_of_walk`, `passthrough_map`.
* `C04Build`: the dump of a table, its delimiter tables, `buildDelimited_eq`. `C04Cr`: one line inside a file, the
  carriage-return rules, and what the delimited extractor denotes (LF / CRLF / mixed): records, every column, rest of line.
* `C04KLine`, `C04Sam`, `C04Bam`: for FASTQ / two-line FASTA, SAM, BAM what the builder returns on a dumped file, its invariant,
  its records and the pass-through of every program (the field texts are in `C04Fields`; BAM has no field tables).
* `C04Fields`: source-level field texts of the k-line formats and of SAM (columns and tags), and the passage of the k-line
  texts through programs. -/
