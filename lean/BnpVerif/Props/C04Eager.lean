import BnpVerif.Props.C04Core

/-! C04 — tables whose buffer has no `concatenate` (FASTQ, two-line FASTA): after any program of
selections and (eager) concatenations every entry-type field still carries the original text of the
selected source records. -/
namespace C04
open PyIdx

/-- the entry-type fields of an abstract record -/
def Rec.entry (fidx : List Nat) (r : Rec) : List Bytes := fidx.map r.field

theorem entryRows_abs (fidx : List Nat) (e : Ext) (h : WF e) : e.entryRows fidx = e.abs.map (Rec.entry fidx) := by
  rw [Ext.entryRows, transposeRows, ← abs_length e h.1]
  refine List.ext_getElem (by simp only [List.length_map, List.length_range]) fun i h1 _ => ?_
  rw [List.length_map, List.length_range] at h1
  simp only [List.getElem_map, List.getElem_range, Rec.entry, List.map_map]
  refine List.map_congr_left fun j _ => ?_
  simp only [Function.comp, field_text e h j, List.getD_eq_getElem?_getD, List.getElem?_map, List.getElem?_eq_getElem h1,
    Option.map_some, Option.getD_some]

/-- a table that is still an extractor satisfies the invariant; rows of texts carry none -/
def TabInv : Tab → Prop
  | .lz e => Inv e
  | .eg _ => True

theorem concat_rows (fidx : List Nat) (es : List Ext) (h : ∀ e ∈ es, WF e) :
    (Ext.concat es).entryRows fidx = (es.map (·.entryRows fidx)).flatten := by
  rw [entryRows_abs fidx _ (wf_concat es h), concat_refines es h, List.map_flatten, List.map_map]
  exact congrArg List.flatten (List.map_congr_left fun e he => (entryRows_abs fidx e (h e he)).symm)

theorem index_rows (fidx : List Nat) (e : Ext) (h : WF e) (ix : Idx) :
    (e.index ix).map (·.entryRows fidx) = pyIndex (e.entryRows fidx) ix := by
  rw [entryRows_abs fidx e h, pyIndex_map, ← select_refines e h.1, Option.map_map]
  cases hi : e.index ix with
  | none => rfl
  | some e' => exact congrArg some (entryRows_abs fidx e' (index_inv e h ix e' hi).1)

theorem touch_rows (fidx : List Nat) (e : Ext) (h : Inv e) : e.touch.entryRows fidx = e.entryRows fidx := by
  rw [entryRows_abs fidx _ (inv_touch e h).1, touch_abs e h.1, entryRows_abs fidx e h.1]

/-- the eager fallback forgets the extractor, not what it shows: the table a program yields is the extractor `evalExt` yields
(which concatenates as `Ext.concat` would), or that extractor's rows of entry-type field texts -/
theorem evalTab_ext (canCat : Bool) (fidx : List Nat) (tabs : List Ext) (ht : ∀ t ∈ tabs, Inv t) (p : Prog) :
    p.evalTab canCat fidx tabs = (p.evalExt tabs).map Tab.lz ∨
      p.evalTab canCat fidx tabs = (p.evalExt tabs).map (fun e => Tab.eg (e.entryRows fidx)) := by
  induction p with
  | leaf k => exact .inl rfl
  | sel p ix ih =>
    simp only [Prog.evalTab, Prog.evalExt]
    cases hp : p.evalExt tabs with
    | none => rcases ih with ih | ih <;> rw [ih, hp] <;> exact .inl rfl
    | some e =>
      rcases ih with ih | ih <;> rw [ih, hp]
      · exact .inl rfl
      · refine .inr ?_
        simp only [Option.map_some, Option.bind_some, ← index_rows fidx e ((program_abs tabs ht p).1 e hp).1 ix, Option.map_map]
        rfl
  | cat p q ihp ihq =>
    simp only [Prog.evalTab, Prog.evalExt]
    cases hp : p.evalExt tabs with
    | none => rcases ihp with ih | ih <;> rw [ih, hp] <;> exact .inl rfl
    | some a =>
      cases hq : q.evalExt tabs with
      | none => rcases ihp with ih | ih <;> rcases ihq with ih' | ih' <;> rw [ih, ih', hp, hq] <;> exact .inl rfl
      | some b =>
        have hall : ∀ e ∈ [a, b], WF e := List.forall_mem_cons.mpr
          ⟨((program_abs tabs ht p).1 a hp).1, List.forall_mem_cons.mpr ⟨((program_abs tabs ht q).1 b hq).1, nofun⟩⟩
        have hr : some (Tab.eg (a.entryRows fidx ++ b.entryRows fidx)) = some (Tab.eg ((Ext.concat [a, b]).entryRows fidx)) := by
          rw [concat_rows fidx _ hall]
          exact congrArg (fun x => some (Tab.eg (a.entryRows fidx ++ x))) (List.append_nil _).symm
        rcases ihp with ih | ih <;> rcases ihq with ih' | ih' <;> rw [ih, ih', hp, hq]
        · cases canCat
          · exact .inr hr
          · exact .inl rfl
        all_goals exact .inr hr
  | catRange a n =>
    simp only [Prog.evalTab, Prog.evalExt]
    split
    · cases canCat
      · exact .inr (congrArg (some ∘ Tab.eg) (concat_rows fidx _ fun e he => (ht e (mem_take_drop _ _ _ _ he)).1).symm)
      · exact .inl rfl
    · exact .inl rfl
  | touch p ih =>
    simp only [Prog.evalTab, Prog.evalExt]
    cases hp : p.evalExt tabs with
    | none => rcases ih with ih | ih <;> rw [ih, hp] <;> exact .inl rfl
    | some e =>
      rcases ih with ih | ih <;> rw [ih, hp]
      · exact .inl rfl
      · exact .inr (congrArg (some ∘ Tab.eg) (touch_rows fidx e ((program_abs tabs ht p).1 e hp)).symm)
  | seq p q ihp ihq =>
    simp only [Prog.evalTab, Prog.evalExt]
    rcases ihp with ih | ih <;> rw [ih] <;> cases p.evalExt tabs
    · exact .inl rfl
    · exact ihq
    · exact .inl rfl
    · exact ihq

/-- **C04.eager_fields** — for every program over tables whose buffer type may or may not support `concatenate`
(`canCat`), the rows of entry-type field texts of the result are those of the selected source records, in order -/
theorem eager_fields (canCat : Bool) (fidx : List Nat) (tabs : List Ext) (ht : ∀ t ∈ tabs, Inv t) (p : Prog) :
    (∀ t, p.evalTab canCat fidx tabs = some t → TabInv t) ∧
    (p.evalTab canCat fidx tabs).map (Tab.rows fidx) = (p.evalSpec (tabs.map Ext.abs)).map (·.map (Rec.entry fidx)) := by
  have hrows := program_map tabs ht p (·.entryRows fidx) (·.map (Rec.entry fidx)) fun e h _ => entryRows_abs fidx e h.1
  rcases evalTab_ext canCat fidx tabs ht p with h | h <;> rw [h, Option.map_map]
  · refine ⟨fun t ht' => ?_, hrows⟩
    obtain ⟨e, he, rfl⟩ := Option.map_eq_some_iff.mp ht'
    exact (program_abs tabs ht p).1 e he
  · refine ⟨fun t ht' => ?_, hrows⟩
    obtain ⟨e, -, rfl⟩ := Option.map_eq_some_iff.mp ht'
    trivial

def Prog.catFree : Prog → Bool
  | .leaf _ => true
  | .sel p _ => p.catFree
  | .cat _ _ => false
  | .catRange _ _ => false
  | .touch p => p.catFree
  | .seq p q => p.catFree && q.catFree

/-- **C04.evalTab_lz** — the table evaluator the driver runs is the extractor evaluator whenever no eager fallback can occur -/
theorem evalTab_lz (canCat : Bool) (fidx : List Nat) (tabs : List Ext) (p : Prog) (h : canCat = true ∨ p.catFree = true) :
    p.evalTab canCat fidx tabs = (p.evalExt tabs).map Tab.lz := by
  induction p with
  | leaf k => rfl
  | sel p ix ih =>
    simp only [Prog.evalTab, Prog.evalExt, ih h]
    cases p.evalExt tabs <;> rfl
  | cat p q ihp ihq =>
    cases h.resolve_right Bool.false_ne_true
    simp only [Prog.evalTab, Prog.evalExt, ihp (.inl rfl), ihq (.inl rfl)]
    cases p.evalExt tabs <;> cases q.evalExt tabs <;> rfl
  | catRange a n =>
    cases h.resolve_right Bool.false_ne_true
    simp only [Prog.evalTab, Prog.evalExt]
    split <;> rfl
  | touch p ih =>
    simp only [Prog.evalTab, Prog.evalExt, ih h]
    cases p.evalExt tabs <;> rfl
  | seq p q ihp ihq =>
    simp only [Prog.evalTab, Prog.evalExt, ihp (h.imp_right fun h => (Bool.and_eq_true_iff.mp h).1),
      ihq (h.imp_right fun h => (Bool.and_eq_true_iff.mp h).2)]
    cases p.evalExt tabs <;> rfl

end C04
