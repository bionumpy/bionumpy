import BnpVerif.Props.C04Cr
/-! C04 — the k-line formats (FASTQ, two-line FASTA; `OneLineBuffer`): an entry of K lines is `dumpLine 10 lines`, a "line"
whose separator is the newline itself; `CleanTable 10 K` then only says that no line contains a newline. -/
namespace C04

theorem posFrom_congr (p q : Nat → Bool) (h : ∀ b, p b = q b) (k : Nat) (l : Bytes) : posFrom p k l = posFrom q k l := by
  rw [posFrom_eq, posFrom_eq, funext h]

/-- the guard of `OneLineBuffer._modify_for_carriage_return`: `field_ends.size == 0 or field_ends[0, 0] < 1` -/
def kGuard (G : List (List Nat)) : Bool := ((G.head?).map (fun r0 => decide (r0.headD 0 < 1))).getD true

def kEnds (raw : Bytes) (K : Nat) (G : List (List Nat)) : List (List Nat) :=
  if (!kGuard G && ((G.take K).any (fun r => byteAt raw (r.headD 0 - 1) == 13))) then
    G.map (·.map (fun e => if byteAt raw (e - 1) == 13 then e - 1 else e))
  else G

/-- what `OneLineBuffer.from_raw_buffer` constructs from the dump of a list of K-line entries -/
def kExt (K : Nat) (offs : List Nat) (entries : List (List Bytes)) : Ext :=
  { data := dumpFile 10 entries,
    fStart := (startGroups 10 0 entries).map (fun r => List.zipWith (· + ·) r offs),
    fLen := List.zipWith (fun ss es => List.zipWith (fun s e => e - s) ss es)
      ((startGroups 10 0 entries).map (fun r => List.zipWith (· + ·) r offs)) (kEnds (dumpFile 10 entries) K (lineGroups 10 0 entries)),
    eStart := (startGroups 10 0 entries).map (·.headD 0),
    eEnd := (lineGroups 10 0 entries).map (fun r => r.getLastD 0 + 1),
    contiguous := true }

/-- **C04.buildKLine_eq** — `OneLineBuffer.from_raw_buffer` + `_get_buffer_extractor` + `_modify_for_carriage_return` on the dump
of any list of K-line entries, in closed form (one `have` per `let` of `buildKLine`) -/
theorem buildKLine_eq (K : Nat) (hK : 0 < K) (offs : List Nat) (entries : List (List Bytes)) (hne : entries ≠ [])
    (h : CleanTable 10 K entries) :
    buildKLine K offs (dumpFile 10 entries) = some (kExt K offs entries) := by
  have hd := posFrom_dumpFile 10 K hK entries h 0
  -- with separator 10 the delimiter test `b == 10 || b == sep` is the newline test `b == 10` of `buildKLine`
  rw [← posFrom_congr (· == 10) _ (by intro b; simp)] at hd
  have hl := lastNl_dumpFile 10 entries hne
  rw [hd] at hl
  obtain ⟨hflen, hGchunk, hSchunk, htake⟩ := dump_tables 10 K hK entries hne h
  have hnotlt : (decide ((lineGroups 10 0 entries).flatten.length < K) || K == 0) = false := by
    rw [hflen, Bool.or_eq_false_iff, decide_eq_false_iff_not, Nat.not_lt, beq_eq_false_iff_ne]
    exact ⟨Nat.le_mul_of_pos_left _ (List.length_pos_iff.mpr hne), Nat.ne_of_gt hK⟩
  have htakeall : (lineGroups 10 0 entries).flatten.take
      ((lineGroups 10 0 entries).flatten.length - (lineGroups 10 0 entries).flatten.length % K) = (lineGroups 10 0 entries).flatten := by
    rw [hflen, Nat.mul_mod_left, Nat.sub_zero, ← hflen, List.take_length]
  have hlast : (lineGroups 10 0 entries).flatten.getLastD 0 = (dumpFile 10 entries).length - 1 := by
    rw [List.getLastD_eq_getLast?, hl]; rfl
  have hdrop : (0 :: (lineGroups 10 0 entries).flatten.map (· + 1)).dropLast =
      0 :: (lineGroups 10 0 entries).flatten.dropLast.map (· + 1) := by
    have : (lineGroups 10 0 entries).flatten.map (· + 1) ≠ [] := by
      intro e; rw [List.map_eq_nil_iff.mp e] at hl; simp at hl
    rw [List.dropLast_cons_of_ne_nil this, List.map_dropLast]
  unfold buildKLine
  simp only [hd, hnotlt, htakeall, hlast, htake, hdrop, hSchunk, hGchunk, Bool.false_eq_true, if_false]
  unfold kExt kEnds kGuard
  cases (lineGroups 10 0 entries).head? <;> rfl

/-- the per-line start offsets (1 for the header character) reach at most one byte past the line's newline -/
def OffsOK (offs : List Nat) (entries : List (List Bytes)) : Prop :=
  ∀ l ∈ entries, ∀ j, j < l.length → offs.getD j 0 ≤ (l.getD j []).length + 1

/-- the CR switch of `OneLineBuffer._modify_for_carriage_return` on the dumped file -/
def kCR (K : Nat) (entries : List (List Bytes)) : Bool :=
  !kGuard (lineGroups 10 0 entries) &&
    ((lineGroups 10 0 entries).take K).any (fun r => byteAt (dumpFile 10 entries) (r.headD 0 - 1) == 13)

/-- the row built for one entry: every line starts `offs[j]` bytes in; `c`: the CR switch -/
def kRow (offs : List Nat) (c : Bool) (d : Bytes) (k : Nat) (l : List Bytes) : Row :=
  lineRow 10 (List.zipWith (· + ·) (offsFrom k l) offs) (if c then (lineDelims k l).map (cut d) else lineDelims k l) k l

theorem kExt_rows (K : Nat) (offs : List Nat) (entries : List (List Bytes)) (hne : ∀ l ∈ entries, l ≠ []) :
    LenWF (kExt K offs entries) ∧
      (kExt K offs entries).rows = walk (dumpLine 10) (kRow offs (kCR K entries) (dumpFile 10 entries)) 0 entries := by
  have hE : kEnds (dumpFile 10 entries) K (lineGroups 10 0 entries) =
      (lineGroups 10 0 entries).map (fun g => if kCR K entries then g.map (cut (dumpFile 10 entries)) else g) :=
    ite_map _ _ _
  -- from here as `expExtG_rows`: the switch a variable, every array a walk, then row by row
  unfold kExt
  rw [hE]
  generalize kCR K entries = c
  simp only [startGroups_walk, lineGroups_walk, walk_map, walk_zipWith]
  refine ⟨lenWF_walk .., (rows_walk ..).trans (walk_congr _ _ _ _ (fun l hl k => ?_) 0)⟩
  simp only [kRow, lineRow, lineStarts_closed k l (hne l hl), ← dumpLine_length 10 l k (hne l hl),
    offsFrom_headD k l (hne l hl)]

theorem kRow_fits (offs : List Nat) (c : Bool) (d : Bytes) (k : Nat) (l : List Bytes) (hne : l ≠ [])
    (ho : ∀ j, j < l.length → offs.getD j 0 ≤ (l.getD j []).length + 1) : RowFits k (dumpLine 10 l) (kRow offs c d k l) := by
  have hG := lineDelims_le 10 k l hne
  refine lineRow_fits 10 k l _ _ ?_ (fun s hs => ?_) ?_
  · have : (if c then (lineDelims k l).map (cut d) else lineDelims k l).length = l.length := by
      cases c <;> simp [lineDelims_length k l hne]
    rw [this, List.length_zipWith, offsFrom_length]
    exact Nat.min_le_left _ _
  · obtain ⟨j, hj, rfl⟩ := List.getElem_of_mem hs
    rw [List.length_zipWith, offsFrom_length] at hj
    rw [List.getElem_zipWith, ← getD_eq_getElem _ j 0, ← getD_eq_getElem offs j 0]
    have hjl := (Nat.lt_min.mp hj).1
    have := offs_bounds 10 k l j hjl
    have := ho j hjl
    omega
  · cases c with
    | false => exact hG
    | true =>
      intro e he
      obtain ⟨x, hx, rfl⟩ := List.mem_map.mp he
      exact Nat.le_trans (cut_le d x) (hG x hx)

theorem kExt_inv (K : Nat) (offs : List Nat) (entries : List (List Bytes)) (hne : ∀ l ∈ entries, l ≠ [])
    (ho : OffsOK offs entries) :
    Inv (kExt K offs entries) ∧ (kExt K offs entries).abs.map (·.raw) = entries.map (dumpLine 10) :=
  inv_of_walk (dumpLine 10) _ entries _ (kExt_rows K offs entries hne).1 rfl (kExt_rows K offs entries hne).2
    (fun l hl k => kRow_fits offs _ _ k l (hne l hl) (ho l hl))

/-- **C04.build_kline_records** — for every list of K-line entries (FASTQ: K = 4, two-line FASTA: K = 2; LF or CRLF; offsets
as `OffsOK`) the extractor `OneLineBuffer.from_raw_buffer` constructs satisfies the invariant and its records are exactly
the entries' bytes -/
theorem build_kline_records (K : Nat) (hK : 0 < K) (offs : List Nat) (entries : List (List Bytes)) (hne : entries ≠ [])
    (h : CleanTable 10 K entries) (ho : OffsOK offs entries) :
    ∃ e, buildKLine K offs (dumpFile 10 entries) = some e ∧ Inv e ∧ e.abs.map (·.raw) = entries.map (dumpLine 10) :=
  ⟨kExt K offs entries, buildKLine_eq K hK offs entries hne h, kExt_inv K offs entries (h.ne_nil hK) ho⟩

/-- **C04.passthrough_kline** — end to end for FASTQ / two-line FASTA: for every program evaluated on the pass-through
extractor (concatenation as `Ext.concat` would do it; these buffers have none, see `passthrough_kline_tab`) the bytes
handed to the writer are the selected entries' SOURCE BYTES in the selected order -/
theorem passthrough_kline (K : Nat) (hK : 0 < K) (offs : List Nat)
    (tables : List (List (List Bytes))) (hne : ∀ t ∈ tables, t ≠ []) (h : ∀ t ∈ tables, CleanTable 10 K t)
    (ho : ∀ t ∈ tables, OffsOK offs t) (p : Prog) :
    (∀ t ∈ tables, buildKLine K offs (dumpFile 10 t) = some (kExt K offs t)) ∧
    (p.evalExt (tables.map (kExt K offs))).map Ext.bytes =
      (p.evalSpec (tables.map (·.map (dumpLine 10)))).map List.flatten :=
  ⟨fun t ht => buildKLine_eq K hK offs t (hne t ht) (h t ht),
    passthrough_map (kExt K offs) _ tables (fun t ht => kExt_inv K offs t ((h t ht).ne_nil hK) (ho t ht)) p⟩

/-! a FASTQ entry with a '+name' line is four newline-free lines; the header offset 1 stays inside '@r1 d' -/
example : CleanTable 10 4 [["@r1 d".toList.map Char.toNat, "ACGT".toList.map Char.toNat, "+r1 d".toList.map Char.toNat, "IIII".toList.map Char.toNat]] := by
  repeat rw [String.toList_ofList]
  simp only [CleanTable, cleanField]; decide +kernel

example : OffsOK [1, 0, 0, 0] [["@r1 d".toList.map Char.toNat, "ACGT".toList.map Char.toNat, "+r1 d".toList.map Char.toNat, "IIII".toList.map Char.toNat]] := by
  repeat rw [String.toList_ofList]
  unfold OffsOK; decide +kernel

end C04
