import BnpVerif.Model.C16
import BnpVerif.Gen.C16
import BnpVerif.Base.PyLaws
import BnpVerif.Base.Lists
/-! C16 property theorems (listed in `Audit/C16.lean`). They rest on two facts: where each field of an encoded record sits
(`Layout`), and that a buffer holding encoded records at known positions (`Rep`) decodes there to their views. -/
namespace C16

/-! ### little-endian integers -/

theorem toLE_length (w n : Nat) : (toLE w n).length = w := by
  induction w generalizing n with
  | zero => rfl
  | succ w ih => simp [toLE, ih]

theorem fromLE_toLE (w n : Nat) (h : n < 256 ^ w) : fromLE (toLE w n) = n := by
  induction w generalizing n with
  | zero => simp at h; subst h; rfl
  | succ w ih =>
    have : n / 256 < 256 ^ w := by rwa [Nat.div_lt_iff_lt_mul (by decide)]
    simp only [toLE, fromLE, ih _ this, Nat.mod_add_div]

/-- byte `i` of the little-endian encoding is digit `i` in base 256 -/
theorem toLE_getElem? (w n i : Nat) (hi : i < w) : (toLE w n)[i]? = some (n / 256 ^ i % 256) := by
  induction w generalizing n i with
  | zero => exact absurd hi (Nat.not_lt_zero _)
  | succ w ih =>
    cases i with
    | zero => rw [Nat.pow_zero, Nat.div_one]; rfl
    | succ i =>
      rw [toLE, List.getElem?_cons_succ, ih (n / 256) i (Nat.lt_of_succ_lt_succ hi), Nat.div_div_eq_div_mul, Nat.pow_succ,
        Nat.mul_comm]

theorem toLE_lt (w n : Nat) : ∀ b ∈ toLE w n, b < 256 := by
  induction w generalizing n with
  | zero => nofun
  | succ w ih =>
    intro b hb
    rcases List.mem_cons.mp hb with h | h
    · exact h ▸ Nat.mod_lt _ (by decide)
    · exact ih _ b h

theorem fromLE_lt (bs : Bytes) (h : ∀ b ∈ bs, b < 256) : fromLE bs < 256 ^ bs.length := by
  induction bs with
  | nil => exact Nat.one_pos
  | cons b bs ih =>
    have := Nat.mul_le_mul_left 256 (Nat.succ_le_of_lt (ih fun c hc => h c (by simp [hc])))
    rw [Nat.mul_succ, Nat.add_comm] at this
    rw [fromLE, List.length_cons, Nat.pow_succ, Nat.mul_comm _ 256]
    exact Nat.lt_of_lt_of_le (Nat.add_lt_add_right (h b (by simp)) _) this

/-- with `fromLE_toLE`: `toLE w` and `fromLE` are mutually inverse between numbers below `256^w` and byte strings of length `w` -/
theorem toLE_fromLE (bs : Bytes) (h : ∀ b ∈ bs, b < 256) : toLE bs.length (fromLE bs) = bs := by
  induction bs with
  | nil => rfl
  | cons b bs ih =>
    have hb := h b (by simp)
    simp only [fromLE, List.length_cons, toLE, Nat.add_mul_mod_self_left, Nat.mod_eq_of_lt hb,
      Nat.add_mul_div_left _ _ (show 0 < 256 by decide), Nat.div_eq_of_lt hb, Nat.zero_add,
      ih (fun c hc => h c (by simp [hc]))]

theorem fromLE_append (a b : Bytes) : fromLE (a ++ b) = fromLE a + 256 ^ a.length * fromLE b := by
  induction a with
  | nil => simp [fromLE]
  | cons x a ih =>
    simp only [List.cons_append, fromLE, ih, List.length_cons, Nat.pow_succ]
    rw [Nat.mul_add, Nat.add_assoc]
    congr 2
    rw [← Nat.mul_assoc, Nat.mul_comm 256]

theorem toU32_lt (i : Int) : toU32 i < 4294967296 :=
  (Int.toNat_lt (Int.emod_nonneg _ (by decide))).2 (Int.emod_lt_of_pos _ (by decide))

theorem asI32_toU32 (i : Int) (h : inI32 i = true) : asI32 (fromLE (toLE 4 (toU32 i))) = i := by
  simp only [inI32, Bool.and_eq_true, decide_eq_true_eq] at h
  rw [fromLE_toLE 4 _ (toU32_lt i)]
  unfold asI32 toU32
  rcases Int.lt_or_le i 0 with hn | hn
  · -- the residue of a negative `i` is `i + 2^32`, at least `2^31`
    have h0 : (2147483648 : Int) ≤ i + 4294967296 := Int.add_le_add_right h.1 4294967296
    have h0' : (0 : Int) ≤ i + 4294967296 := Int.le_trans (by decide) h0
    rw [← Int.add_emod_right, Int.emod_eq_of_lt h0' (by simpa using Int.add_lt_add_right hn 4294967296),
      if_neg (by rw [Int.toNat_lt h0']; exact Int.not_lt.2 h0), Int.toNat_of_nonneg h0', Int.add_sub_cancel]
  · rw [Int.emod_eq_of_lt hn (Int.lt_trans h.2 (by decide)), if_pos ((Int.toNat_lt hn).2 h.2), Int.toNat_of_nonneg hn]

/-! ### slices -/

theorem slice_append_left (xs ys : Bytes) (a n : Nat) (h : a + n ≤ xs.length) :
    slice (xs ++ ys) a n = slice xs a n :=
  Base.take_drop_append xs ys a n h

theorem slice_prefix (xs ys : Bytes) (n : Nat) (h : n = xs.length) : slice (xs ++ ys) 0 n = xs :=
  List.take_left' h.symm

/-- `slice d a n` is `d[a], …, d[a+n-1]` -/
theorem slice_getElem? (d : Bytes) (a n i : Nat) : (slice d a n)[i]? = if i < n then d[a + i]? else none := by
  unfold slice
  rw [List.getElem?_take]
  split
  · rw [List.getElem?_drop]
  · rfl

theorem slice_length (d : Bytes) (a n : Nat) : (slice d a n).length = min n (d.length - a) := by
  simp [slice]

theorem le_length_append (a b : Bytes) : a.length ≤ (a ++ b).length :=
  List.length_append ▸ Nat.le_add_right ..

theorem slice_of_drop {d B C : Bytes} {a n : Nat} (h : d.drop a = B ++ C) (hn : B.length = n) : slice d a n = B := by
  unfold slice; rw [h, List.take_left' hn]

theorem drop_next {d B C : Bytes} {a n : Nat} (h : d.drop a = B ++ C) (hn : B.length = n) : d.drop (a + n) = C := by
  rw [← List.drop_drop, h, List.drop_left' hn]

/-! ### nibbles and CIGAR words -/

theorem and15 (x : Nat) : x &&& 15 = x % 16 := Nat.and_two_pow_sub_one_eq_mod x 4
theorem shr4 (x : Nat) : x >>> 4 = x / 16 := Nat.shiftRight_eq_div_pow x 4

/-- nibble unpacking in div/mod vocabulary: high nibble first -/
theorem unpackNibbles_divmod (bs : Bytes) : unpackNibbles bs = bs.flatMap (fun b => [b / 16 % 16, b % 16]) := by
  simp only [unpackNibbles, and15, shr4, Nat.shiftRight_zero]

/-- CIGAR words in div/mod vocabulary: op = word mod 16, length = word div 16 -/
theorem splitCigar_divmod (ws : List Nat) : splitCigar ws = (ws.map (· % 16), ws.map (· / 16)) := by
  simp only [splitCigar, and15, shr4]

theorem nibbles_divmod {hi lo : Nat} (h : lo < 16) : (hi * 16 + lo) / 16 = hi ∧ (hi * 16 + lo) % 16 = lo := by
  rw [Nat.mul_comm, Nat.mul_add_div (by decide), Nat.mul_add_mod, Nat.div_eq_of_lt h, Nat.mod_eq_of_lt h]
  exact ⟨rfl, rfl⟩

theorem nibbles_lt {hi lo m : Nat} (hh : hi < m) (hl : lo < 16) : hi * 16 + lo < m * 16 := by omega

theorem packNibbles_length (s : List Nat) : (packNibbles s).length = (s.length + 1) / 2 := by
  fun_induction packNibbles s with
  | case1 => rfl
  | case2 a => simp
  | case3 a b r ih => simp only [List.length_cons, ih, ← Nat.add_div_right _ (show 0 < 2 by decide)]

theorem packNibbles_lt (s : List Nat) (h : ∀ c ∈ s, c < 16) : ∀ x ∈ packNibbles s, x < 256 := by
  fun_induction packNibbles s with
  | case1 => nofun
  | case2 a => intro x hx; exact List.mem_singleton.mp hx ▸ Nat.mul_lt_mul_of_pos_right (h a (by simp)) (by decide)
  | case3 a b r ih =>
    intro x hx
    rcases List.mem_cons.mp hx with hx | hx
    · rw [hx]; exact nibbles_lt (m := 16) (h a (by simp)) (h b (by simp))
    · exact ih (fun c hc => h c (by simp [hc])) x hx

theorem unpack_pack (s : List Nat) (h : ∀ c ∈ s, c < 16) :
    (unpackNibbles (packNibbles s)).take s.length = s := by
  rw [unpackNibbles_divmod]
  fun_induction packNibbles s with
  | case1 => rfl
  | case2 a =>
    show [a * 16 / 16 % 16] = [a]
    rw [Nat.mul_div_cancel _ (by decide), Nat.mod_eq_of_lt (h a (by simp))]
  | case3 a b r ih =>
    have hb := nibbles_divmod (hi := a) (h b (by simp))
    show (a * 16 + b) / 16 % 16 :: (a * 16 + b) % 16 :: List.take r.length (List.flatMap _ (packNibbles r)) = _
    rw [hb.1, hb.2, Nat.mod_eq_of_lt (h a (by simp)), ih fun c hc => h c (by simp [hc])]

theorem cigarWords_length (c : List (Nat × Nat)) : (cigarWords c).length = 4 * c.length := by
  induction c with
  | nil => rfl
  | cons p c ih =>
    rw [show cigarWords (p :: c) = toLE 4 _ ++ cigarWords c from rfl, List.length_append, toLE_length, ih,
      List.length_cons, Nat.mul_succ, Nat.add_comm]

theorem cigarWords_lt (c : List (Nat × Nat)) : ∀ b ∈ cigarWords c, b < 256 := by
  intro b hb
  obtain ⟨p, _, hp⟩ := List.mem_flatMap.mp hb
  exact toLE_lt 4 _ b hp

theorem cigar_roundtrip (c : List (Nat × Nat)) (h : ∀ p ∈ c, p.1 < 16 ∧ p.2 < 268435456) :
    (words (cigarWords c)).map (fun w => (w % 16, w / 16)) = c := by
  induction c with
  | nil => rfl
  | cons p c ih =>
    have hp := h p (by simp)
    have hw : words (cigarWords (p :: c)) = fromLE (toLE 4 (p.2 * 16 + p.1)) :: words (cigarWords c) := rfl
    have hn := nibbles_divmod (hi := p.2) hp.1
    rw [hw, fromLE_toLE 4 _ (nibbles_lt hp.2 hp.1), List.map_cons, ih fun q hq => h q (by simp [hq]), hn.1, hn.2]

/-- byte `i` of the packed sequence holds codes `2i` (high) and `2i+1` (low, 0 when the length is odd) -/
theorem packNibbles_getElem? (s : List Nat) : ∀ i, 2 * i < s.length →
    (packNibbles s)[i]? = some ((s[2 * i]?).getD 0 * 16 + (s[2 * i + 1]?).getD 0) := by
  fun_induction packNibbles s with
  | case1 => intro i h; exact absurd h (Nat.not_lt_zero _)
  | case2 a =>
    intro i h
    cases i with
    | zero => rfl
    | succ i => exact absurd h (by rw [Nat.mul_succ]; exact Nat.not_lt.2 (Nat.le_add_left ..))
  | case3 a b r ih =>
    intro i h
    cases i with
    | zero => rfl
    | succ i =>
      rw [Nat.mul_succ] at h ⊢
      exact ih i (Nat.lt_of_add_lt_add_right h)

/-! ### one record -/

structure ValidFacts (nref : Nat) (r : Rec) : Prop where
  ref_hi : r.refID < (nref : Int)
  refI : inI32 r.refID = true
  posI : inI32 r.pos = true
  flag : r.flag < 65536
  ncig : r.cigar.length < 65536
  cig : ∀ p ∈ r.cigar, p.1 < 16 ∧ p.2 < 268435456
  lseq : r.seq.length < 2147483648
  seq : ∀ c ∈ r.seq, c < 16
  qual : r.qual.length = r.seq.length
  block : 32 + (varPart r).length < 4294967296

theorem valid_facts {nref : Nat} {r : Rec} (hv : valid nref r = true) : ValidFacts nref r := by
  simp only [valid, Bool.and_eq_true, decide_eq_true_eq, List.all_eq_true] at hv
  obtain ⟨⟨⟨⟨⟨⟨⟨⟨⟨hr2, hrI⟩, hpI⟩, hfl⟩, hcl⟩, hca⟩, hsl⟩, hsa⟩, hql⟩, hbs⟩ := hv
  exact ⟨hr2, hrI, hpI, hfl, hcl, hca, hsl, hsa, hql, hbs⟩

theorem fixedPart_length (r : Rec) : (fixedPart r).length = 36 := by
  simp only [fixedPart, List.length_append, toLE_length, List.length_cons, List.length_nil]

theorem encodeRec_length (r : Rec) : (encodeRec r).length = 36 + (varPart r).length := by
  rw [encodeRec, List.length_append, fixedPart_length]

/-- where the fields of a record sit in its encoding `e` (SAMv1 §4.2), at the offsets the decoders compute -/
structure Layout (r : Rec) (e : Bytes) : Prop where
  ref : slice e 4 4 = toLE 4 (toU32 r.refID)
  pos : slice e 8 4 = toLE 4 (toU32 r.pos)
  lname : byteAt e 12 = r.name.length + 1
  mapq : byteAt e 13 = r.mapq
  bin : slice e 14 2 = toLE 2 r.bin
  ncig : slice e 16 2 = toLE 2 r.cigar.length
  flag : slice e 18 2 = toLE 2 r.flag
  lseq : slice e 20 4 = toLE 4 r.seq.length
  nref : slice e 24 4 = toLE 4 (toU32 r.nextRef)
  npos : slice e 28 4 = toLE 4 (toU32 r.nextPos)
  tlen : slice e 32 4 = toLE 4 (toU32 r.tlen)
  name : slice e 36 r.name.length = r.name
  cigar : slice e (36 + (r.name.length + 1)) (4 * r.cigar.length) = cigarWords r.cigar
  seq : slice e (36 + (r.name.length + 1) + 4 * r.cigar.length) ((r.seq.length + 1) / 2) = packNibbles r.seq
  qual : slice e (36 + (r.name.length + 1) + 4 * r.cigar.length + (r.seq.length + 1) / 2) r.seq.length = r.qual
  tags : slice e (36 + (r.name.length + 1) + 4 * r.cigar.length + (r.seq.length + 1) / 2 + r.seq.length) r.tags.length = r.tags

theorem byteAt_of_drop {d C : Bytes} {a b : Nat} (h : d.drop a = b :: C) : byteAt d a = b := by
  rw [byteAt, ← Nat.add_zero a, ← List.getElem?_drop, h]; rfl

/-- walk through the encoding field by field -/
theorem encodeRec_layout (r : Rec) (hq : r.qual.length = r.seq.length) (post : Bytes) : Layout r (encodeRec r ++ post) := by
  obtain ⟨e, he⟩ : ∃ e, e = encodeRec r ++ post := ⟨_, rfl⟩
  rw [← he]
  simp only [encodeRec, fixedPart, varPart, List.append_assoc] at he
  have h0 : e.drop 0 = _ := he
  have h4 := drop_next h0 (toLE_length 4 _)
  have h8 := drop_next h4 (toLE_length 4 _)
  have h12 := drop_next h8 (toLE_length 4 _)
  have h14 := drop_next h12 rfl
  have h16 := drop_next h14 (toLE_length 2 _)
  have h18 := drop_next h16 (toLE_length 2 _)
  have h20 := drop_next h18 (toLE_length 2 _)
  have h24 := drop_next h20 (toLE_length 4 _)
  have h28 := drop_next h24 (toLE_length 4 _)
  have h32 := drop_next h28 (toLE_length 4 _)
  have hn := drop_next h32 (toLE_length 4 _)
  -- past the name and its NUL, in the decoders' shape `36 + l_read_name`
  have hc := Nat.add_assoc 36 _ 1 ▸ drop_next (drop_next hn rfl) rfl
  have hs := drop_next hc (cigarWords_length _)
  have hq' := drop_next hs (packNibbles_length _)
  exact ⟨slice_of_drop h4 (toLE_length 4 _), slice_of_drop h8 (toLE_length 4 _),
    byteAt_of_drop h12, byteAt_of_drop (drop_next (B := [_]) h12 rfl), slice_of_drop h14 (toLE_length 2 _),
    slice_of_drop h16 (toLE_length 2 _), slice_of_drop h18 (toLE_length 2 _), slice_of_drop h20 (toLE_length 4 _),
    slice_of_drop h24 (toLE_length 4 _), slice_of_drop h28 (toLE_length 4 _), slice_of_drop h32 (toLE_length 4 _),
    slice_of_drop hn rfl, slice_of_drop hc (cigarWords_length _), slice_of_drop hs (packNibbles_length _),
    slice_of_drop hq' hq, slice_of_drop (drop_next hq' hq) rfl⟩

theorem splitCigar_cigarWords (c : List (Nat × Nat)) (h : ∀ p ∈ c, p.1 < 16 ∧ p.2 < 268435456) :
    splitCigar (words (cigarWords c)) = (c.map (·.1), c.map (·.2)) := by
  conv => rhs; rw [← cigar_roundtrip c h]
  simp only [splitCigar_divmod, List.map_map]; rfl

theorem asI32_toNat {n : Nat} (h : n < 2147483648) : (asI32 n).toNat = n := by
  rw [asI32, if_pos h]; rfl

theorem chromNew_spec (names : List Bytes) (ref : Int) (h : ref < (names.length : Int)) :
    chromNew names ref = (specChrom names ref).getD star := by
  unfold chromNew specChrom
  split
  · simp
  · have hlt : ref.toNat < names.length := (Int.toNat_lt (Int.not_lt.1 ‹_›)).2 h
    rw [List.getElem?_append_left hlt, List.getElem?_eq_getElem hlt]; rfl

theorem decodeRel_encode (names : List Bytes) (r : Rec) (hv : valid names.length r = true) (post : Bytes) :
    decodeRel false false names (encodeRec r ++ post) = view names r := by
  have F := valid_facts hv
  have L := encodeRec_layout r F.qual post
  -- `cigarStart - 1 - nameStart` of `decodeRel`
  have e1 : 36 + (r.name.length + 1) - 1 - 36 = r.name.length := Nat.add_sub_cancel_left ..
  -- `cigarBytes` is `n * 4`, the layout has `4 * n`
  simp only [decodeRel, L.ref, L.pos, L.lname, L.mapq, L.ncig, L.flag, L.lseq, asI32_toU32 _ F.refI, asI32_toU32 _ F.posI,
    fromLE_toLE 2 _ F.ncig, fromLE_toLE 2 _ F.flag, fromLE_toLE 4 _ (Nat.lt_trans F.lseq (by decide)), asI32_toNat F.lseq,
    cigarBytes, chromOf, Bool.false_eq_true, if_false, Nat.mul_comm _ 4, Nat.add_sub_cancel_left, e1,
    L.name, L.cigar, L.seq, L.qual, splitCigar_cigarWords _ F.cig, unpack_pack _ F.seq, chromNew_spec _ _ F.ref_hi]
  rfl

/-- the rule the code shipped with (`n_cigar_op * 4` evaluated in uint16) is unsound from 16384
CIGAR operations on: the CIGAR is taken to be empty and the sequence is read from the CIGAR bytes. -/
theorem cigarBytesOld_unsound : cigarBytes true 16384 = 0 ∧ cigarBytes false 16384 = 65536 := by decide +kernel

/-! ### the encoder is faithful -/

structure SpecFacts (nref : Nat) (r : Rec) : Prop extends ValidFacts nref r where
  mapq : r.mapq < 256
  bin : r.bin < 65536
  nrefI : inI32 r.nextRef = true
  nposI : inI32 r.nextPos = true
  tlenI : inI32 r.tlen = true
  lname : r.name.length ≤ 254
  name : ∀ b ∈ r.name, b < 256
  qualB : ∀ q ∈ r.qual, q < 256
  tags : ∀ q ∈ r.tags, q < 256

theorem specValid_facts {nref : Nat} {r : Rec} (h : specValid nref r = true) : SpecFacts nref r := by
  simp only [specValid, Bool.and_eq_true, decide_eq_true_eq, List.all_eq_true] at h
  obtain ⟨⟨⟨⟨⟨⟨⟨⟨⟨⟨⟨⟨hv, _⟩, hmq⟩, hbin⟩, hnr⟩, hnp⟩, htl⟩, _⟩, hn2⟩, hnm⟩, _⟩, hq⟩, ht⟩ := h
  exact ⟨valid_facts hv, hmq, hbin, hnr, hnp, htl, hn2, fun b hb => (hnm b hb).2, hq, ht⟩

/-- for a record the specification allows, the encoder emits real bytes -/
theorem encodeRec_bytes (nref : Nat) (r : Rec) (h : specValid nref r = true) : ∀ b ∈ encodeRec r, b < 256 := by
  have S := specValid_facts h
  simp only [encodeRec, fixedPart, varPart, List.forall_mem_append, List.forall_mem_cons, List.not_mem_nil, false_imp_iff,
    implies_true, and_true]
  exact ⟨⟨toLE_lt _ _, toLE_lt _ _, toLE_lt _ _, ⟨Nat.succ_lt_succ (Nat.lt_succ_of_le S.lname), S.mapq⟩, toLE_lt _ _, toLE_lt _ _,
    toLE_lt _ _, toLE_lt _ _, toLE_lt _ _, toLE_lt _ _, toLE_lt _ _⟩, S.name, by decide, cigarWords_lt _, packNibbles_lt _ S.seq,
    S.qualB, S.tags⟩

theorem varPart_length (r : Rec) (hq : r.qual.length = r.seq.length) :
    (varPart r).length = (r.name.length + 1) + 4 * r.cigar.length + (r.seq.length + 1) / 2 + r.seq.length + r.tags.length := by
  simp only [varPart, List.length_append, cigarWords_length, packNibbles_length, hq, List.length_singleton, Nat.add_assoc]

/-- **the encoder loses nothing**: the complete spec-level decoder recovers every field (bin, mate fields, tlen, tags
included) and hands back the bytes that follow -/
theorem decodeFull_encode (nref : Nat) (r : Rec) (h : specValid nref r = true) (post : Bytes) :
    decodeFull (encodeRec r ++ post) = some (r, post) := by
  have S := specValid_facts h
  have hb : fromLE (slice (encodeRec r ++ post) 0 4) = 32 + (varPart r).length := fromLE_toLE 4 _ S.block
  have hsz : 4 + (32 + (varPart r).length) = (encodeRec r).length := by rw [encodeRec_length, ← Nat.add_assoc]
  have hT : (encodeRec r).length = 36 + (r.name.length + 1) + 4 * r.cigar.length + (r.seq.length + 1) / 2 + r.seq.length
      + r.tags.length := by rw [encodeRec_length, varPart_length r S.qual]; simp only [Nat.add_assoc]
  -- `decodeFull` works on `d.take (4 + block_size)`, here `encodeRec r` alone
  have L := List.append_nil _ ▸ encodeRec_layout r S.qual []
  unfold decodeFull
  -- its guards: 36 bytes; block ≥ 32 and present; name not empty and the fields fit the block (`hT`: exactly)
  rw [if_neg (by rw [List.length_append, encodeRec_length, Nat.add_assoc]; exact Nat.not_lt.2 (Nat.le_add_right ..))]
  simp only [hb, hsz, List.length_append]
  rw [if_neg (by simp only [Bool.or_eq_true, decide_eq_true_eq, not_or, Nat.not_lt]
                 exact ⟨Nat.le_add_right .., Nat.le_add_right ..⟩)]
  simp only [List.take_left, List.drop_left, L.lname, L.ncig, L.lseq, fromLE_toLE 2 _ S.ncig,
    fromLE_toLE 4 _ (Nat.lt_trans S.lseq (by decide))]
  rw [if_neg (by simp only [Bool.or_eq_true, decide_eq_true_eq, not_or, Nat.not_lt]
                 exact ⟨Nat.succ_ne_zero _, hT ▸ Nat.le_add_right ..⟩)]
  simp only [hT, Nat.add_sub_cancel_left, L.ref, L.pos, L.mapq, L.bin, L.flag, L.nref, L.npos, L.tlen, L.name, L.cigar, L.seq,
    L.qual, L.tags, asI32_toU32 _ S.refI, asI32_toU32 _ S.posI, asI32_toU32 _ S.nrefI, asI32_toU32 _ S.nposI,
    asI32_toU32 _ S.tlenI, fromLE_toLE 2 _ S.bin, fromLE_toLE 2 _ S.flag, Nat.add_sub_cancel, cigar_roundtrip _ S.cig,
    unpack_pack _ S.seq]

/-- unique parsing: an encoded record followed by anything determines the record and what follows -/
theorem encodeRec_prefix_free (nref : Nat) (r1 r2 : Rec) (h1 : specValid nref r1 = true) (h2 : specValid nref r2 = true)
    (p1 p2 : Bytes) (h : encodeRec r1 ++ p1 = encodeRec r2 ++ p2) : r1 = r2 ∧ p1 = p2 := by
  have a := decodeFull_encode nref r1 h1 p1
  rw [h, decodeFull_encode nref r2 h2 p2] at a
  simp only [Option.some.injEq, Prod.mk.injEq] at a
  exact ⟨a.1.symm, a.2.symm⟩

theorem encodeRec_injective (nref : Nat) (r1 r2 : Rec) (h1 : specValid nref r1 = true) (h2 : specValid nref r2 = true)
    (h : encodeRec r1 = encodeRec r2) : r1 = r2 :=
  (encodeRec_prefix_free nref r1 r2 h1 h2 [] [] (by rw [h])).1

theorem encodeAll_cons (r : Rec) (rs : List Rec) : encodeAll (r :: rs) = encodeRec r ++ encodeAll rs := rfl

theorem encodeAll_append (a b : List Rec) : encodeAll (a ++ b) = encodeAll a ++ encodeAll b :=
  List.flatMap_append

theorem encodeRec_pos (r : Rec) : 0 < (encodeRec r).length :=
  encodeRec_length r ▸ Nat.add_pos_left (by decide) _

theorem decodeFullAll_encode (nref : Nat) (recs : List Rec) (h : ∀ r ∈ recs, specValid nref r = true) :
    ∀ fuel, recs.length < fuel → decodeFullAll fuel (encodeAll recs) = some recs := by
  induction recs with
  | nil => intro fuel hf; obtain ⟨f, rfl⟩ := Nat.exists_eq_add_one_of_ne_zero (Nat.ne_of_gt hf); rfl
  | cons r rs ih =>
    intro fuel hf
    obtain ⟨f, rfl⟩ := Nat.exists_eq_add_one_of_ne_zero (Nat.ne_of_gt (Nat.lt_of_le_of_lt (Nat.zero_le _) hf))
    simp only [decodeFullAll, encodeAll_cons,
      decodeFull_encode nref r (h r (by simp)), ih (fun q hq => h q (by simp [hq])) f (Nat.lt_of_succ_lt_succ hf)]
    rfl

theorem encodeAll_injective (nref : Nat) (a b : List Rec) (ha : ∀ r ∈ a, specValid nref r = true)
    (hb : ∀ r ∈ b, specValid nref r = true) (h : encodeAll a = encodeAll b) : a = b := by
  have h1 := decodeFullAll_encode nref a ha (a.length + b.length + 1) (by omega)
  have h2 := decodeFullAll_encode nref b hb (a.length + b.length + 1) (by omega)
  rw [h, h2] at h1
  exact (Option.some.inj h1).symm

/-! ### record boundaries (`_find_starts`) -/

/-- the record boundaries the specification defines: running sums of record sizes -/
def bounds (s : Nat) : List Rec → List Nat
  | [] => [s]
  | r :: rs => s :: bounds (s + (encodeRec r).length) rs

def startsOf (s : Nat) : List Rec → List Nat
  | [] => []
  | r :: rs => s :: startsOf (s + (encodeRec r).length) rs

/-- trailing bytes at which the chain stops: shorter than the block they announce
(an incomplete record, nothing, or the newline the reader appends) -/
def Stops (tail : Bytes) : Prop := tail.length < fromLE (slice tail 0 4) + 4

theorem stops_nil : Stops [] := by unfold Stops; decide +kernel
theorem stops_newline : Stops [10] := by unfold Stops; decide +kernel

theorem addNewline_stops (a : Bytes) : ∃ tail, Stops tail ∧ addNewline a = a ++ tail := by
  unfold addNewline
  split
  · exact ⟨[], stops_nil, (List.append_nil a).symm⟩
  · exact ⟨[10], stops_newline, rfl⟩

theorem bounds_eq (recs : List Rec) : ∀ s, bounds s recs = startsOf s recs ++ [s + (encodeAll recs).length] := by
  induction recs with
  | nil => intro s; rfl
  | cons r rs ih => intro s; rw [bounds, ih, encodeAll_cons, List.length_append, Nat.add_assoc]; rfl

theorem bounds_getLast (recs : List Rec) (s : Nat) : (bounds s recs).getLast? = some (s + (encodeAll recs).length) := by
  rw [bounds_eq, List.getLast?_concat]

theorem bounds_dropLast (recs : List Rec) (s : Nat) : (bounds s recs).dropLast = startsOf s recs := by
  rw [bounds_eq, List.dropLast_concat]

theorem startsOf_length (recs : List Rec) : ∀ s, (startsOf s recs).length = recs.length := by
  induction recs with
  | nil => intro s; rfl
  | cons r rs ih => intro s; rw [startsOf, List.length_cons, ih, List.length_cons]

/-- record boundaries are the prefix sums of the record sizes -/
theorem bounds_prefix_sums (recs : List Rec) (s i : Nat) (hi : i ≤ recs.length) :
    (bounds s recs)[i]? = some (s + ((recs.take i).map (fun r => (encodeRec r).length)).sum) := by
  induction recs generalizing s i with
  | nil => cases Nat.le_zero.mp hi; rfl
  | cons r rs ih =>
    cases i with
    | zero => rfl
    | succ i =>
      rw [bounds, List.getElem?_cons_succ, ih _ i (Nat.le_of_succ_le_succ hi), List.take_succ_cons, List.map_cons,
        List.sum_cons, Nat.add_assoc]

theorem block_size {nref : Nat} {r : Rec} (hv : valid nref r = true) {d rest : Bytes} {s : Nat}
    (h : d.drop s = encodeRec r ++ rest) : s + fromLE (slice d s 4) + 4 = s + (encodeRec r).length := by
  have : slice d s 4 = toLE 4 (32 + (varPart r).length) := by unfold slice; rw [h]; rfl
  rw [this, fromLE_toLE 4 _ (valid_facts hv).block, encodeRec_length, Nat.add_assoc, Nat.add_right_comm 32]

theorem findStartsAux_records (nref : Nat) (recs : List Rec) (hv : ∀ r ∈ recs, valid nref r = true) :
    ∀ {d tail : Bytes} (s fuel : Nat), d.drop s = encodeAll recs ++ tail → recs.length ≤ fuel →
      findStartsAux d fuel s = startsOf s recs ++ findStartsAux d (fuel - recs.length) (s + (encodeAll recs).length) := by
  induction recs with
  | nil => intros; rfl
  | cons r rs ih =>
    intro d tail s fuel h hf
    obtain ⟨f, rfl⟩ := Nat.exists_eq_add_one_of_ne_zero (Nat.ne_of_gt (Nat.lt_of_lt_of_le (Nat.succ_pos _) hf))
    rw [encodeAll_cons, List.append_assoc] at h
    have hs : s ≤ d.length := Nat.le_of_lt (List.length_lt_of_drop_ne_nil (h ▸ List.append_ne_nil_of_left_ne_nil
      (List.ne_nil_of_length_pos (encodeRec_pos r)) _))
    rw [findStartsAux, if_pos hs, block_size (hv r (by simp)) h,
      ih (fun q hq => hv q (by simp [hq])) _ f (drop_next h rfl) (Nat.le_of_succ_le_succ hf),
      startsOf, encodeAll_cons, List.length_append, Nat.add_assoc, List.length_cons, Nat.add_sub_add_right]
    rfl

/-- `_find_starts` on records followed by ANYTHING: exactly the record starts, then on from the end of the last record -/
theorem findStarts_chain_general (nref : Nat) (tail : Bytes) (recs : List Rec) :
    ∀ (pre : Bytes) (fuel : Nat) (d : Bytes), d = pre ++ (encodeAll recs ++ tail) →
      (∀ r ∈ recs, valid nref r = true) → recs.length ≤ fuel →
      findStartsAux d fuel pre.length
        = startsOf pre.length recs ++ findStartsAux d (fuel - recs.length) (pre.length + (encodeAll recs).length) :=
  fun _ fuel _ hd hv => findStartsAux_records nref recs hv _ fuel (hd ▸ List.drop_left)

theorem length_le_encodeAll (recs : List Rec) : recs.length ≤ (encodeAll recs).length := by
  induction recs with
  | nil => exact Nat.le_refl 0
  | cons r rs ih =>
    rw [encodeAll_cons, List.length_append, List.length_cons, Nat.add_comm]
    exact Nat.add_le_add (encodeRec_pos r) ih

theorem findStarts_records (nref : Nat) (recs : List Rec) (hv : ∀ r ∈ recs, valid nref r = true) (tail : Bytes) :
    ∃ g, findStarts (encodeAll recs ++ tail) = startsOf 0 recs ++ (encodeAll recs).length ::
      findStartsAux (encodeAll recs ++ tail) (g + 1) ((encodeAll recs).length + fromLE (slice tail 0 4) + 4) := by
  have hle : recs.length ≤ (encodeAll recs ++ tail).length :=
    Nat.le_trans (length_le_encodeAll recs) (le_length_append ..)
  -- fuel is `length + 2`: a round per record leaves the two used at their end
  have := findStartsAux_records nref recs hv (tail := tail) 0 _ rfl (Nat.le_trans hle (Nat.le_add_right _ 2))
  rw [Nat.zero_add, Nat.sub_add_comm hle] at this
  refine ⟨(encodeAll recs ++ tail).length - recs.length, this.trans (congrArg _ ?_)⟩
  rw [findStartsAux, if_pos (le_length_append ..), slice, List.drop_left]; rfl

theorem findStarts_encode (nref : Nat) (recs : List Rec) (hv : ∀ r ∈ recs, valid nref r = true) (tail : Bytes)
    (ht : Stops tail) : findStarts (encodeAll recs ++ tail) = bounds 0 recs := by
  obtain ⟨g, hg⟩ := findStarts_records nref recs hv tail
  rw [hg, findStartsAux, if_neg, bounds_eq, Nat.zero_add]
  rw [List.length_append, Nat.add_assoc, Nat.add_le_add_iff_left]
  exact Nat.not_le.2 ht

/-- for `used_bytes_iff`: a walk never ends before its starting point -/
theorem findStartsAux_last (d : Bytes) : ∀ fuel s, s ≤ d.length →
    ∃ y, (findStartsAux d (fuel + 1) s).getLast? = some y ∧ s ≤ y := by
  intro fuel
  induction fuel with
  | zero => intro s hs; exact ⟨s, by rw [findStartsAux, if_pos hs]; rfl, Nat.le_refl s⟩
  | succ f ih =>
    intro s hs
    rw [findStartsAux, if_pos hs]
    by_cases h : s + fromLE (slice d s 4) + 4 ≤ d.length
    · obtain ⟨y, hy, hle⟩ := ih _ h
      exact ⟨y, by rw [List.getLast?_cons, hy]; rfl, Nat.le_trans (Nat.le_trans (Nat.le_add_right ..) (Nat.le_add_right ..)) hle⟩
    · exact ⟨s, by rw [findStartsAux, if_neg h]; rfl, Nat.le_refl s⟩

/-! ### records in a buffer -/

/-- the buffer holds record `i` of `rs` at `starts[i]`, ending at `ends[i]` -/
inductive Rep (data : Bytes) : List Nat → List Nat → List Rec → Prop
  | nil : Rep data [] [] []
  | cons (s e : Nat) (r : Rec) (ss es : List Nat) (rs : List Rec) (post : Bytes) :
      data.drop s = encodeRec r ++ post → e = s + (encodeRec r).length → Rep data ss es rs →
      Rep data (s :: ss) (e :: es) (r :: rs)

theorem bounds_head (s : Nat) (rs : List Rec) : bounds s rs = s :: (bounds s rs).drop 1 := by
  cases rs <;> rfl

theorem rep_chunk (recs : List Rec) : ∀ {D tail : Bytes} (s : Nat), D.drop s = encodeAll recs ++ tail →
    Rep D (startsOf s recs) ((bounds s recs).drop 1) recs := by
  induction recs with
  | nil => intros; exact Rep.nil
  | cons r rs ih =>
    intro D tail s h
    rw [encodeAll_cons, List.append_assoc] at h
    rw [show (bounds s (r :: rs)).drop 1 = bounds (s + (encodeRec r).length) rs from rfl, bounds_head]
    exact Rep.cons _ _ r _ _ rs _ h rfl (ih _ (drop_next h rfl))

theorem rep_encodeAll (recs : List Rec) : Rep (encodeAll recs) (startsOf 0 recs) ((bounds 0 recs).drop 1) recs :=
  rep_chunk recs 0 (List.append_nil _).symm

theorem rep_get {data : Bytes} {ss es : List Nat} {rs : List Rec} (h : Rep data ss es rs) :
    ∀ (i : Nat) (r : Rec), rs[i]? = some r → ∃ (s : Nat) (post : Bytes), ss[i]? = some s ∧ es[i]? = some (s + (encodeRec r).length) ∧
      data.drop s = encodeRec r ++ post := by
  induction h with
  | nil => intro i r hi; cases List.getElem?_nil ▸ hi
  | cons s e r ss es rs post h1 h2 _ ih =>
    intro i r' hi
    cases i with
    | zero =>
      cases Option.some.inj (List.getElem?_cons_zero ▸ hi)
      exact ⟨s, post, List.getElem?_cons_zero, h2 ▸ List.getElem?_cons_zero, h1⟩
    | succ i => simpa only [List.getElem?_cons_succ] using ih i r' (List.getElem?_cons_succ ▸ hi)

theorem rep_records {data : Bytes} {ss es : List Nat} {rs : List Rec} (h : Rep data ss es rs) (names : List Bytes)
    (hv : ∀ r ∈ rs, valid names.length r = true) :
    ss.map (decodeAt false false names data) = rs.map (view names) := by
  induction h with
  | nil => rfl
  | cons s e r ss es rs post h1 _ _ ih =>
    rw [List.map_cons, List.map_cons, ih fun q hq => hv q (by simp [hq]), decodeAt, h1,
      decodeRel_encode names r (hv r (by simp))]

theorem ofChunk_encode (nref : Nat) (recs : List Rec) (hv : ∀ r ∈ recs, valid nref r = true) (tail : Bytes) (ht : Stops tail) :
    Ext.ofChunk (encodeAll recs ++ tail)
      = { data := encodeAll recs, starts := startsOf 0 recs, ends := (bounds 0 recs).drop 1, contig := true } := by
  simp only [Ext.ofChunk, findStarts_encode nref recs hv tail ht, bounds_getLast, bounds_dropLast, Option.getD_some,
    Nat.zero_add, List.take_left]

/-- `decodeChunk` is the extractor of the chunk, read out at once -/
theorem decodeChunk_eq_ofChunk (names : List Bytes) (chunk : Bytes) :
    decodeChunk false false names chunk = ((Ext.ofChunk chunk).records names, (findStarts chunk).getLast?.getD 0) := by
  simp only [decodeChunk, Ext.records, Ext.ofChunk]

/-- all complete records of a chunk and the number of bytes they occupy -/
theorem decodeChunk_encode (names : List Bytes) (recs : List Rec) (hv : ∀ r ∈ recs, valid names.length r = true)
    (tail : Bytes) (ht : Stops tail) :
    decodeChunk false false names (encodeAll recs ++ tail) = (recs.map (view names), (encodeAll recs).length) := by
  rw [decodeChunk_eq_ofChunk, ofChunk_encode _ recs hv tail ht, findStarts_encode _ recs hv tail ht, bounds_getLast,
    Ext.records, rep_records (rep_encodeAll recs) names hv, Nat.zero_add]
  rfl

/-- **completeness of the chunk rule**: the decoder consumes exactly the records' bytes iff what follows them stops the
chain; otherwise it reads past the records -/
theorem used_bytes_iff (names : List Bytes) (recs : List Rec) (hv : ∀ r ∈ recs, valid names.length r = true) (tail : Bytes) :
    (decodeChunk false false names (encodeAll recs ++ tail)).2 = (encodeAll recs).length ↔ Stops tail := by
  refine ⟨fun h => ?_, fun ht => by rw [decodeChunk_encode names recs hv tail ht]⟩
  -- if `tail` does not stop the chain, the walk takes a step into it and ends beyond the records
  unfold Stops
  refine Decidable.byContradiction fun hst => ?_
  obtain ⟨g, hg⟩ := findStarts_records names.length recs hv tail
  obtain ⟨y, hy, hle⟩ := findStartsAux_last (encodeAll recs ++ tail) g
    ((encodeAll recs).length + fromLE (slice tail 0 4) + 4)
    (by rw [List.length_append, Nat.add_assoc]; exact Nat.add_le_add_left (Nat.not_lt.1 hst) _)
  rw [decodeChunk, hg, List.getLast?_append, List.getLast?_cons, hy] at h
  have h' : y = (encodeAll recs).length := h
  exact absurd (h' ▸ hle) (Nat.not_le.2 (Nat.lt_of_le_of_lt (Nat.le_add_right ..) (Nat.lt_add_of_pos_right (by decide))))

/-- **C16 decode clause**: reading the whole file decodes exactly the records that were encoded (any names, CIGARs,
odd and even sequence lengths, tags) -/
theorem decode_encode (names : List Bytes) (recs : List Rec) (hv : ∀ r ∈ recs, valid names.length r = true) :
    readWhole false false names (encodeAll recs) = recs.map (view names) := by
  cases recs with
  | nil => rfl
  | cons r rs =>
    obtain ⟨tail, ht, hc⟩ := addNewline_stops (encodeAll (r :: rs))
    rw [readWhole, show (encodeAll (r :: rs)).isEmpty = false from rfl, hc, decodeChunk_encode names _ hv tail ht]; rfl

/-- bytes written for a selection (`__getitem__` + `_make_contigous`) = the encoding of the selected records
(`selectBytes` models the path in one step, `Ext.getitem` + `Ext.compact` as two steps on the extractor) -/
theorem selectBytes_encode (names : List Bytes) (recs : List Rec) (hv : ∀ r ∈ recs, valid names.length r = true)
    (tail : Bytes) (ht : Stops tail) (idx : List Nat) (hidx : ∀ i ∈ idx, i < recs.length) :
    selectBytes (encodeAll recs ++ tail) idx = encodeAll (idx.filterMap (recs[·]?)) := by
  rw [selectBytes, findStarts_encode _ recs hv tail ht]
  induction idx with
  | nil => rfl
  | cons i is ih =>
    have hi := hidx i (by simp)
    obtain ⟨s, post, h1, h2, h3⟩ := rep_get (rep_chunk recs (tail := tail) 0 rfl) i _ (List.getElem?_eq_getElem hi)
    have hs : (bounds 0 recs)[i]? = some s := by
      rw [bounds_eq, List.getElem?_append_left (by rw [startsOf_length]; exact hi)]; exact h1
    have he : (bounds 0 recs)[i + 1]? = some (s + (encodeRec recs[i]).length) := by
      rw [Nat.add_comm, ← List.getElem?_drop]; exact h2
    simp only [List.flatMap_cons, List.filterMap_cons, hs, he, List.getElem?_eq_getElem hi, Nat.add_sub_cancel_left,
      encodeAll_cons, ih fun j hj => hidx j (by simp [hj])]
    exact congrArg (· ++ _) (slice_of_drop h3 rfl)

theorem selectBytes_addNewline (names : List Bytes) (recs : List Rec) (hv : ∀ r ∈ recs, valid names.length r = true)
    (idx : List Nat) (hidx : ∀ i ∈ idx, i < recs.length) :
    selectBytes (addNewline (encodeAll recs)) idx = encodeAll (idx.filterMap (recs[·]?)) := by
  obtain ⟨tail, ht, hc⟩ := addNewline_stops (encodeAll recs)
  rw [hc, selectBytes_encode names recs hv tail ht idx hidx]

/-! `PyIdx.gather l idx` is the model's `idx.filterMap (l[·]?)`; these two are rewritten with, so they are restated in that spelling -/

theorem filterMap_getElem?_length {α} (l : List α) (idx : List Nat) (h : ∀ i ∈ idx, i < l.length) :
    (idx.filterMap (l[·]?)).length = idx.length :=
  PyIdx.gather_length l idx h

theorem range_filterMap_getElem? {α} (l : List α) : (List.range l.length).filterMap (l[·]?) = l :=
  PyIdx.gather_range l

/-- **C16 write clause**: what is written for any selection (whole, filtered, reordered, repeated)
of the records read from a file decodes to exactly the selected records. -/
theorem write_back (names : List Bytes) (recs : List Rec) (hv : ∀ r ∈ recs, valid names.length r = true)
    (idx : List Nat) (hidx : ∀ i ∈ idx, i < recs.length) :
    readWhole false false names (selectBytes (addNewline (encodeAll recs)) idx)
      = (idx.filterMap (recs[·]?)).map (view names) := by
  rw [selectBytes_addNewline names recs hv idx hidx]
  exact decode_encode names _ fun r hr => hv r (PyIdx.mem_gather _ _ _ hr)

/-! ### chunked reading (prepend mode) -/

theorem stops_prefix {nref : Nat} {r : Rec} (hv : valid nref r = true) (rest : Bytes) {m : Nat}
    (hm : m < (encodeRec r).length) : Stops ((encodeRec r ++ rest).take m) := by
  unfold Stops
  rw [List.length_take, Nat.min_eq_left (Nat.le_trans (Nat.le_of_lt hm) (le_length_append ..))]
  rcases Nat.lt_or_ge m 4 with h | h
  · exact Nat.lt_of_lt_of_le h (Nat.le_add_left ..)
  · have := block_size hv (d := encodeRec r ++ rest) (s := 0) rfl
    rw [Nat.zero_add, Nat.zero_add] at this
    rw [slice, List.drop_zero, List.take_take, Nat.min_eq_left h]
    exact this ▸ hm

/-- reader invariant: the carried bytes plus the unread bytes are exactly the encoding of the
records not yet delivered, and the carried bytes are a strict prefix of the next record -/
structure Inv (st : RState) (rem : List Rec) : Prop where
  bytes : st.prepend ++ st.rest = encodeAll rem
  short : ∀ r rs, rem = r :: rs → st.prepend.length < (encodeRec r).length
  done : rem = [] → st.prepend = []

/-- a cut anywhere: complete records, then a strict prefix of the next one, with which the reader goes on -/
theorem encodeAll_cut (nref : Nat) (rem : List Rec) (hv : ∀ r ∈ rem, valid nref r = true) : ∀ n, n ≤ (encodeAll rem).length →
    ∃ d t tail, rem = d ++ t ∧ (encodeAll rem).take n = encodeAll d ++ tail ∧ Stops tail ∧
      Inv { rest := (encodeAll rem).drop n, prepend := tail } t := by
  induction rem with
  | nil =>
    intro n hn
    cases Nat.le_zero.mp hn
    exact ⟨[], [], [], rfl, rfl, stops_nil, rfl, fun _ _ h => (List.cons_ne_nil _ _ h.symm).elim, fun _ => rfl⟩
  | cons r rs ih =>
    intro n hn
    by_cases h : n < (encodeRec r).length
    · refine ⟨[], r :: rs, _, rfl, rfl, stops_prefix (hv r (by simp)) _ h, List.take_append_drop n _, ?_, fun h => (List.cons_ne_nil _ _ h).elim⟩
      intro q qs e
      cases e
      exact List.length_take ▸ Nat.lt_of_le_of_lt (Nat.min_le_left ..) h
    · obtain ⟨m, rfl⟩ := Nat.exists_eq_add_of_le (Nat.not_lt.1 h)
      rw [encodeAll_cons, List.length_append, Nat.add_le_add_iff_left] at hn
      obtain ⟨d, t, tail, hdt, htake, hst, inv⟩ := ih (fun q hq => hv q (by simp [hq])) m hn
      refine ⟨r :: d, t, tail, by rw [hdt]; rfl, ?_, hst, ?_, inv.short, inv.done⟩
      · rw [encodeAll_cons, List.take_length_add_append, htake, encodeAll_cons, List.append_assoc]
      · rw [encodeAll_cons, List.drop_length_add_append]; exact inv.bytes

/-- **a chunk cut anywhere**: after ANY number of bytes the decoder returns exactly the records complete before the cut
(the longest such prefix) and reports their bytes as used; the partial record is left for the next read -/
theorem decodeChunk_cut (names : List Bytes) (recs : List Rec) (hv : ∀ r ∈ recs, valid names.length r = true)
    (n : Nat) (hn : n ≤ (encodeAll recs).length) :
    ∃ done todo, recs = done ++ todo ∧ (encodeAll done).length ≤ n ∧
      (∀ r rs, todo = r :: rs → n < (encodeAll done).length + (encodeRec r).length) ∧
      decodeChunk false false names ((encodeAll recs).take n) = (done.map (view names), (encodeAll done).length) := by
  obtain ⟨d, t, tail, hdt, htake, hst, inv⟩ := encodeAll_cut names.length recs hv n hn
  have hlen : n = (encodeAll d).length + tail.length := by
    have := congrArg List.length htake
    rwa [List.length_take, Nat.min_eq_left hn, List.length_append] at this
  refine ⟨d, t, hdt, hlen ▸ Nat.le_add_right .., fun r rs ht => hlen ▸ Nat.add_lt_add_left (inv.short r rs ht) _, ?_⟩
  rw [htake]
  exact decodeChunk_encode names d (fun r hr => hv r (hdt ▸ List.mem_append_left _ hr)) tail hst

theorem readChunk_end (names : List Bytes) (k : Nat) (st : RState) (rem : List Rec) (inv : Inv st rem)
    (hk : ∀ r ∈ rem, (encodeRec r).length ≤ k) (hgot : (st.rest.take k).length = 0) :
    rem = [] ∧ readChunk false false names k st = none := by
  have hrem : rem = [] := by
    cases rem with
    | nil => rfl
    | cons r rs =>
      -- nothing was read although `k > 0`, so nothing is left; but the carried bytes alone are too short for `r`
      have hk0 : k ≠ 0 := Nat.ne_of_gt (Nat.lt_of_lt_of_le (encodeRec_pos r) (hk r (by simp)))
      have hb := inv.bytes
      rw [List.take_eq_nil_iff.mp (List.eq_nil_of_length_eq_zero hgot) |>.resolve_left hk0, List.append_nil] at hb
      exact absurd (inv.short r rs rfl) (Nat.not_lt.2 (hb ▸ le_length_append ..))
  refine ⟨hrem, ?_⟩
  simp only [readChunk, hgot, inv.done hrem, List.isEmpty_nil, Bool.or_true, if_true]

/-- one successful `read_chunk` delivers a non-empty block of the remaining records, decoded, with exactly its own bytes;
then the reader is finished with nothing left, or the invariant holds for the rest -/
theorem readChunk_step (names : List Bytes) (k : Nat) (st : RState) (rem : List Rec) (inv : Inv st rem)
    (hv : ∀ r ∈ rem, valid names.length r = true) (hk : ∀ r ∈ rem, (encodeRec r).length ≤ k)
    (hgot : ¬ (st.rest.take k).length = 0) :
    ∃ d t st', rem = d ++ t ∧ d ≠ [] ∧
      readChunk false false names k st = some ((d.map (view names), encodeAll d), st') ∧
      ((st'.finished = true ∧ t = [] ∧ st'.rest = [] ∧ st'.prepend = []) ∨
       (st'.finished = false ∧ Inv st' t ∧ st'.rest.length < st.rest.length)) := by
  simp only [readChunk]
  rw [if_neg hgot]
  by_cases hkle : k ≤ st.rest.length
  · -- a full read of k bytes: complete records are delivered, the rest is carried over
    obtain ⟨d, t, tail, hdt, htake, hst, inv'⟩ := encodeAll_cut names.length rem hv (st.prepend.length + k)
      (by rw [← inv.bytes, List.length_append]; exact Nat.add_le_add_left hkle _)
    rw [← inv.bytes, List.take_length_add_append] at htake
    rw [← inv.bytes, List.drop_length_add_append] at inv'
    have hd : d ≠ [] := by
      -- otherwise the whole chunk, at least `k` bytes, would be a strict prefix of the next record
      rintro rfl
      cases t with
      | nil => exact hgot (congrArg List.length (List.append_eq_nil_iff.mp (htake.trans (inv'.done rfl))).2)
      | cons q qs =>
        have hl : (st.prepend ++ st.rest.take k).length = tail.length := congrArg List.length htake
        rw [List.length_append, List.length_take_of_le hkle] at hl
        exact Nat.lt_irrefl _ (Nat.lt_of_lt_of_le (inv'.short q qs rfl)
          (Nat.le_trans (hk q (by simp [hdt])) (hl ▸ Nat.le_add_left k _)))
    have hk0 : 0 < k := Nat.pos_of_ne_zero fun h => hgot (by rw [h]; rfl)
    refine ⟨d, t, ⟨st.rest.drop k, tail, false⟩, hdt, hd, ?_, Or.inr ⟨rfl, inv', ?_⟩⟩
    · simp only [List.length_take_of_le hkle, Nat.lt_irrefl, decide_false, Bool.false_eq_true, if_false, htake]
      rw [decodeChunk_encode names d (fun r hr => hv r (hdt ▸ List.mem_append_left _ hr)) tail hst, List.take_left,
        List.drop_left]
    · exact List.length_drop ▸ Nat.sub_lt (Nat.lt_of_lt_of_le hk0 hkle) hk0
  · -- last read: the chunk is everything that remains (plus the appended newline)
    have hle := Nat.le_of_lt (Nat.lt_of_not_le hkle)
    have hne : rem ≠ [] := by
      rintro rfl
      exact hgot (by rw [(List.append_eq_nil_iff.mp inv.bytes).2, List.take_nil]; rfl)
    obtain ⟨tail, ht, hc⟩ := addNewline_stops st.rest
    refine ⟨rem, [], ⟨[], [], true⟩, (List.append_nil _).symm, hne, ?_, Or.inl ⟨rfl, rfl, rfl, rfl⟩⟩
    simp only [List.take_of_length_le hle, List.drop_eq_nil_of_le hle, Nat.lt_of_not_le hkle, decide_true, if_true]
    rw [hc, ← List.append_assoc, inv.bytes, decodeChunk_encode names rem hv tail ht, List.take_left]

theorem readChunks_finished (names : List Bytes) (k fuel : Nat) (st : RState) (h1 : st.finished = true) (h2 : st.rest = []) :
    readChunks false false names k fuel st = [] := by
  cases fuel with
  | zero => rfl
  | succ f => simp [readChunks, readChunk, h1, h2]

/-- the chunks are the encodings of consecutive non-empty blocks of the remaining records; the loop behind `count_entries`
(one more round of fuel for its `finished` test) delivers the same -/
theorem readChunks_blocks (names : List Bytes) (k : Nat) :
    ∀ (fuel : Nat) (st : RState) (rem : List Rec), Inv st rem → (∀ r ∈ rem, valid names.length r = true) →
      (∀ r ∈ rem, (encodeRec r).length ≤ k) → st.rest.length < fuel →
      ∃ blocks : List (List Rec), blocks.flatten = rem ∧
        readChunks false false names k fuel st = blocks.map (fun d => (d.map (view names), encodeAll d)) ∧
        (st.finished = false → readChunksRaw false false names k (fuel + 1) st = readChunks false false names k fuel st) := by
  intro fuel
  induction fuel with
  | zero => intro st rem _ _ _ hf; exact absurd hf (Nat.not_lt_zero _)
  | succ fuel ih =>
    intro st rem inv hv hk hf
    by_cases hgot : (st.rest.take k).length = 0
    · obtain ⟨rfl, hnone⟩ := readChunk_end names k st rem inv hk hgot
      exact ⟨[], rfl, by simp only [readChunks, hnone, List.map_nil], fun hnf => by simp only [readChunksRaw, readChunks, hnone, hnf, Bool.false_eq_true, if_false]⟩
    · obtain ⟨d, t, st', hdt, hdne, hstep, hnext⟩ := readChunk_step names k st rem inv hv hk hgot
      have hemp : (d.map (view names)).isEmpty = false := by cases d with | nil => exact absurd rfl hdne | cons => rfl
      have hraw : st.finished = false → readChunksRaw false false names k (fuel + 1 + 1) st
          = (d.map (view names), encodeAll d) :: readChunksRaw false false names k (fuel + 1) st' := fun hnf => by
        rw [readChunksRaw, hnf, hstep]; rfl
      rw [readChunks, hstep]
      simp only [hemp, Bool.false_eq_true, if_false]
      rcases hnext with ⟨hf', ht, hr, _⟩ | ⟨hf', inv', hlt⟩
      · refine ⟨[d], by rw [hdt, ht]; rfl, by rw [readChunks_finished names k fuel st' hf' hr]; rfl, fun hnf => ?_⟩
        rw [hraw hnf, readChunks_finished names k fuel st' hf' hr, readChunksRaw, hf']; rfl
      · obtain ⟨bs, hbs, h1, h2⟩ := ih st' t inv' (fun r hr => hv r (hdt ▸ List.mem_append_right _ hr))
          (fun r hr => hk r (hdt ▸ List.mem_append_right _ hr)) (Nat.lt_of_lt_of_le hlt (Nat.le_of_lt_succ hf))
        exact ⟨d :: bs, by rw [hdt, ← hbs]; rfl, by rw [h1]; rfl, fun hnf => by rw [hraw hnf, h2 hf']⟩

theorem inv_start (recs : List Rec) : Inv { rest := encodeAll recs, prepend := [] } recs :=
  ⟨rfl, fun r _ _ => encodeRec_pos r, fun _ => rfl⟩

theorem encodeAll_flatten (parts : List (List Rec)) : encodeAll parts.flatten = (parts.map encodeAll).flatten := by
  induction parts with
  | nil => rfl
  | cons p ps ih => rw [List.flatten_cons, encodeAll_append, ih]; rfl

/-- **`count_entries`** on a BAM file: the number of records, for every chunk size at least the largest record -/
theorem count_entries (names : List Bytes) (recs : List Rec) (hv : ∀ r ∈ recs, valid names.length r = true)
    (k : Nat) (hk : ∀ r ∈ recs, (encodeRec r).length ≤ k) :
    countEntries false false names k (encodeAll recs) = recs.length := by
  obtain ⟨bs, hbs, h1, h2⟩ := readChunks_blocks names k _ _ recs (inv_start recs) hv hk (Nat.lt_succ_self _)
  rw [countEntries, h2 rfl, h1, ← hbs, List.length_flatten]
  simp only [List.map_map, Function.comp_def, List.length_map]

/-- **C16 chunking clause**: for every chunk size at least as large as the largest record, `read_chunks` delivers
exactly the records of the whole file, in order -/
theorem chunked (names : List Bytes) (recs : List Rec) (hv : ∀ r ∈ recs, valid names.length r = true)
    (k : Nat) (hk : ∀ r ∈ recs, (encodeRec r).length ≤ k) :
    ((readAllChunks false false names k (encodeAll recs)).map (·.1)).flatten = readWhole false false names (encodeAll recs) := by
  obtain ⟨bs, hbs, h1, -⟩ := readChunks_blocks names k _ _ recs (inv_start recs) hv hk (Nat.lt_succ_self _)
  rw [decode_encode names recs hv, readAllChunks, h1, ← hbs]
  simp only [List.map_map, Function.comp_def, List.map_flatten]

/-- the chunks' own bytes, joined, are the record area: a chunk stream written back reproduces it -/
theorem chunked_bytes (names : List Bytes) (recs : List Rec) (hv : ∀ r ∈ recs, valid names.length r = true)
    (k : Nat) (hk : ∀ r ∈ recs, (encodeRec r).length ≤ k) :
    ((readAllChunks false false names k (encodeAll recs)).map (·.2)).flatten = encodeAll recs := by
  obtain ⟨bs, hbs, h1, -⟩ := readChunks_blocks names k _ _ recs (inv_start recs) hv hk (Nat.lt_succ_self _)
  rw [readAllChunks, h1, ← hbs]
  simp only [List.map_map, Function.comp_def, encodeAll_flatten]

/-- any two admissible chunk sizes deliver the same record stream -/
theorem chunk_size_independent (names : List Bytes) (recs : List Rec) (hv : ∀ r ∈ recs, valid names.length r = true)
    (k1 k2 : Nat) (h1 : ∀ r ∈ recs, (encodeRec r).length ≤ k1) (h2 : ∀ r ∈ recs, (encodeRec r).length ≤ k2) :
    ((readAllChunks false false names k1 (encodeAll recs)).map (·.1)).flatten
      = ((readAllChunks false false names k2 (encodeAll recs)).map (·.1)).flatten := by
  rw [chunked names recs hv k1 h1, chunked names recs hv k2 h2]

/-! ### header and whole files -/

/-- `_read_zero_term` = split at the first NUL -/
theorem readZeroTerm_spec (d : Bytes) (h : 0 ∈ d) :
    readZeroTerm d = some (d.takeWhile (· != 0), (d.dropWhile (· != 0)).drop 1) := by
  induction d with
  | nil => simp at h
  | cons b bs ih =>
    by_cases hb : b = 0
    · subst hb; simp [readZeroTerm]
    · have hm : 0 ∈ bs := by
        rcases List.mem_cons.mp h with h' | h'
        · exact absurd h'.symm hb
        · exact h'
      simp [readZeroTerm, hb, ih hm]

/-- completeness: the name reader fails exactly when there is no NUL -/
theorem readZeroTerm_none_iff (d : Bytes) : readZeroTerm d = none ↔ 0 ∉ d := by
  induction d with
  | nil => simp [readZeroTerm]
  | cons b bs ih =>
    by_cases hb : b = 0
    · subst hb; simp [readZeroTerm]
    · simp only [readZeroTerm, hb, if_false, Option.map_eq_none_iff, ih, List.mem_cons, not_or]
      exact ⟨fun h => ⟨fun e => hb e.symm, h⟩, fun h => h.2⟩

theorem readZeroTerm_encode (name rest : Bytes) (h : ∀ b ∈ name, b ≠ 0) :
    readZeroTerm (name ++ 0 :: rest) = some (name, rest) := by
  induction name with
  | nil => rfl
  | cons b bs ih =>
    rw [List.cons_append, readZeroTerm, if_neg (h b (by simp)), ih fun c hc => h c (by simp [hc])]; rfl

theorem parseRefs_encode (refs : List (Bytes × Nat)) (rest : Bytes)
    (h : ∀ p ∈ refs, (∀ b ∈ p.1, b ≠ 0) ∧ p.2 < 4294967296) :
    parseRefs refs.length (encodeRefs refs ++ rest) = some (refs, rest) := by
  induction refs with
  | nil => rfl
  | cons p ps ih =>
    have hp := h p (by simp)
    have e : encodeRefs (p :: ps) ++ rest
        = toLE 4 (p.1.length + 1) ++ (p.1 ++ 0 :: (toLE 4 p.2 ++ (encodeRefs ps ++ rest))) := by
      simp only [encodeRefs, List.flatMap_cons, List.append_assoc, List.cons_append]
    rw [e, List.length_cons, parseRefs, List.drop_left' (toLE_length 4 _), readZeroTerm_encode _ _ hp.1]
    simp only [List.drop_left' (toLE_length 4 _), List.take_left' (toLE_length 4 _), fromLE_toLE 4 _ hp.2,
      ih fun q hq => h q (by simp [hq])]
    rfl

/-- **header round trip**: parsing a valid encoded header followed by the record area yields the references and exactly
the record area -/
theorem parseHeader_encode (text : Bytes) (refs : List (Bytes × Nat)) (hv : validHeader text refs = true)
    (body : Bytes) : parseHeader (encodeHeader text refs ++ body) = some (refs, body) := by
  simp only [validHeader, Bool.and_eq_true, decide_eq_true_eq, List.all_eq_true, bne_iff_ne, ne_eq] at hv
  obtain ⟨⟨ht, hn⟩, hr⟩ := hv
  obtain ⟨d, hd⟩ : ∃ d, d = encodeHeader text refs ++ body := ⟨_, rfl⟩
  rw [← hd]
  simp only [encodeHeader, List.append_assoc] at hd
  have h4 : d.drop 4 = _ := drop_next (a := 0) hd rfl
  have h8 : d.drop (8 + text.length) = _ := drop_next (drop_next h4 (toLE_length 4 _)) rfl
  simp only [parseHeader, show d.take 4 = [66, 65, 77, 1] from hd ▸ rfl, if_true, slice_of_drop h4 (toLE_length 4 _),
    fromLE_toLE 4 _ ht, h8, List.take_left' (toLE_length 4 _), List.drop_left' (toLE_length 4 _), fromLE_toLE 4 _ hn]
  exact parseRefs_encode refs body hr

theorem headerBytes_encode (text : Bytes) (refs : List (Bytes × Nat)) (hv : validHeader text refs = true)
    (body : Bytes) : headerBytes (encodeHeader text refs ++ body) = encodeHeader text refs := by
  rw [headerBytes, parseHeader_encode text refs hv body]
  simp only [List.length_append, Nat.add_sub_cancel, List.take_left]

theorem valid_names {refs : List (Bytes × Nat)} {recs : List Rec} (hv : ∀ r ∈ recs, valid refs.length r = true) :
    ∀ r ∈ recs, valid (refs.map Prod.fst).length r = true := by
  rwa [List.length_map]

theorem gunzip_pair (a : Bytes) : gunzip [a, []] = a := by
  simp [gunzip]

/-- **whole file**: a BAM file (any BGZF blocking `members` of header ++ records) reads back as its
references and its records -/
theorem file_roundtrip (text : Bytes) (refs : List (Bytes × Nat)) (hh : validHeader text refs = true)
    (recs : List Rec) (hv : ∀ r ∈ recs, valid refs.length r = true) (members : List Bytes)
    (hm : gunzip members = encodeHeader text refs ++ encodeAll recs) :
    readFile false false members = some (refs, recs.map (view (refs.map Prod.fst))) := by
  simp only [readFile, hm, parseHeader_encode text refs hh, decode_encode _ recs (valid_names hv)]

/-- **write back**: writing any selection of the records read from a file gives header (replayed byte for byte), selected
records and BGZF EOF block, and reads back as the same references and exactly the selected records -/
theorem write_file (text : Bytes) (refs : List (Bytes × Nat)) (hh : validHeader text refs = true)
    (recs : List Rec) (hv : ∀ r ∈ recs, valid refs.length r = true) (members : List Bytes)
    (hm : gunzip members = encodeHeader text refs ++ encodeAll recs)
    (idx : List Nat) (hidx : ∀ i ∈ idx, i < recs.length) :
    writeFile members idx = [encodeHeader text refs ++ encodeAll (idx.filterMap (recs[·]?)), []] ∧
    readFile false false (writeFile members idx)
      = some (refs, (idx.filterMap (recs[·]?)).map (view (refs.map Prod.fst))) := by
  have hw : writeFile members idx = [encodeHeader text refs ++ encodeAll (idx.filterMap (recs[·]?)), []] := by
    simp only [writeFile, hm, parseHeader_encode text refs hh, headerBytes_encode text refs hh,
      selectBytes_addNewline _ recs (valid_names hv) idx hidx]
  exact ⟨hw, hw ▸ file_roundtrip text refs hh _ (fun r hr => hv r (PyIdx.mem_gather _ _ _ hr)) _ (gunzip_pair _)⟩

/-- **chunk stream written back**: `write(read_chunks(k))` with any chunk size at least the largest record
reproduces header and record area byte for byte (plus the EOF block), so it reads back as the same file -/
theorem write_chunks (text : Bytes) (refs : List (Bytes × Nat)) (hh : validHeader text refs = true)
    (recs : List Rec) (hv : ∀ r ∈ recs, valid refs.length r = true) (members : List Bytes)
    (hm : gunzip members = encodeHeader text refs ++ encodeAll recs)
    (k : Nat) (hk : ∀ r ∈ recs, (encodeRec r).length ≤ k) :
    writeChunks false false members k = [encodeHeader text refs ++ encodeAll recs, []] ∧
    readFile false false (writeChunks false false members k) = some (refs, recs.map (view (refs.map Prod.fst))) := by
  have hw : writeChunks false false members k = [encodeHeader text refs ++ encodeAll recs, []] := by
    simp only [writeChunks, hm, parseHeader_encode text refs hh, headerBytes_encode text refs hh,
      chunked_bytes _ recs (valid_names hv) k hk]
  exact ⟨hw, hw ▸ file_roundtrip text refs hh recs hv _ (gunzip_pair _)⟩

/-- **chunked reading of a whole file**: for every BGZF blocking and every admissible chunk size `read_chunks` yields the
file's references and, chunk after chunk, exactly its records -/
theorem file_chunked (text : Bytes) (refs : List (Bytes × Nat)) (hh : validHeader text refs = true)
    (recs : List Rec) (hv : ∀ r ∈ recs, valid refs.length r = true) (members : List Bytes)
    (hm : gunzip members = encodeHeader text refs ++ encodeAll recs)
    (k : Nat) (hk : ∀ r ∈ recs, (encodeRec r).length ≤ k) :
    ∃ chunks, readFileChunks false false members k = some (refs, chunks) ∧
      (chunks.map (·.1)).flatten = recs.map (view (refs.map Prod.fst)) ∧
      readFile false false members = some (refs, (chunks.map (·.1)).flatten) := by
  have hc := (chunked _ recs (valid_names hv) k hk).trans (decode_encode _ recs (valid_names hv))
  refine ⟨_, ?_, hc, hc ▸ file_roundtrip text refs hh recs hv members hm⟩
  simp only [readFileChunks, hm, parseHeader_encode text refs hh]

/-- writing is idempotent: reading a written file and writing all of it again reproduces the same bytes -/
theorem write_idempotent (text : Bytes) (refs : List (Bytes × Nat)) (hh : validHeader text refs = true)
    (recs : List Rec) (hv : ∀ r ∈ recs, valid refs.length r = true) (members : List Bytes)
    (hm : gunzip members = encodeHeader text refs ++ encodeAll recs)
    (idx : List Nat) (hidx : ∀ i ∈ idx, i < recs.length) :
    writeFile (writeFile members idx) (List.range idx.length) = writeFile members idx := by
  have hw := (write_file text refs hh recs hv members hm idx hidx).1
  have hlen := filterMap_getElem?_length recs idx hidx
  rw [(write_file text refs hh (idx.filterMap (recs[·]?)) (fun r hr => hv r (PyIdx.mem_gather _ _ _ hr)) (writeFile members idx)
    (hw ▸ gunzip_pair _) (List.range idx.length) (fun i hi => hlen ▸ List.mem_range.mp hi)).1, hw, ← hlen,
    range_filterMap_getElem?]

/-! ### Gen obligations (tables re-extracted from /repo every run) -/

theorem gen_cigar_letters : Gen.C16.cigarLetters = "MIDNSHP=X".toList.map Char.toNat := by decide +kernel
theorem gen_seq_letters : Gen.C16.seqLetters = "=ACMGRSVTWYHKDBN".toList.map Char.toNat := by decide +kernel

/-- the running code uses the repaired rules (so the model instance the theorems are about,
`oldCig = oldChrom = false`, is the one the correspondence driver runs) -/
theorem gen_rules_repaired : Gen.C16.oldChrom = false ∧ Gen.C16.oldCig = false := by decide +kernel

/-- the fixed offsets of the running code are the model's: incrementing each probed byte of a
template record changes exactly the field the model reads there, by the same amount -/
theorem gen_probe_ok : Gen.C16.probe = Gen.C16.probeOffsets.map (probeObs Gen.C16.probePad) := by decide +kernel

/-- Gen obligation: the consuming set tabulated from the running code is {M, D, N, =, X} -/
theorem gen_consumes : Gen.C16.consumes = [true, false, true, true, false, false, false, true, true] := by decide +kernel

/-- Gen obligation: the op codes `count_reference_length` compares with are those of M, D, N, =, X -/
theorem gen_consuming_codes : Gen.C16.consumingCodes = [0, 2, 3, 7, 8] ∧
    Gen.C16.consumes = (List.range 9).map (fun op => Gen.C16.consumingCodes.any (· == op)) := by decide +kernel

/-- Gen obligation: the EOF block the writer appends is the 28-byte block of the specification; as a gzip
member it has an empty payload (ISIZE = 0, last four bytes) -/
theorem gen_eof_marker : Gen.C16.eofMarker = specEof ∧ specEof.drop 24 = [0, 0, 0, 0] := by decide +kernel

/-! ### unmapped records -/

/-- **C16 unmapped clause** (repaired rule): a record with a negative refID decodes to "no
reference" (`*`), whatever the reference list is, and `*` is none of the reference names. -/
theorem unmapped (names : List Bytes) (recs : List Rec) (hv : ∀ r ∈ recs, valid names.length r = true)
    (hs : star ∉ names) (i : Nat) (r : Rec) (hi : recs[i]? = some r) (hr : r.refID < 0) :
    ∃ d, (readWhole false false names (encodeAll recs))[i]? = some d ∧ d.chrom = star ∧ d.chrom ∉ names := by
  have : (view names r).chrom = star := by simp only [view, specChrom, hr, if_true]; rfl
  exact ⟨view names r, by rw [decode_encode names recs hv, List.getElem?_map, hi]; rfl, this, this ▸ hs⟩

/-- the rule the code shipped with (`names[refID]`, so `names[-1]`) is unsound: the unmapped
record of the witness decodes to the name of the LAST reference. -/
theorem unmappedOld_unsound :
    let names : List Bytes := [[99, 104, 114, 49], [99, 104, 114, 88]]
    let r : Rec := { refID := -1, pos := -1, mapq := 0, bin := 0, flag := 4, nextRef := -1, nextPos := -1, tlen := 0,
                     name := [117], cigar := [], seq := [1, 2, 4], qual := [9, 9, 9], tags := [] }
    valid 2 r = true ∧
    (readWhole false true names (encodeAll [r])).map (·.chrom) = [[99, 104, 114, 88]] ∧
    specChrom names r.refID = none := by decide +kernel

/-! ### reference interval -/

/-- beyond the table both sides evaluate to `false` on `n + 9` -/
theorem consumes_spec (op : Nat) : (Gen.C16.consumes[op]?).getD false = specConsumes op :=
  if h : op < 9 then (by decide +kernel : ∀ op < 9, (Gen.C16.consumes[op]?).getD false = specConsumes op) op h
  else by obtain ⟨n, rfl⟩ := Nat.exists_eq_add_of_le' (Nat.not_lt.1 h); rfl

theorem refLen_spec (c : List (Nat × Nat)) :
    refLen Gen.C16.consumes (c.map (·.1)) (c.map (·.2)) = specRefLen c := by
  induction c with
  | nil => rfl
  | cons p c ih => simp only [List.map_cons, refLen, specRefLen, consumes_spec, ih]

theorem and16 (x : Nat) : x &&& 16 = 16 * (x / 16 % 2) := by
  have h1 : (x &&& 16) / 2 ^ 4 = x / 2 ^ 4 % 2 := by rw [Nat.and_div_two_pow]; exact Nat.and_one_is_mod _
  have h2 : (x &&& 16) % 2 ^ 4 = 0 := by rw [Nat.and_mod_two_pow]; exact Nat.and_zero _
  rw [← Nat.div_add_mod (x &&& 16) (2 ^ 4), h1, h2]; rfl

theorem strand_spec (flag : Nat) : ((flag &&& 16) != 0) = (flag / 16 % 2 == 1) := by
  rw [and16]
  rcases Nat.mod_two_eq_zero_or_one (flag / 16) with h | h <;> rw [h] <;> rfl

/-- the strand bit is bit 4 of the flag -/
theorem strand_testBit (flag : Nat) : ((flag &&& 16) != 0) = flag.testBit 4 := by
  rw [strand_spec, Nat.testBit_eq_decide_div_mod_eq]; rfl

/-- **C16 interval clause**: the interval computed from a decoded record is
`[pos, pos + Σ lengths of reference-consuming ops)` with the consuming set {M,D,N,=,X} (tabulated
from the running code), strand `-` iff flag bit 0x10. -/
theorem ref_interval (names : List Bytes) (r : Rec) :
    intervalOf Gen.C16.consumes (view names r) = specInterval names r := by
  simp only [intervalOf, specInterval, view, refLen_spec, strand_spec]

theorem ref_interval_file (names : List Bytes) (recs : List Rec) (hv : ∀ r ∈ recs, valid names.length r = true) :
    (readWhole false false names (encodeAll recs)).map (intervalOf Gen.C16.consumes) = recs.map (specInterval names) := by
  rw [decode_encode names recs hv, List.map_map]
  exact List.map_congr_left fun r _ => ref_interval names r

/-- the reference length is the sum of the lengths of the reference-consuming operations -/
theorem specRefLen_eq_sum (c : List (Nat × Nat)) :
    specRefLen c = ((c.filter (fun p => specConsumes p.1)).map (·.2)).sum := by
  induction c with
  | nil => rfl
  | cons p c ih =>
    obtain ⟨op, l⟩ := p
    simp only [specRefLen, ih, List.filter_cons]
    cases specConsumes op <;> simp

/-! ### `count_reference_length` and `alignment_to_interval` on columns -/

theorem raggedRows_cons (row rest : List Nat) (lens : List Nat) :
    raggedRows (row ++ rest) (row.length :: lens) = row :: raggedRows rest lens := by
  rw [raggedRows, List.take_left, List.drop_left]

theorem raggedRows_flatten (rows : List (List Nat)) : raggedRows rows.flatten (rows.map List.length) = rows := by
  induction rows with
  | nil => rfl
  | cons r rs ih => rw [List.flatten_cons, List.map_cons, raggedRows_cons, ih]

/-- `[0, 2, 3, 7, 8]` is `Gen.C16.consumingCodes` (`gen_consuming_codes`) -/
theorem maskOf_spec (op : Nat) : maskOf [0, 2, 3, 7, 8] op = if specConsumes op then 1 else 0 := by
  simp only [maskOf, List.any_cons, List.any_nil, Bool.or_false, specConsumes, Bool.or_assoc, BEq.comm (b := op)]

theorem row_sum (c : List (Nat × Nat)) :
    (rowProd [0, 2, 3, 7, 8] (c.map Prod.fst) (c.map Prod.snd)).sum = specRefLen c := by
  induction c with
  | nil => rfl
  | cons p c ih =>
    unfold rowProd at ih ⊢
    simp only [List.map_cons, List.zip_cons_cons, List.sum_cons, specRefLen, ih, maskOf_spec]
    cases specConsumes p.1 <;> simp

theorem rowProd_append (codes o1 o2 l1 l2 : List Nat) (h : o1.length = l1.length) :
    rowProd codes (o1 ++ o2) (l1 ++ l2) = rowProd codes o1 l1 ++ rowProd codes o2 l2 := by
  unfold rowProd
  rw [List.map_append, List.zip_append (by rw [List.length_map, h]), List.map_append]

theorem countReferenceLength_rows (cs : List (List (Nat × Nat))) :
    countReferenceLength [0, 2, 3, 7, 8] (cs.map (List.map Prod.fst)).flatten (cs.map (List.map Prod.snd)).flatten
      (cs.map List.length) = cs.map specRefLen := by
  unfold countReferenceLength
  induction cs with
  | nil => rfl
  | cons c cs ih =>
    have hl : c.length = (rowProd [0, 2, 3, 7, 8] (c.map Prod.fst) (c.map Prod.snd)).length := by simp [rowProd]
    simp only [List.map_cons, List.flatten_cons]
    rw [rowProd_append _ _ _ _ _ (by simp), hl, raggedRows_cons, List.map_cons, row_sum, ih]

/-- **C16 interval clause, as the code computes it**: `alignment_to_interval` (and `BamIntervalBuffer`),
column-wise over the ragged CIGAR arrays of a whole table of decoded records, gives for every record
`[pos, pos + Σ reference-consuming lengths)`, name, mapq and the strand of flag bit 0x10 -/
theorem alignment_to_interval_cols (names : List Bytes) (recs : List Rec) :
    alignmentToInterval Gen.C16.consumingCodes (recs.map (view names)) = recs.map (specInterval names) := by
  have h1 : (recs.map (view names)).map DRec.cigOp = (recs.map Rec.cigar).map (List.map Prod.fst) := by
    simp only [List.map_map]; rfl
  have h2 : (recs.map (view names)).map DRec.cigLen = (recs.map Rec.cigar).map (List.map Prod.snd) := by
    simp only [List.map_map]; rfl
  have h3 : (recs.map (view names)).map (fun d => d.cigOp.length) = (recs.map Rec.cigar).map List.length := by
    simp only [List.map_map]; exact List.map_congr_left fun r _ => List.length_map ..
  simp only [alignmentToInterval, gen_consuming_codes.1, h1, h2, h3, countReferenceLength_rows]
  simp only [List.map_map, List.zip_map']
  exact List.map_congr_left fun r _ => by simp only [specInterval, view, Function.comp, strand_spec]

/-! ### selection programs on one extractor -/

theorem rep_select {data : Bytes} {ss es : List Nat} {rs : List Rec} (h : Rep data ss es rs) (idx : List Nat)
    (hidx : ∀ i ∈ idx, i < rs.length) :
    Rep data (idx.filterMap (ss[·]?)) (idx.filterMap (es[·]?)) (idx.filterMap (rs[·]?)) := by
  induction idx with
  | nil => exact Rep.nil
  | cons i is ih =>
    have hi := List.getElem?_eq_getElem (hidx i (by simp))
    obtain ⟨s, post, a, b, d⟩ := rep_get h i _ hi
    simp only [List.filterMap_cons, a, b, hi]
    exact Rep.cons s _ _ _ _ _ post d rfl (ih fun j hj => hidx j (by simp [hj]))

/-- `_make_contigous`: the lengths it computes and the bytes it gathers -/
theorem rep_gather {data : Bytes} {ss es : List Nat} {rs : List Rec} (h : Rep data ss es rs) :
    (ss.zip es).map (fun p => p.2 - p.1) = rs.map (fun r => (encodeRec r).length) ∧
    (ss.zip ((ss.zip es).map (fun p => p.2 - p.1))).flatMap (fun p => slice data p.1 p.2) = encodeAll rs := by
  induction h with
  | nil => exact ⟨rfl, rfl⟩
  | cons s e r ss es rs post h1 h2 _ ih =>
    have hl : e - s = (encodeRec r).length := h2 ▸ Nat.add_sub_cancel_left ..
    exact ⟨by simp only [List.zip_cons_cons, List.map_cons, hl, ih.1],
      by simp only [List.zip_cons_cons, List.map_cons, List.flatMap_cons, hl, slice_of_drop h1 rfl, encodeAll_cons, ih.2]⟩

theorem offsets_startsOf (rs : List Rec) : ∀ s, offsets s (rs.map (fun r => (encodeRec r).length)) = startsOf s rs := by
  induction rs with
  | nil => intro s; rfl
  | cons r rs ih => intro s; rw [List.map_cons, offsets, ih, startsOf]

theorem ends_bounds (rs : List Rec) : ∀ s, ((startsOf s rs).zip (rs.map (fun r => (encodeRec r).length))).map (fun p => p.1 + p.2)
    = (bounds s rs).drop 1 := by
  induction rs with
  | nil => intro s; rfl
  | cons r rs ih =>
    intro s
    rw [startsOf, List.map_cons, List.zip_cons_cons, List.map_cons, ih, ← bounds_head]; rfl

/-- extractor invariant: it represents `cur`, and when it is marked contiguous its buffer is exactly their encoding -/
def ExtInv (e : Ext) (cur : List Rec) : Prop :=
  Rep e.data e.starts e.ends cur ∧ (e.contig = true → e.data = encodeAll cur)

theorem extInv_ofChunk (nref : Nat) (recs : List Rec) (hv : ∀ r ∈ recs, valid nref r = true) :
    ExtInv (Ext.ofChunk (addNewline (encodeAll recs))) recs := by
  obtain ⟨tail, ht, hc⟩ := addNewline_stops (encodeAll recs)
  rw [hc, ofChunk_encode nref recs hv tail ht]
  exact ⟨rep_encodeAll recs, fun _ => rfl⟩

theorem extInv_getitem {e : Ext} {cur : List Rec} (h : ExtInv e cur) (idx : List Nat) (hidx : ∀ i ∈ idx, i < cur.length) :
    ExtInv (e.getitem idx) (idx.filterMap (cur[·]?)) :=
  ⟨rep_select h.1 idx hidx, fun h => absurd h Bool.false_ne_true⟩

theorem compact_inv (e : Ext) (cur : List Rec) (h : ExtInv e cur) :
    ExtInv e.compact cur ∧ e.compact.data = encodeAll cur := by
  unfold Ext.compact
  by_cases hc : e.contig = true
  · rw [if_pos hc]; exact ⟨h, h.2 hc⟩
  · obtain ⟨hl, hg⟩ := rep_gather h.1
    simp only [if_neg hc, hl, hl ▸ hg, offsets_startsOf, ends_bounds]
    exact ⟨⟨rep_encodeAll cur, fun _ => rfl⟩, trivial⟩

theorem runProg_spec (names : List Bytes) (prog : List PStep) : ∀ (e : Ext) (cur : List Rec), ExtInv e cur →
    (∀ r ∈ cur, valid names.length r = true) → progOK cur.length prog = true →
    runProg names e prog = specProg names cur prog := by
  induction prog with
  | nil => intro e cur _ _ _; rfl
  | cons st p ih =>
    intro e cur hinv hv hok
    cases st with
    | select idx =>
      simp only [progOK, Bool.and_eq_true, List.all_eq_true, decide_eq_true_eq] at hok
      exact ih _ _ (extInv_getitem hinv idx hok.1) (fun r hr => hv r (PyIdx.mem_gather _ _ _ hr))
        (filterMap_getElem?_length cur idx hok.1 ▸ hok.2)
    | write =>
      obtain ⟨hinv', hdata⟩ := compact_inv e cur hinv
      rw [runProg, specProg, hdata, ih e.compact cur hinv' hv hok]
    | fields =>
      rw [runProg, specProg, Ext.records, rep_records hinv.1 names hv, ih e cur hinv hv hok]

/-- **selection programs**: whatever sequence of selections (also of an already selected or written table), writes and
field reads is applied to the table read from a BAM file, every write is the encoding of the records selected at that
point, in their order, and every read their views -/
theorem selection_program (names : List Bytes) (recs : List Rec) (hv : ∀ r ∈ recs, valid names.length r = true)
    (prog : List PStep) (hok : progOK recs.length prog = true) :
    runProg names (Ext.ofChunk (addNewline (encodeAll recs))) prog = specProg names recs prog :=
  runProg_spec names prog _ recs (extInv_ofChunk _ recs hv) hv hok

/-! ### several tables alive at once -/

/-- table `i` represents the record list `cs[i]` (all of them valid) -/
def TInv (names : List Bytes) (ts : List Ext) (cs : List (List Rec)) : Prop :=
  ts.length = cs.length ∧ ∀ (i : Nat) (e : Ext) (c : List Rec), ts[i]? = some e → cs[i]? = some c → ExtInv e c ∧ ∀ r ∈ c, valid names.length r = true

/-- `cs[i]? = some cs[i]` is the form the steps of `runTree`/`specTree` are rewritten with -/
theorem tinv_get {names : List Bytes} {ts : List Ext} {cs : List (List Rec)} (h : TInv names ts cs) {i : Nat}
    (hi : i < cs.length) : ∃ e, ts[i]? = some e ∧ cs[i]? = some cs[i] ∧ ExtInv e cs[i] ∧ ∀ r ∈ cs[i], valid names.length r = true :=
  have he := List.getElem?_eq_getElem (h.1 ▸ hi)
  have hc := List.getElem?_eq_getElem hi
  ⟨_, he, hc, h.2 i _ _ he hc⟩

theorem tinv_push {names : List Bytes} {ts : List Ext} {cs : List (List Rec)} (h : TInv names ts cs) {e : Ext}
    {c : List Rec} (he : ExtInv e c) (hv : ∀ r ∈ c, valid names.length r = true) : TInv names (ts ++ [e]) (cs ++ [c]) := by
  refine ⟨by rw [List.length_append, List.length_append, h.1]; rfl, fun i e' c' he' hc' => ?_⟩
  rw [List.getElem?_append] at he' hc'
  rw [h.1] at he'
  split at he'
  · rw [if_pos ‹_›] at hc'; exact h.2 i e' c' he' hc'
  · rw [if_neg ‹_›] at hc'
    generalize i - cs.length = n at he' hc'
    cases n with
    | zero => cases he'; cases hc'; exact ⟨he, hv⟩
    | succ n => cases he'

theorem tinv_set {names : List Bytes} {ts : List Ext} {cs : List (List Rec)} (h : TInv names ts cs) {i : Nat} {e : Ext}
    {c : List Rec} (hc : cs[i]? = some c) (he : ExtInv e c) : TInv names (ts.set i e) cs := by
  refine ⟨by rw [List.length_set, h.1], fun j e' c' he' hc' => ?_⟩
  rw [List.getElem?_set] at he'
  split at he'
  · subst ‹i = j›
    split at he'
    · cases he'; cases hc.symm.trans hc'
      exact ⟨he, (h.2 i _ c (List.getElem?_eq_getElem ‹_›) hc).2⟩
    · cases he'
  · exact h.2 j e' c' he' hc'

theorem runTree_spec (names : List Bytes) (prog : List TStep) : ∀ (ts : List Ext) (cs : List (List Rec)), TInv names ts cs →
    treeOK (cs.map List.length) prog = true → runTree names ts prog = specTree names cs prog := by
  induction prog with
  | nil => intro ts cs _ _; rfl
  | cons st p ih =>
    intro ts cs hinv hok
    cases st with
    | sel src idx =>
      simp only [treeOK, List.getElem?_map, Bool.and_eq_true] at hok
      cases hc : cs[src]? with
      | none => rw [hc] at hok; exact absurd hok.1 Bool.false_ne_true
      | some c =>
        obtain ⟨hlt, rfl⟩ := List.getElem?_eq_some_iff.mp hc
        obtain ⟨e, he, -, hE, hV⟩ := tinv_get hinv hlt
        simp only [hc, Option.map_some, List.all_eq_true, decide_eq_true_eq] at hok
        rw [runTree, specTree, he, hc]
        refine ih _ _ (tinv_push hinv (extInv_getitem hE idx hok.1) fun r hr => hV r (PyIdx.mem_gather _ _ _ hr)) ?_
        rw [List.map_append, List.map_cons, filterMap_getElem?_length _ idx hok.1]
        exact hok.2
    | write i =>
      simp only [treeOK, List.length_map, Bool.and_eq_true, decide_eq_true_eq] at hok
      obtain ⟨e, he, hc, hE, -⟩ := tinv_get hinv hok.1
      obtain ⟨hinv', hdata⟩ := compact_inv e _ hE
      simp only [runTree, specTree, he, hc, hdata, ih _ cs (tinv_set hinv hc hinv') hok.2]
    | fields i =>
      simp only [treeOK, List.length_map, Bool.and_eq_true, decide_eq_true_eq] at hok
      obtain ⟨e, he, hc, hE, hV⟩ := tinv_get hinv hok.1
      simp only [runTree, specTree, he, hc, Ext.records, rep_records hE.1 names hV, ih ts cs hinv hok.2]

/-- **tables that share a parent**: selections keep the table they were taken from; in any order of selecting, writing and
reading parents, children and siblings, every write is the encoding of that table's records and every read their views:
writing one table never disturbs another -/
theorem tree_program (names : List Bytes) (recs : List Rec) (hv : ∀ r ∈ recs, valid names.length r = true)
    (prog : List TStep) (hok : treeOK [recs.length] prog = true) :
    runTree names [Ext.ofChunk (addNewline (encodeAll recs))] prog = specTree names [recs] prog :=
  runTree_spec names prog _ [recs] (tinv_push (ts := []) (cs := []) ⟨rfl, fun _ _ _ h => nomatch h⟩
    (extInv_ofChunk _ recs hv) hv) hok

/-! ### non-vacuity -/

def exNames : List Bytes := [[99, 104, 114, 49], [99, 104, 114, 88]]
/-- mapped, odd sequence length, three CIGAR ops, tags -/
def exR1 : Rec := { refID := 0, pos := 10, mapq := 30, bin := 4681, flag := 0, nextRef := -1, nextPos := -1, tlen := 0,
                    name := [114, 49], cigar := [(0, 5), (1, 2), (2, 3)], seq := [1, 2, 4, 8, 15, 1, 2],
                    qual := [1, 2, 3, 4, 5, 6, 7], tags := [1, 2, 3] }
/-- unmapped, even sequence length, no CIGAR -/
def exR2 : Rec := { refID := -1, pos := -1, mapq := 0, bin := 0, flag := 4, nextRef := -1, nextPos := -1, tlen := 0,
                    name := [117], cigar := [], seq := [1, 2], qual := [9, 9], tags := [] }
/-- reverse strand, all remaining ops -/
def exR3 : Rec := { refID := 1, pos := 99, mapq := 255, bin := 0, flag := 16, nextRef := 0, nextPos := 5, tlen := -7,
                    name := [120, 121, 122], cigar := [(4, 1), (7, 3), (8, 1), (3, 10), (5, 2), (6, 1)], seq := [],
                    qual := [], tags := [] }

theorem ex_specValid : ∀ r ∈ [exR1, exR2, exR3], specValid exNames.length r = true := by decide +kernel
theorem ex_valid : ∀ r ∈ [exR1, exR2, exR3], valid exNames.length r = true := by decide +kernel

example : ∀ r ∈ [exR1, exR2, exR3], valid exNames.length r = true := ex_valid
example : (encodeRec exR1).length = 65 ∧ (encodeRec exR2).length = 41 ∧ (encodeRec exR3).length = 64 := by decide +kernel
example : (readWhole false false exNames (encodeAll [exR1, exR2, exR3])).map (·.chrom) = [[99, 104, 114, 49], star, [99, 104, 114, 88]] := by
  rw [decode_encode exNames _ ex_valid]; rfl
example : (readAllChunks false false exNames 65 (encodeAll [exR1, exR2, exR3])).map (·.1.length) = [1, 1, 1] := by decide +kernel
-- the index hypothesis of `write_back` for a selection that reorders, repeats and drops; `recs` stays a variable as it is
-- there and is fixed by an equation, so that the statement has the hypothesis's own form `i < recs.length`
example : (recs : List Rec) → recs = [exR1, exR2, exR3] → ∀ i ∈ [2, 0, 0], i < recs.length := by
  intro recs h; subst h; decide +kernel
example : (intervalOf Gen.C16.consumes (view exNames exR3)).stop = 113 ∧ (intervalOf Gen.C16.consumes (view exNames exR3)).minus = true := by
  decide +kernel
example : star ∉ exNames := by decide +kernel

example : ∀ r ∈ [exR1, exR2, exR3], specValid exNames.length r = true := ex_specValid
example : decodeFull (encodeRec exR1 ++ [7, 7]) = some (exR1, [7, 7]) :=
  decodeFull_encode _ exR1 (ex_specValid _ (by simp)) _
example : ∀ b ∈ encodeRec exR3, b < 256 := encodeRec_bytes _ exR3 (ex_specValid _ (by simp))
example : countEntries false false exNames 65 (encodeAll [exR1, exR2, exR3]) = 3 :=
  count_entries exNames _ ex_valid 65 (by decide +kernel)
example : validHeader [64, 72] [([99, 104, 114, 49], 1000), ([99, 104, 114, 88], 500)] = true := by decide +kernel
example : Stops [1, 0, 0] ∧ ¬ Stops [0, 0, 0, 0, 9] := by unfold Stops; decide +kernel

example : (decodeChunk false false exNames ((encodeAll [exR1, exR2, exR3]).take 120)).1.length = 2 := by decide +kernel
example : progOK 3 [.select [2, 0, 2], .write, .select [1, 2], .fields, .write] = true := by decide +kernel
example : runProg exNames (Ext.ofChunk (addNewline (encodeAll [exR1, exR2, exR3]))) [.select [2, 0, 2], .write, .select [1, 2], .fields, .write]
    = [.written (encodeAll [exR3, exR1, exR3]), .read [view exNames exR1, view exNames exR3], .written (encodeAll [exR1, exR3])] :=
  selection_program exNames _ ex_valid _ (by decide +kernel)

example : treeOK [3] [.sel 0 [1, 2], .write 1, .fields 0, .sel 0 [0, 2], .write 2, .write 0] = true := by decide +kernel
example : runTree exNames [Ext.ofChunk (addNewline (encodeAll [exR1, exR2, exR3]))] [.sel 0 [1, 2], .write 1, .fields 0, .sel 0 [0, 2], .write 2]
    = [.written (encodeAll [exR2, exR3]), .read [view exNames exR1, view exNames exR2, view exNames exR3], .written (encodeAll [exR1, exR3])] :=
  tree_program exNames _ ex_valid _ (by decide +kernel)

/-! ### witnesses -/

/-- after a compaction (`_make_contigous`) the records sit at the NEW boundaries; offsets remembered from before (the shipped
code lru-cached `_read_name_start`, `_cigar_start`, … per extractor) point into the wrong bytes: record 3 selected alone
starts at 0, its old start was 106. Fixed in /repo by computing the offsets on every access; the model never caches. -/
theorem staleOffsets_unsound :
    let compacted := selectBytes (addNewline (encodeAll [exR1, exR2, exR3])) [2]
    decodeAt false false exNames compacted 0 = view exNames exR3 ∧
    (decodeAt false false exNames compacted 106).name ≠ exR3.name := by
  -- the compacted buffer is the encoding of record 3 alone (64 bytes): offset 106 lies beyond it
  intro compacted
  have hc : compacted = encodeRec exR3 ++ [] := selectBytes_addNewline exNames _ ex_valid [2] (by decide +kernel)
  rw [hc]
  exact ⟨decodeRel_encode exNames exR3 (ex_valid _ (by simp)) [], by decide +kernel⟩

/-- the chunk-size bound of the property is needed: with a chunk size below the largest record the
reader (as modelled, and as the code behaves) delivers nothing -/
theorem chunk_bound_needed :
    ((readAllChunks false false exNames 64 (encodeAll [exR1, exR2, exR3])).map (·.1)).flatten = [] := by decide +kernel

/-! ### writer sessions -/

theorem writer_foldl_out (hdr : Bytes) (calls : List (Option Bytes)) (w : Writer) (hw : w.headerWritten = true) :
    (calls.foldl (Writer.write hdr) w).out = w.out ++ (calls.filterMap id).flatten := by
  induction calls generalizing w with
  | nil => exact (List.append_nil _).symm
  | cons c cs ih =>
    cases c with
    | none => rw [List.foldl_cons, show Writer.write hdr w none = w by simp only [Writer.write, hw, if_true]]; exact ih w hw
    | some b =>
      rw [List.foldl_cons, show Writer.write hdr w (some b) = { w with out := w.out ++ b } by simp only [Writer.write, hw, if_true]]
      exact (ih { w with out := w.out ++ b } hw).trans (List.append_assoc ..)

/-- for every non-empty sequence of calls on one writer (successful, refused = `none`, empty tables) the file holds the header
ONCE, then the bytes of the successful calls in order: a failed call leaves behind only "the header is out" -/
theorem writer_session_bytes (hdr : Bytes) (calls : List (Option Bytes)) (hne : calls ≠ []) :
    writerSession hdr calls = [hdr ++ (calls.filterMap id).flatten, []] := by
  cases calls with
  | nil => exact absurd rfl hne
  | cons c cs =>
    rw [writerSession, List.foldl_cons]
    cases c with
    | none => rw [writer_foldl_out hdr cs _ rfl]; rfl
    | some b => rw [writer_foldl_out hdr cs _ rfl]; exact congrArg (fun x => [x, []]) (List.append_assoc ..)

/-- the file of a writer session decodes to the records of the calls that succeeded, in order -/
theorem writer_session_file (text : Bytes) (refs : List (Bytes × Nat)) (hh : validHeader text refs = true)
    (calls : List (Option (List Rec))) (hne : calls ≠ [])
    (hv : ∀ rs ∈ calls.filterMap id, ∀ r ∈ rs, valid refs.length r = true) :
    readFile false false (writerSession (encodeHeader text refs) (calls.map (·.map encodeAll)))
      = some (refs, ((calls.filterMap id).flatten).map (view (refs.map Prod.fst))) := by
  have hf : (calls.map (·.map encodeAll)).filterMap id = (calls.filterMap id).map encodeAll := by
    rw [List.filterMap_map, List.map_filterMap]; rfl
  rw [writer_session_bytes _ _ (by simpa using hne), hf, ← encodeAll_flatten]
  refine file_roundtrip text refs hh _ (fun r hr => ?_) _ (gunzip_pair _)
  obtain ⟨rs, hrs, hr'⟩ := List.mem_flatten.mp hr
  exact hv rs hrs r hr'

example : writerSession [1, 2] [none, some [7], some [], none, some [8, 9]] = [[1, 2, 7, 8, 9], []] := by decide +kernel

/-- a session that starts with a refused call: [refused, [r1, r2], [], refused, [r3]] -/
example : ([none, some [exR1, exR2], some [], none, some [exR3]] : List (Option (List Rec))) ≠ [] ∧
    ∀ rs ∈ ([none, some [exR1, exR2], some [], none, some [exR3]] : List (Option (List Rec))).filterMap id,
      ∀ r ∈ rs, valid exNames.length r = true := by decide +kernel

end C16
