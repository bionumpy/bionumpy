import BnpVerif.Base.PyIdx
/-! C05 — lazy vs eager tables. Executable model of `create_lazy_class` (`__getattr__` cache,
`__setattr__` overlay, `__getitem__`, `__replace__`, `__array_function__(np.concatenate)`,
`get_data_object`, `tolist`, `__len__`, `get_buffer`) over an abstract item getter, and of the eager
column table. The item getter's buffer is abstracted to the list of file rows it denotes (C04 proves
that selection / concatenation on the extractor is list indexing / append on that list); a file cell
carries its original text and its parsed value (values are represented by their canonical spelling,
so formatting a value is the identity). BY CONSTRUCTION the lazy and the eager table parse a cell to the same value
(`Cell.val`, read by `fileCol` on both sides): that the two readers run the same per-field parser on the same text is
C02's subject and the implementation-vs-implementation half of the harness, not a theorem here. What IS proved is that
the lazy table's three stores, caches and in-place updates never show anything else than the eager columns. Imports only the
definitions of `Base/PyIdx` (itself import-free). -/
namespace C05
open PyIdx

abbrev Bytes := List Nat
abbrev Col := List Bytes

structure Cell where
  text : Bytes      -- the spelling in the file
  val : Bytes       -- the parsed value (as its canonical spelling)
  deriving Repr, DecidableEq

structure FRow where
  raw : Bytes       -- the record's bytes in the file
  cells : List Cell
  deriving Repr, DecidableEq

/-- a Python dict field-number ↦ column -/
abbrev FMap := List (Nat × Col)

def lookup (m : FMap) (f : Nat) : Option Col := (m.find? (·.1 == f)).map (·.2)
def erase (m : FMap) (f : Nat) : FMap := m.filter (·.1 != f)
def insert (m : FMap) (f : Nat) (c : Col) : FMap := (f, c) :: erase m f
def mapVals (g : Col → Col) (m : FMap) : FMap := m.map (fun p => (p.1, g p.2))
/-- `dict.update` -/
def update (m : FMap) : FMap → FMap
  | [] => m
  | (f, c) :: kw => update (insert m f c) kw
def keys (m : FMap) : List Nat := m.map (·.1)

/-- the three stores of a lazy table + the `_data`/`_computed` cache of `get_data_object` -/
structure Lazy where
  buf : List FRow
  computed : FMap
  set : FMap
  data : Option (List Col)
  deriving Repr, DecidableEq

structure Eager where
  cols : List Col
  deriving Repr, DecidableEq

/-- what the item getter parses for field `f` -/
def fileCol (buf : List FRow) (f : Nat) : Col := buf.map (fun r => ((r.cells[f]?).map (·.val)).getD [])

/-! ### lazy operations (mirroring the code) -/

def Lazy.len (l : Lazy) : Nat := l.buf.length

/-- `__getattr__`: overlay first, then cache (filled on a miss) -/
def Lazy.get (l : Lazy) (f : Nat) : Col × Lazy :=
  match lookup l.set f with
  | some c => (c, l)
  | none =>
    match lookup l.computed f with
    | some c => (c, l)
    | none =>
      let c := fileCol l.buf f
      (c, { l with computed := insert l.computed f c })

/-- `__setattr__` as shipped: overlay written, cache entry dropped, `_data` NOT invalidated -/
def Lazy.setattrOld (l : Lazy) (f : Nat) (c : Col) : Lazy :=
  { l with set := insert l.set f c, computed := erase l.computed f }

/-- `__setattr__` (repaired): additionally forgets the materialised `_data` -/
def Lazy.setattr (l : Lazy) (f : Nat) (c : Col) : Lazy :=
  { l with set := insert l.set f c, computed := erase l.computed f, data := none }

/-- `__getitem__` (non-scalar index): the index is applied to buffer, cache and overlay alike -/
def Lazy.select (l : Lazy) (ixs : List Nat) : Lazy :=
  { buf := gather l.buf ixs, computed := mapVals (fun c => gather c ixs) l.computed,
    set := mapVals (fun c => gather c ixs) l.set, data := none }

def Lazy.index (l : Lazy) (ix : Idx) : Option Lazy := (ix.toList l.len).map l.select

/-- `__replace__`: new object, overlay updated, cache not carried over -/
def Lazy.replace (l : Lazy) (kw : FMap) : Lazy :=
  { buf := l.buf, computed := [], set := update l.set kw, data := none }

/-- `get_data_object`: `[getattr(self, f) for f in fields]`, memoised in `_data` -/
def getAll : Nat → Nat → Lazy → List Col × Lazy
  | 0, _, l => ([], l)
  | n + 1, f, l =>
    let r := l.get f
    let rest := getAll n (f + 1) r.2
    (r.1 :: rest.1, rest.2)

def Lazy.dataObject (nF : Nat) (l : Lazy) : List Col × Lazy :=
  match l.data with
  | some d => (d, l)
  | none =>
    let r := getAll nF 0 l
    (r.1, { r.2 with data := some r.1 })

def optAll {α} : List (Option α) → Option (List α)
  | [] => some []
  | none :: _ => none
  | some a :: r => (optAll r).map (a :: ·)

/-- `np.concatenate` on lazy tables as shipped: only the FIRST operand's overlay / cache keys are
looked at; a key missing in another operand is a `KeyError` (`none`) -/
def concatOld (ls : List Lazy) : Option Lazy :=
  match ls with
  | [] => none
  | self :: _ =>
    let setV := optAll ((keys self.set).map (fun name => (optAll (ls.map (fun a => lookup a.set name))).map (fun cs => (name, cs.flatten))))
    let compV := optAll ((keys self.computed).map (fun name => (optAll (ls.map (fun a => lookup a.computed name))).map (fun cs => (name, cs.flatten))))
    match setV, compV with
    | some s, some c => some { buf := (ls.map (·.buf)).flatten, computed := c, set := s, data := none }
    | _, _ => none

/-- `getattr(a, name)` on every operand in turn (fills the operands' caches) -/
def getEach (name : Nat) : List Lazy → List Col × List Lazy
  | [] => ([], [])
  | a :: r =>
    let g := a.get name
    let rest := getEach name r
    (g.1 :: rest.1, g.2 :: rest.2)

/-- overlay of the result: for every name set in ANY operand, the concatenation of `getattr(a, name)` -/
def concatSet : List Nat → List Lazy → FMap × List Lazy
  | [], ls => ([], ls)
  | name :: names, ls =>
    let g := getEach name ls
    let rest := concatSet names g.2
    ((name, g.1.flatten) :: rest.1, rest.2)

/-- `getattr(a, n)` for every n in `names` (only the cache of `a` can change) -/
def getMany : List Nat → Lazy → Lazy
  | [], a => a
  | n :: ns, a => getMany ns (a.get n).2

/-- `np.concatenate` on lazy tables (repaired): a field set in ANY operand is set in the result
(`[name for name in field_names if any(name in a._set_values for a in values)]`, each operand
contributing `getattr(a, name)`); cached columns are carried over only when every operand has them.
When the buffer type has no `concatenate` (FASTQ, two-line FASTA, BAM: `allFields = true`) the operands
are materialised (`get_data_object()`, i.e. `getattr` of EVERY field) and concatenated eagerly; the
resulting eager table is modelled by the observationally equal lazy table whose overlay holds every field.
Returns the result and the operands (whose caches may have been filled). -/
def concatNew (nF : Nat) (allFields : Bool) (ls : List Lazy) : Option (Lazy × List Lazy) :=
  match ls with
  | [] => none
  | self :: _ =>
    let setNames := (List.range nF).filter (fun name => allFields || ls.any (fun a => (lookup a.set name).isSome))
    let sv := concatSet setNames ls
    let ls' := sv.2
    let compNames := (keys (ls'.headD self).computed).filter (fun name => !setNames.contains name && ls'.all (fun a => (lookup a.computed name).isSome))
    let compV := compNames.map (fun name => (name, (ls'.map (fun a => (lookup a.computed name).getD [])).flatten))
    some ({ buf := (ls.map (·.buf)).flatten, computed := compV, set := sv.1, data := none }, ls')

/-- field `f` of row `i` for every `f` (`self[[i]].get_data_object()[0]`) -/
def rowOf (cols : List Col) (i : Nat) : List Bytes := cols.map (fun c => c.getD i [])

def transposeN (n : Nat) (cols : List Col) : List (List Bytes) := (List.range n).map (rowOf cols)

/-- `get_buffer`: untouched tables hand back the raw bytes; with an overlay, every record is re-joined
from the overlay's values and the ORIGINAL TEXT of the other fields -/
def Lazy.write (join : List Bytes → Bytes) (nF : Nat) (l : Lazy) : Bytes :=
  if l.set.isEmpty then (l.buf.map (·.raw)).flatten
  else
    ((List.range l.buf.length).map (fun i =>
      join ((List.range nF).map (fun f =>
        match lookup l.set f with
        | some c => c.getD i []
        | none => (((l.buf[i]?).bind (fun r => r.cells[f]?)).map (·.text)).getD [])))).flatten

/-! ### eager operations -/

def Eager.len (e : Eager) : Nat := (e.cols.headD []).length
def Eager.get (e : Eager) (f : Nat) : Col := e.cols.getD f []
def Eager.setattr (e : Eager) (f : Nat) (c : Col) : Eager := ⟨e.cols.set f c⟩
def Eager.select (e : Eager) (ixs : List Nat) : Eager := ⟨e.cols.map (fun c => gather c ixs)⟩
def Eager.index (e : Eager) (ix : Idx) : Option Eager := (ix.toList e.len).map e.select
def Eager.replace (e : Eager) : FMap → Eager
  | [] => e
  | (f, c) :: kw => (e.setattr f c).replace kw
def appendCols : List Col → List Col → List Col
  | a :: as, b :: bs => (a ++ b) :: appendCols as bs
  | _, _ => []
def Eager.concat : List Eager → Option Eager
  | [] => none
  | [e] => some e
  | e :: es => (Eager.concat es).map (fun r => ⟨appendCols e.cols r.cols⟩)
def Eager.write (join : List Bytes → Bytes) (e : Eager) : Bytes :=
  ((transposeN e.len e.cols).map join).flatten

/-- an eager table parsed from the same file rows -/
def Eager.ofFile (nF : Nat) (buf : List FRow) : Eager := ⟨(List.range nF).map (fileCol buf)⟩
def Lazy.ofFile (buf : List FRow) : Lazy := ⟨buf, [], [], none⟩

/-! ### programs: a register machine observed step by step -/

inductive Op where
  | len (a : Nat)
  | get (a f : Nat)
  | index (a d : Nat) (ix : Idx)     -- reg d := reg a [ix]
  | row (a : Nat) (i : Int)
  | cat (a b : Nat)                 -- reg a := np.concatenate([reg a, reg b])
  | replace (a d : Nat) (kw : FMap) -- reg d := replace(reg a, **kw)
  | setattr (a f : Nat) (c : Col)   -- reg a.f = c   (in place)
  | tolist (a : Nat)
  | write (a : Nat)
  deriving Repr

inductive Obs where
  | num (n : Nat)
  | col (c : Col)
  | rows (r : List (List Bytes))
  | bytes (b : Bytes)
  | unit
  | err
  deriving Repr, DecidableEq

structure Cfg where
  nF : Nat
  join : List Bytes → Bytes
  fixedConcat : Bool      -- which `np.concatenate` rule the tree uses
  bufferConcat : Bool     -- does the buffer type have `concatenate` (delimited formats) or not (FASTQ/FASTA/BAM)
  fixedSetattr : Bool
  modWrite : Bool         -- `supports_modified_write` of the buffer type (False for BAM)
  eagerWrite : Bool       -- the buffer type has `from_data`, i.e. eager tables can be written (False for BAM)

def stepLazy (k : Cfg) (op : Op) (rs : List Lazy) : Obs × List Lazy :=
  match op with
  | .len a => match rs[a]? with
    | some l => (.num l.len, rs)
    | none => (.err, rs)
  | .get a f => match rs[a]? with
    | some l => if f < k.nF then (let g := l.get f; (.col g.1, rs.set a g.2)) else (.err, rs)   -- no such field: AttributeError
    | none => (.err, rs)
  | .index a d ix => match rs[a]? with
    | some l => match l.index ix with
      | some l' => (.num l'.len, rs.set d l')
      | none => (.err, rs)
    | none => (.err, rs)
  | .row a i => match rs[a]? with
    | some l => match norm l.len i with
      | some j =>
        let d := (l.select [j]).dataObject k.nF
        (.rows [rowOf d.1 0], rs)
      | none => (.err, rs)
    | none => (.err, rs)
  | .cat a b => match rs[a]?, rs[b]? with
    | some la, some lb =>
      if k.fixedConcat then
        match concatNew k.nF (!k.bufferConcat) [la, lb] with
        | some (r, [_, lb']) => (.num r.len, (if a == b then rs else rs.set b lb').set a r)
        | _ => (.err, rs)
      else
        match concatOld [la, lb] with
        | some r => (.num r.len, rs.set a r)
        | none => (.err, rs)
    | _, _ => (.err, rs)
  | .replace a d kw => match rs[a]? with
    | some l => (.unit, rs.set d (l.replace kw))
    | none => (.err, rs)
  | .setattr a f c => match rs[a]? with
    | some l => (.unit, rs.set a (if k.fixedSetattr then l.setattr f c else l.setattrOld f c))
    | none => (.err, rs)
  | .tolist a => match rs[a]? with
    | some l => let d := l.dataObject k.nF; (.rows (transposeN l.len d.1), rs.set a d.2)
    | none => (.err, rs)
  | .write a => match rs[a]? with
    | some l => if !k.modWrite && !l.set.isEmpty then (.err, rs) else (.bytes (l.write k.join k.nF), rs)
    | none => (.err, rs)

def stepEager (k : Cfg) (op : Op) (rs : List Eager) : Obs × List Eager :=
  match op with
  | .len a => match rs[a]? with
    | some e => (.num e.len, rs)
    | none => (.err, rs)
  | .get a f => match rs[a]? with
    | some e => if f < k.nF then (.col (e.get f), rs) else (.err, rs)
    | none => (.err, rs)
  | .index a d ix => match rs[a]? with
    | some e => match e.index ix with
      | some e' => (.num e'.len, rs.set d e')
      | none => (.err, rs)
    | none => (.err, rs)
  | .row a i => match rs[a]? with
    | some e => match norm e.len i with
      | some j => (.rows [rowOf e.cols j], rs)
      | none => (.err, rs)
    | none => (.err, rs)
  | .cat a b => match rs[a]?, rs[b]? with
    | some ea, some eb => match Eager.concat [ea, eb] with
      | some r => (.num r.len, rs.set a r)
      | none => (.err, rs)
    | _, _ => (.err, rs)
  | .replace a d kw => match rs[a]? with
    | some e => (.unit, rs.set d (e.replace kw))
    | none => (.err, rs)
  | .setattr a f c => match rs[a]? with
    | some e => (.unit, rs.set a (e.setattr f c))
    | none => (.err, rs)
  | .tolist a => match rs[a]? with
    | some e => (.rows (transposeN e.len e.cols), rs)
    | none => (.err, rs)
  | .write a => match rs[a]? with
    | some e => if !k.eagerWrite then (.err, rs) else (.bytes (e.write k.join), rs)
    | none => (.err, rs)

/-- the arguments of an operation fit the table it is applied to: replacement columns have one value per row (a caller
error otherwise - on which the real lazy and eager tables do NOT agree: an ill-sized column assigned to an attribute makes the
lazy table fail at the next materialisation and the eager one zip to the shortest column; an ill-sized `replace` is handed to
the data class by both) -/
def opOKb (op : Op) (ls : List Lazy) : Bool :=
  match op with
  | .replace a _ kw => match ls[a]? with
    | some l => kw.all (fun p => p.2.length == l.buf.length)
    | none => true
  | .setattr a _ c => match ls[a]? with
    | some l => c.length == l.buf.length
    | none => true
  | _ => true

/-- the domain of the equivalence theorems, checked along the run (the driver evaluates it on every request) -/
def runOKb (k : Cfg) : List Op → List Lazy → Bool
  | [], _ => true
  | op :: ops, ls => opOKb op ls && runOKb k ops (stepLazy k op ls).2

def runLazy (k : Cfg) : List Op → List Lazy → List Obs
  | [], _ => []
  | op :: ops, rs => let s := stepLazy k op rs; s.1 :: runLazy k ops s.2

def runEager (k : Cfg) : List Op → List Eager → List Obs
  | [], _ => []
  | op :: ops, rs => let s := stepEager k op rs; s.1 :: runEager k ops s.2

end C05

namespace C05
/-! the writers' per-record layouts the driver instantiates `Cfg.join` with (every theorem is parametric in `join`) -/
def joinTab (fields : List Bytes) : Bytes :=
  (match fields with
   | [] => []
   | f :: r => r.foldl (fun acc x => acc ++ [9] ++ x) f) ++ [10]

/-- `OneLineBuffer.join_fields` / `FastQBuffer.join_fields` on one entry -/
def joinFastq (fields : List Bytes) : Bytes :=
  match fields with
  | [n, s, q] => [64] ++ n ++ [10] ++ s ++ [10] ++ [43, 10] ++ q ++ [10]
  | _ => []
def joinFasta (fields : List Bytes) : Bytes :=
  match fields with
  | [n, s] => [62] ++ n ++ [10] ++ s ++ [10]
  | _ => []

/-- `NpDataclassReader._should_be_lazy`, as written in the code: `config.LAZY`, the `lazy=` keyword (`none` = not passed), and
whether the buffer type is excluded from lazy reading (GTF/GFF entries, buffers without `get_field_by_number`) -/
def shouldBeLazy (cfgLazy : Bool) (kw : Option Bool) (excluded : Bool) : Bool :=
  if ((!cfgLazy) && kw.isNone) || (kw == some false) then false else !excluded

/-- which rules the current tree uses (false = shipped, true = repaired) -/
def concatFixed : Bool := true
def setattrFixed : Bool := true
end C05
