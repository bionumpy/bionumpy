import BnpVerif.Base.Opt
/-! C02 — parsed columns mean what the file format says the text means.

Executable model of `DelimitedBuffer.from_raw_buffer/_get_buffer_extractor/_modify_for_carriage_return`,
`TextBufferExtractor.get_field_by_number/get_digit_array/get_padded_field`,
`move_intervals_to_digit_array`, `move_intervals_to_right_padded_array`, `str_to_int` (sign path),
`parse_with_missing`, `_parse_split_fields`, `DelimitedBufferWithInernalComments`, `SAMBuffer`,
`OneLineBuffer._get_buffer_extractor`, `FastQBuffer` line roles, `MultiLineFastaBuffer.get_data`,
`FileBuffer.read_header`, plus the property-level specification (`linesOf`, `splitOn`, `decVal`, …).
Bytes are `Nat`s; positions are `Nat` indices into the buffer. Core-only imports. -/
namespace C02
open Base

abbrev Bytes := List Nat

/-- a buffer type as tabulated from the package (Gen/C02.lean) -/
structure Schema where
  cols : List (String × String)
  delim : Nat
  comment : Nat
  linesPerEntry : Nat
  lineOffsets : List Nat
  marker : Nat
  interiorComments : Bool
deriving DecidableEq, Repr

inductive Err where
  | format (line : Nat)     -- FormatException(line_number)
  | shape                   -- numpy reshape / index failure (ill-formed table)
  | other
  | encoding                -- EncodingError: a symbol outside the alphabet of the column's encoding
deriving DecidableEq, Repr

/-! ## Specification level -/

def consHead (b : Nat) : List Bytes → List Bytes
  | [] => [[b]]
  | p :: ps => (b :: p) :: ps

/-- split on a separator byte (always at least one piece, like `str.split`) -/
def splitOn (d : Nat) : Bytes → List Bytes
  | [] => [[]]
  | b :: bs => if b = d then [] :: splitOn d bs else consHead b (splitOn d bs)

/-- join with a separator byte (`sep.join`) -/
def joinWith (d : Nat) : List Bytes → Bytes
  | [] => []
  | [p] => p
  | p :: q :: ps => p ++ d :: joinWith d (q :: ps)

/-- the complete lines of a buffer: pieces terminated by `\n` (an unterminated tail is not a line) -/
def linesOf (bs : Bytes) : List Bytes := (splitOn 10 bs).dropLast

/-- the unterminated tail after the last newline -/
def tailOf (bs : Bytes) : Bytes := (splitOn 10 bs).getLast?.getD []

def stripCR (l : Bytes) : Bytes := if l.getLast? = some 13 then l.dropLast else l

/-- value of a string of decimal digit *values* (Horner) -/
def decVal (ds : List Nat) : Nat := ds.foldl (fun acc x => 10 * acc + x) 0

def isDigit (b : Nat) : Bool := 48 ≤ b && b ≤ 57

/-- the standard reading of an unsigned decimal string (bytes) -/
def specNat (t : Bytes) : Option Nat :=
  if t ≠ [] ∧ t.all isDigit then some (decVal (t.map (· - 48))) else none

/-- optionally signed decimal -/
def specInt (t : Bytes) : Option Int :=
  match t with
  | 45 :: r => (specNat r).map (fun n => - (n : Int))
  | 43 :: r => (specNat r).map (fun n => (n : Int))
  | _ => (specNat t).map (fun n => (n : Int))

/-- comma separated list with optional empty items dropped (one trailing comma allowed) -/
def specIntList (t : Bytes) : Option (List Int) :=
  omap specInt ((splitOn 44 t).filter (· ≠ []))

/-! ## Index level: delimiter positions, slices, pieces -/

/-- `np.flatnonzero(mask)` shifted by `i` -/
def delimsFrom (isD : Nat → Bool) : Nat → Bytes → List Nat
  | _, [] => []
  | i, b :: bs => if isD b then i :: delimsFrom isD (i + 1) bs else delimsFrom isD (i + 1) bs

/-- `data[s:e]` -/
def slice (bs : Bytes) (s e : Nat) : Bytes := (bs.drop s).take (e - s)

/-- complete pieces of a buffer (each terminated by a delimiter), with an accumulator for the open piece -/
def piecesAcc (isD : Nat → Bool) : Bytes → Bytes → List Bytes
  | _, [] => []
  | acc, b :: bs => if isD b then acc :: piecesAcc isD [] bs else piecesAcc isD (acc ++ [b]) bs

def pieces (isD : Nat → Bool) (bs : Bytes) : List Bytes := piecesAcc isD [] bs

/-- `chunk[:last_newline + 1]` -/
def complete (bs : Bytes) : Bytes := (bs.reverse.dropWhile (fun b => b != 10)).reverse

/-- `flat.reshape(k, n)` -/
def chunkF {α} (n : Nat) : Nat → List α → List (List α)
  | 0, _ => []
  | k + 1, xs => xs.take n :: chunkF n k (xs.drop n)

/-- re-wrap a flat list by row lengths -/
def unflatten {α} : List Nat → List α → List (List α)
  | [], _ => []
  | n :: ns, xs => xs.take n :: unflatten ns (xs.drop n)

structure Table where
  nCols : Nat
  starts : List Nat     -- row-major, one per field
  ends : List Nat
deriving Repr

def isDelim (d : Nat) (b : Nat) : Bool := b == 10 || b == d

/-- `DelimitedBuffer.from_raw_buffer` + `_get_buffer_extractor` (before the CR adjustment):
delimiter positions of the complete lines, column count from the first line, starts = previous delimiter + 1 -/
def fieldTable (d : Nat) (bs : Bytes) : Except Err Table :=
  let data := complete bs
  if data = [] then .error .other            -- "Found no new lines"
  else
    let ds := delimsFrom (isDelim d) 0 data
    let n := (data.takeWhile (fun b => b != 10)).count d + 1      -- entry_ends[0] + 1
    -- every line must have as many columns as the first one (FormatException with the line number)
    match ((linesOf data).map (fun l => l.count d + 1)).findIdx? (fun c => c != n) with
    | some i => .error (.format i)
    | none =>
      if ds.length % n != 0 then .error .shape
      else .ok ⟨n, 0 :: ds.dropLast.map (· + 1), ds⟩

def Table.pairs (t : Table) : List (Nat × Nat) := List.zip t.starts t.ends

def Table.rows (t : Table) : List (List (Nat × Nat)) := chunkF t.nCols (t.ends.length / t.nCols) t.pairs

/-- the text of every field -/
def tableFields (bs : Bytes) (t : Table) : List (List Bytes) :=
  t.rows.map (fun r => r.map (fun p => slice bs p.1 p.2))

/-- `_modify_for_carriage_return`: if the first line ends in `\r`, every row's last field loses a trailing `\r` -/
def crAdjustRows (data : Bytes) (rows : List (List (Nat × Nat))) : List (List (Nat × Nat)) :=
  match rows with
  | [] => rows
  | r0 :: _ =>
    match r0.getLast? with
    | none => rows
    | some (_, e0) =>
      if e0 = 0 then rows
      else if data.getD (e0 - 1) 0 = 13 then
        rows.map (fun r => match r.getLast? with
          | none => r
          | some (s, e) => r.dropLast ++ [(s, if data.getD (e - 1) 0 = 13 then e - 1 else e)])
      else rows

/-! ## typed column extraction -/

def maxWidth (fs : List (Nat × Nat)) : Nat := fs.foldl (fun m p => max m (p.2 - p.1)) 0

/-- one row of `move_intervals_to_digit_array`: characters `data[e-w .. e)`, the first `w-(e-s)` overwritten by '0' -/
def digitRow (data : Bytes) (w : Nat) (p : Nat × Nat) : Bytes :=
  (List.range w).map (fun j => if j < w - (p.2 - p.1) then 48 else data.getD (p.2 - (w - j)) 0)

def digitMatrix (data : Bytes) (fs : List (Nat × Nat)) : List Bytes :=
  fs.map (digitRow data (maxWidth fs))

def powersDesc (w : Nat) : List Nat := (List.range w).reverse.map (10 ^ ·)

def dot (a b : List Nat) : Nat := (List.zipWith (· * ·) a b).sum

/-- index of the first row containing a byte rejected by `p` (the line number of the FormatException) -/
def firstBadRow (rows : List Bytes) (ok : Nat → Bool) : Option Nat :=
  let i := rows.findIdx (fun r => !r.all ok)
  if i < rows.length then some i else none

/-- `str_to_int` on the digit matrix: DigitEncoding check, then `raw.dot(powers)` -/
def digitMatrixValues (data : Bytes) (fs : List (Nat × Nat)) : Except Err (List Int) :=
  let m := digitMatrix data fs
  match firstBadRow m isDigit with
  | some i => .error (.format i)
  | none => .ok (m.map (fun r => (dot (r.map (· - 48)) (powersDesc r.length) : Nat)))

/-- `str_to_int` ragged path for one row: sign character replaced by '0', digits weighted by position, times sign -/
def signedRow (t : Bytes) : Option Int :=
  let neg := t.head? = some 45
  let pos := t.head? = some 43
  let body := if neg || pos then 48 :: t.tail else t
  if (neg || pos) && t.length == 1 then none       -- a sign without digits is not a number
  else if body.all isDigit then
    let v : Int := (dot (body.map (· - 48)) (powersDesc body.length) : Nat)
    some (if neg then -v else v)
  else none

def signedValues (texts : List Bytes) : Except Err (List Int) :=
  match omap signedRow texts with
  | some vs => .ok vs
  | none => .error (.format (texts.findIdx (fun t => (signedRow t).isNone)))

/-- `get_digit_array` + `str_to_int(*x)`: the sign path is taken when some field starts with '-' or '+' -/
def intColumn (data : Bytes) (fs : List (Nat × Nat)) : Except Err (List Int) :=
  let signed := fs.any (fun p => data.getD p.1 0 = 45 || data.getD p.1 0 = 43)
  if signed then signedValues (fs.map (fun p => slice data p.1 p.2))
  else digitMatrixValues data fs

/-- `parse_with_missing` (repaired): empty and "." are missing (0), the rest goes through `str_to_int` -/
def optIntColumn (texts : List Bytes) : Except Err (List Int) :=
  let present := texts.filter (fun t => t ≠ [] && t ≠ [46])
  match signedValues present with
  | .error _ => .error (.format (texts.findIdx (fun t => t ≠ [] && t ≠ [46] && (signedRow t).isNone)))
  | .ok _ => .ok (texts.map (fun t => if t ≠ [] && t ≠ [46] then (signedRow t).getD 0 else 0))

/-- the rule shipped before the repair: "." only counted as missing when *every* row was "." -/
def optIntColumnOld (texts : List Bytes) : Except Err (List Int) :=
  if texts.all (· = [46]) then .ok (texts.map (fun _ => 0))
  else
    let present := texts.filter (· ≠ [])
    match signedValues present with
    | .error _ => .error (.format (texts.findIdx (fun t => t ≠ [] && (signedRow t).isNone)))
    | .ok _ => .ok (texts.map (fun t => if t ≠ [] then (signedRow t).getD 0 else 0))

/-- one row of `move_intervals_to_right_padded_array`: the field, then NULs up to the column width -/
def paddedRow (data : Bytes) (w : Nat) (p : Nat × Nat) : Bytes :=
  (List.range w).map (fun j => if j < p.2 - p.1 then data.getD (min (p.1 + j) (data.length - 1)) 0 else 0)

def paddedMatrix (data : Bytes) (fs : List (Nat × Nat)) : List Bytes :=
  fs.map (paddedRow data (maxWidth fs))

/-- what a fixed-width bytes cell shows: trailing NULs are not part of the string -/
def stripNul (r : Bytes) : Bytes := (r.reverse.dropWhile (· == 0)).reverse

/-- `_parse_split_fields` (repaired): separator appended to every row, flat split, empty strings are not elements,
the per-row element count is the number of non-empty strings of that row -/
def splitRows (sep : Nat) (rows : List Bytes) : List (List Bytes) :=
  let texts := rows.map (· ++ [sep])
  let all := pieces (· == sep) texts.flatten
  let counts := texts.map (·.count sep)
  (unflatten counts all).map (·.filter (· ≠ []))

/-- as shipped: values = all non-empty strings, row lengths = number of separators (inconsistent when a row
has an empty item, e.g. a trailing comma) -/
def splitRowsOld (sep : Nat) (rows : List Bytes) : List (List Bytes) :=
  let texts := rows.map (· ++ [sep])
  let all := pieces (· == sep) texts.flatten
  let counts := texts.map (·.count sep)
  unflatten counts (all.filter (· ≠ []))

def intListColumn (rows : List Bytes) : Except Err (List (List Int)) :=
  let g := splitRows 44 rows
  match omap (omap signedRow) g with
  | some v => .ok v
  | none => .error (.format (g.findIdx (fun r => (omap signedRow r).isNone)))

def strandOK (b : Nat) : Bool := b == 43 || b == 45 || b == 46

inductive Col where
  | ints (v : List Int)
  | strs (v : List Bytes)
  | floats (v : List Bytes)        -- kept as text (C18 owns the conversion)
  | intLists (v : List (List Int))
  | bools (v : List Bool)
  | strLists (v : List (List Bytes))       -- genotype strings per sample
  | floatLists (v : List (List Bytes))     -- float lists, kept as text
deriving Repr, DecidableEq

/-- `_get_field_by_number` dispatch on the declared type -/
def typedColumn (kind : String) (data : Bytes) (fs : List (Nat × Nat)) : Except Err Col :=
  let texts := fs.map (fun p => slice data p.1 p.2)
  match kind with
  | "int" => (intColumn data fs).map Col.ints
  | "oint" => (optIntColumn texts).map Col.ints
  | "id" => .ok (Col.strs ((paddedMatrix data fs).map stripNul))
  | "str" => .ok (Col.strs texts)
  | "float" => .ok (Col.floats texts)
  | "ilist" => (intListColumn texts).map Col.intLists
  | "strand" =>
    -- the column is taken as a flat array with one byte per row (an assertion in the code: anything else is refused)
    if texts.any (fun t => t.length != 1) then .error .other else
    match firstBadRow texts strandOK with
    | some i => .error (.format i)
    | none => .ok (Col.strs texts)
  | _ => .error .other

def columnOf {α} (rows : List (List α)) (j : Nat) : List α := rows.filterMap (·[j]?)

/-- apply `f` to every element, first error wins (induction-friendly `mapM`) -/
def emap {α β ε} (f : α → Except ε β) : List α → Except ε (List β)
  | [] => .ok []
  | a :: as =>
    match f a with
    | .error e => .error e
    | .ok b =>
      match emap f as with
      | .error e => .error e
      | .ok bs => .ok (b :: bs)

/-- columns `j, j+1, …` of the table, typed by `kinds` -/
def typedColumnsFrom (data : Bytes) (rows : List (List (Nat × Nat))) : Nat → List String → Except Err (List Col)
  | _, [] => .ok []
  | j, k :: ks =>
    match typedColumn k data (columnOf rows j) with
    | .error e => .error e
    | .ok c =>
      match typedColumnsFrom data rows (j + 1) ks with
      | .error e => .error e
      | .ok cs => .ok (c :: cs)

def typedColumns (kinds : List String) (data : Bytes) (rows : List (List (Nat × Nat))) : Except Err (List Col) :=
  typedColumnsFrom data rows 0 kinds

/-- `FileBuffer.read_header`: leading lines starting with the comment character are not data -/
def dropHeaderLines (c : Nat) : List Bytes → List Bytes
  | [] => []
  | l :: ls => if c ≠ 0 ∧ l.head? = some c then dropHeaderLines c ls else l :: ls

def unlines (ls : List Bytes) : Bytes := (ls.map (· ++ [10])).flatten

def dropHeader (c : Nat) (bs : Bytes) : Bytes := unlines (dropHeaderLines c (linesOf bs)) ++ tailOf bs

/-- `buffer[idx]`: the rows of the (start, end) table picked by position before anything is parsed -/
def pickRows {α} : Option (List Nat) → List α → List α
  | none, rows => rows
  | some idx, rows => idx.filterMap (rows[·]?)

@[simp] theorem pickRows_none {α} (rows : List α) : pickRows none rows = rows := rfl

/-- an index outside the table is an IndexError, not a row silently left out -/
def selOK (sel : Option (List Nat)) (n : Nat) : Bool :=
  match sel with
  | none => true
  | some idx => idx.all (· < n)

/-- the reference table with rows picked by position -/
def pickIdx {α : Type} (idx : List Nat) (l : List α) : List α := idx.filterMap (l[·]?)

def colPick (idx : List Nat) : Col → Col
  | .ints v => .ints (pickIdx idx v)
  | .strs v => .strs (pickIdx idx v)
  | .floats v => .floats (pickIdx idx v)
  | .intLists v => .intLists (pickIdx idx v)
  | .bools v => .bools (pickIdx idx v)
  | .strLists v => .strLists (pickIdx idx v)
  | .floatLists v => .floatLists (pickIdx idx v)

/-- a parsed table with rows selected: `table[idx]` -/
def resPick (sel : Option (List Nat)) (r : Nat × List Col) : Nat × List Col :=
  match sel with
  | none => r
  | some idx => ((pickIdx idx (List.range r.1)).length, r.2.map (colPick idx))

/-- plain delimited formats -/
def parseDelimited (S : Schema) (bs : Bytes) (sel : Option (List Nat) := none) : Except Err (Nat × List Col) :=
  let data := complete bs                       -- the extractor holds `chunk[:size]`
  match fieldTable S.delim bs with
  | .error e => .error e
  | .ok t =>
    let rows0 := crAdjustRows data t.rows
    if !selOK sel rows0.length then .error .shape else
    let rows := pickRows sel rows0
    match typedColumns (S.cols.map (·.2)) data rows with
    | .error e => .error e
    | .ok cols => .ok (rows.length, cols)

/-! ## interior comments (`DelimitedBufferWithInernalComments`) -/

/-- positions `k` (into the delimiter list) of newlines that are followed by the comment character -/
def commentMask (c : Nat) (data : Bytes) (ds : List Nat) : List Nat :=
  (List.range (ds.length - 1)).filter (fun k =>
    data.getD (ds.getD k 0) 0 = 10 && data.getD (ds.getD k 0 + 1) 0 = c)

def deleteIdx {α} (l : List α) (idx : List Nat) : List α :=
  (List.zip (List.range l.length) l).filterMap (fun p => if idx.contains p.1 then none else some p.2)

def tableOfStartsEnds (data : Bytes) (starts ends : List Nat) : Except Err Table :=
  match ends.findIdx? (fun e => data.getD e 0 = 10) with
  | none => .error .shape
  | some k =>
    let n := k + 1
    if ends.length % n != 0 || starts.length != ends.length then .error .shape
    else .ok ⟨n, starts, ends⟩

/-- `_calculate_col_starts_and_ends` as shipped: the newline before a comment line is removed from the start
delimiters and the *next delimiter* from the end delimiters — which is the comment's own newline only when the
comment line contains no TAB -/
def commentTableOld (d c : Nat) (bs : Bytes) : Except Err Table :=
  let data := complete bs
  if data = [] then .error .other else
  let ds := delimsFrom (isDelim d) 0 data
  let mask := commentMask c data ds
  let startD := (deleteIdx ds mask).dropLast
  let endD := deleteIdx ds (mask.map (· + 1))
  let (starts, ends) := if data.head? ≠ some c then (0 :: startD.map (· + 1), endD) else (startD.map (· + 1), endD.drop 1)
  tableOfStartsEnds data starts ends

/-- start of the line that contains position `e` -/
def lineStartOf (data : Bytes) (e : Nat) : Nat := e - ((data.take e).reverse.takeWhile (· != 10)).length

/-- `_calculate_col_starts_and_ends` (repaired): a field ends at every delimiter that is not inside a comment line
and starts right after the preceding delimiter -/
def commentTable (d c : Nat) (bs : Bytes) : Except Err Table :=
  let data := complete bs
  if data = [] then .error .other else
  let ds := delimsFrom (isDelim d) 0 data
  let starts := 0 :: ds.dropLast.map (· + 1)
  let kept := (List.zip starts ds).filter (fun p => data.getD (lineStartOf data p.2) 0 ≠ c)
  tableOfStartsEnds data (kept.map (·.1)) (kept.map (·.2))

def parseCommented (S : Schema) (bs : Bytes) : Except Err (Nat × List Col) := do
  let t ← commentTable S.delim S.comment bs
  let rows := crAdjustRows bs t.rows
  let cols ← typedColumns (S.cols.map (·.2)) bs rows
  pure (rows.length, cols)

/-- specification: comment lines are not records -/
def dataLines (c : Nat) (ls : List Bytes) : List Bytes := ls.filter (fun l => l.head? ≠ some c)

/-! ## SAM: eleven fixed columns and the rest of the line -/

/-- per line: positions of the delimiters of that line (`RaggedArray(delimiters, n_fields)`) -/
def lineDelims (d : Nat) (data : Bytes) : List (List Nat) :=
  let ds := delimsFrom (isDelim d) 0 data
  let counts := (linesOf data).map (fun l => l.count d + 1)
  unflatten counts ds

/-- one line: `s0` = line start, `r` = positions of the line's delimiters (the last one is its newline);
the (start,end) of the first `k` fields, and of the rest of the line (`SAMBufferExctractor._get_extra_field`:
from one past the end of field `k` up to the line end, never negative) -/
def samRow (data : Bytes) (cr : Bool) (k : Nat) (s0 : Nat) (r : List Nat) : List (Nat × Nat) × (Nat × Nat) :=
  let lineEnd0 := r.getLast?.getD 0
  let lineEnd := if cr && data.getD (lineEnd0 - 1) 0 = 13 then lineEnd0 - 1 else lineEnd0
  let r' := r.dropLast ++ [lineEnd]
  let starts := s0 :: r.dropLast.map (· + 1)
  let fields := (List.zip starts r').take k
  let e := (fields.getLast?.map (·.2)).getD 0
  -- `_get_extra_field`: the text ends before the newline, or before a carriage return preceding it (every row)
  let extraEnd := if data.getD (lineEnd0 - 1) 0 = 13 then lineEnd0 - 1 else lineEnd0
  (fields, (e + 1, max extraEnd (e + 1)))

/-- rows of (start,end) for the first `k` fields and the (start,end) of the rest of the line -/
def samRows (d : Nat) (k : Nat) (bs : Bytes) : Except Err (List (List (Nat × Nat) × (Nat × Nat))) :=
  let data := complete bs
  if data = [] then .error .other else
  let ld := lineDelims d data
  let firstEnd := (ld.head?.bind (·.getLast?)).getD 0
  let cr := firstEnd ≠ 0 && data.getD (firstEnd - 1) 0 = 13
  let prevs := 0 :: (ld.map (fun r => r.getLast?.getD 0 + 1)).dropLast       -- entry starts
  if ld.any (fun r => r.length < k) then .error .shape else
  .ok ((List.zip prevs ld).map (fun pr => samRow data cr k pr.1 pr.2))

def parseSam (S : Schema) (bs : Bytes) (sel : Option (List Nat) := none) : Except Err (Nat × List Col) := do
  let rows0 ← samRows S.delim 11 bs
  if !selOK sel rows0.length then .error .shape else
  let rows := pickRows sel rows0
  let cols ← typedColumns ((S.cols.map (·.2)).take 11) bs (rows.map (·.1))
  pure (rows.length, cols ++ [Col.strs (rows.map (fun r => slice bs r.2.1 r.2.2))])

/-! ## k-line formats (2-line FASTA, FASTQ) -/

/-- `OneLineBuffer.from_raw_buffer/_get_buffer_extractor`: newline positions, cut to a multiple of `k`,
field starts = previous newline + 1 + line offset -/
def klineTable (k : Nat) (offsets : List Nat) (bs : Bytes) : Except Err (List (List (Nat × Nat))) :=
  let nls := delimsFrom (· == 10) 0 bs
  if k = 0 ∨ nls.length < k then .error .other else
  let nls := nls.take (nls.length - nls.length % k)
  let starts := 0 :: nls.dropLast.map (· + 1)
  let rows := chunkF k (nls.length / k) (List.zip starts nls)
  .ok (rows.map (fun r => (List.zip r (offsets ++ List.replicate k 0)).map (fun po => (po.1.1 + po.2, po.1.2))))

/-- `OneLineBuffer._modify_for_carriage_return`: looks at the first line of the first k entries; if one ends in
CR, every field end that follows a CR moves one to the left -/
def klineCR (k : Nat) (bs : Bytes) (rows : List (List (Nat × Nat))) : List (List (Nat × Nat)) :=
  let firstEnds := (rows.take k).filterMap (fun r => r.head?.map (·.2))
  if ((rows.head?.bind (·.head?)).map (·.2)).getD 0 < 1 then rows
  else if firstEnds.any (fun e => bs.getD (e - 1) 0 = 13) then
    rows.map (·.map (fun p => (p.1, if bs.getD (p.2 - 1) 0 = 13 then p.2 - 1 else p.2)))
  else rows

def klineRows (k : Nat) (offsets : List Nat) (bs : Bytes) : Except Err (List (List (Nat × Nat))) :=
  (klineTable k offsets bs).map (klineCR k bs)

/-- `_validate`: every entry starts with the marker; FASTQ: third line starts with '+' -/
def klineValid (marker : Nat) (k : Nat) (bs : Bytes) (rows : List (List (Nat × Nat))) : Bool :=
  rows.all (fun r => match r.head? with
    | some p => p.1 ≥ 1 && bs.getD (p.1 - 1) 0 = marker
    | none => false) &&
  (k != 4 || rows.all (fun r => match r[2]? with
    | some p => bs.getD p.1 0 = 43
    | none => false))

def parseKline (S : Schema) (bs : Bytes) (sel : Option (List Nat) := none) : Except Err (Nat × List Col) := do
  let rows0 ← klineRows S.linesPerEntry S.lineOffsets bs
  if !klineValid S.marker S.linesPerEntry bs rows0 then .error (.format 0) else
  if !selOK sel rows0.length then .error .shape else
  let rows := pickRows sel rows0
  let txt := fun (j : Nat) => (columnOf rows j).map (fun p => slice bs p.1 p.2)
  let name := Col.strs (((paddedMatrix bs (columnOf rows 0)).map stripNul))
  let seq := Col.strs (txt 1)
  if S.linesPerEntry = 4 then
    pure (rows.length, [name, seq, Col.intLists ((txt 3).map (fun q => q.map (fun (b : Nat) => (b : Int) - 33)))])
  else pure (rows.length, [name, seq])

/-! ## wrapped FASTA (`MultiLineFastaBuffer.from_raw_buffer/get_data`) -/

/-- the reader appends `\n` (if missing) and the entry marker; the buffer keeps everything before the last marker
that follows a newline -/
def fastaLines (marker : Nat) (bs : Bytes) : Except Err (List Bytes) :=
  let chunk := (if bs.getLast? = some 10 then bs else bs ++ [10]) ++ [marker]
  if chunk.head? ≠ some marker then .error .other else
  let ls := linesOf chunk          -- complete lines; the appended marker is the unterminated tail
  .ok ls

/-- entries as the format defines them: a marker line starts a record, the following lines are its sequence -/
def fastaEntriesAux : List Bytes → Option (Bytes × Bytes) → List (Bytes × Bytes)
  | [], cur => match cur with | some e => [e] | none => []
  | l :: ls, cur =>
    if l.head? = some 62 then
      (match cur with | some e => [e] | none => []) ++ fastaEntriesAux ls (some (l.tail, []))
    else match cur with
      | some (n, s) => fastaEntriesAux ls (some (n, s ++ l))
      | none => fastaEntriesAux ls none

/-- `np.insert(np.cumsum(l), 0, a)` -/
def psum : Nat → List Nat → List Nat
  | a, [] => [a]
  | a, x :: xs => a :: psum (a + x) xs

/-- numpy index with Python wrap-around for negative positions, `none` = IndexError -/
def pyGet (l : List Nat) (i : Int) : Option Nat :=
  if i < 0 then (if (-i).toNat ≤ l.length then l[l.length - (-i).toNat]? else none) else l[i.toNat]?

/-- sequence length per entry, as shipped: `ends[offsets[1:]-1] - starts[offsets[:-1]]` over the sequence lines
(`offsets` = running sum of the lines per entry) -/
def seqLensOldAux (starts ends : List Nat) : Nat → List Nat → Option (List Nat)
  | _, [] => some []
  | off, n :: ns =>
    match pyGet ends (((off + n : Nat) : Int) - 1), pyGet starts (off : Int), seqLensOldAux starts ends (off + n) ns with
    | some e, some s, some r => some ((e - s) :: r)
    | _, _, _ => none

def seqLensOld (lineLens : List Nat) (nLines : List Nat) : Option (List Nat) :=
  seqLensOldAux (psum 0 lineLens).dropLast ((psum 0 lineLens).drop 1) 0 nLines

/-- repaired: `cum[offsets[1:]] - cum[offsets[:-1]]` with `cum` the cumulative line lengths -/
def seqLensAux (cum : List Nat) : Nat → List Nat → List Nat
  | _, [] => []
  | off, n :: ns => (cum.getD (off + n) 0 - cum.getD off 0) :: seqLensAux cum (off + n) ns

def seqLens (lineLens : List Nat) (nLines : List Nat) : List Nat := seqLensAux (psum 0 lineLens) 0 nLines

/-- positions (line numbers, counted from `k`) of the lines that start with the marker (`np.flatnonzero`) -/
def headerIdx (marker : Nat) : Nat → List Bytes → List Nat
  | _, [] => []
  | k, l :: ls => if l.head? = some marker then k :: headerIdx marker (k + 1) ls else headerIdx marker (k + 1) ls

/-- `get_data` on the lines of the buffer: header lines are the lines that start with the marker; lines per entry
from the header positions; the sequence of an entry is the flat text of the sequence lines cut by `seq_lens` -/
def fastaGroup (marker : Nat) (ls : List Bytes) : List Bytes × List Bytes :=
  let isH := fun (l : Bytes) => l.head? = some marker
  let newEntries := headerIdx marker 0 ls
  let bounds := newEntries ++ [ls.length]
  let nLines := (List.zip bounds (bounds.drop 1)).map (fun ab => ab.2 - ab.1 - 1)
  let seqLines := ls.filter (fun l => !isH l)
  let lens := seqLens (seqLines.map List.length) nLines
  ((ls.filter isH).map List.tail, unflatten lens seqLines.flatten)

/-- `MultiLineFastaBuffer`: the lines of the buffer, grouped by `fastaGroup` into names and sequences (CR stripped from
every line when one of the first 10 lines has it) -/
def parseFasta (S : Schema) (bs : Bytes) : Except Err (Nat × List Col) := do
  let ls ← fastaLines S.marker bs
  let cr := (ls.take 10).any (fun l => l.getLast? = some 13)
  let ls := if cr then ls.map stripCR else ls
  let g := fastaGroup S.marker ls
  pure (g.1.length, [Col.strs g.1, Col.strs g.2])

/-- VCF POS is 1-based in the file, 0-based in the entry -/
def shiftCol (j : Nat) (d : Int) (cols : List Col) : List Col :=
  (List.zip (List.range cols.length) cols).map (fun p => match p.2 with
    | .ints v => if p.1 = j then Col.ints (v.map (· + d)) else p.2
    | c => c)

/-! ## dispatch used by the driver -/

def ensureNl (bs : Bytes) : Bytes := if bs = [] ∨ bs.getLast? = some 10 then bs else bs ++ [10]

/-- `VCFBuffer._get_field_by_number`: the eight fixed columns (INFO as text when the header declares no INFO keys),
`val -= 1` on column 1; `shift` is the behaviourally tabulated constant -/
def parseVcf (S : Schema) (shift : Int) (bs : Bytes) : Except Err (Nat × List Col) := do
  let t ← fieldTable S.delim bs
  if t.nCols < 8 then .error .shape else
  let rows := crAdjustRows bs t.rows
  let kinds := ((S.cols.map (·.2)).take 8).map (fun k => if k = "info" then "str" else k)
  let cols ← typedColumns kinds bs rows
  pure (rows.length, shiftCol 1 shift cols)

/-! ## VCF INFO (`VCFBuffer._get_dataclass_field`, `NamedBufferExtractor`) and genotype columns -/

/-- the `;`-separated items of every row's INFO text: the row terminator counts as a separator, the flat text is
split once and regrouped per row (the code does this with a sorted merge of `;` positions and row offsets) -/
def infoSubfields (rows : List Bytes) : List (List Bytes) :=
  let texts := rows.map (· ++ [59])
  unflatten (texts.map (·.count 59)) (pieces (· == 59) texts.flatten)

def isPrefix (p t : Bytes) : Bool := t.take p.length == p

/-- `get_field_by_name`: the item that starts with `name=`; absent → empty text; present twice → FormatException -/
def infoLookup (name : Bytes) (subs : List Bytes) : Option Bytes :=
  match subs.filter (isPrefix (name ++ [61])) with
  | [] => some []
  | [f] => some (f.drop (name.length + 1))
  | _ => none

/-- `has_field_name` (flags): an item equal to the name -/
def infoFlag (name : Bytes) (subs : List Bytes) : Bool := subs.contains name

/-- one declared INFO key, typed by the header declaration (kind) -/
def infoColumn (kind : String) (name : Bytes) (subs : List (List Bytes)) : Except Err Col :=
  if kind = "flag" then .ok (Col.bools (subs.map (infoFlag name)))
  else
    match omap (infoLookup name) subs with
    | none => .error (.format (subs.findIdx (fun r => (infoLookup name r).isNone)))
    | some vals =>
      if kind = "oint" then (optIntColumn vals).map Col.ints
      else if kind = "ofloat" then .ok (Col.floats (vals.map (fun v => if v = [] ∨ v = [46] then [110, 97, 110] else v)))
      else if kind = "ilist" then (intListColumn vals).map Col.intLists
      else if kind = "flist" then .ok (Col.floatLists (splitRows 44 vals))
      else .ok (Col.strs vals)

/-- `_GenotypeRowEncoding`: alphabet 0 1 2 . | /  → indices 0..5, every other byte 0 -/
def gtIndex (b : Nat) : Nat :=
  if b = 48 then 0 else if b = 49 then 1 else if b = 50 then 2 else if b = 46 then 3 else if b = 124 then 4
  else if b = 47 then 5 else 0

/-- `encode`: 36·a + 6·sep + b, stored as int8 (wraps above 127) -/
def gtEncode (t : Bytes) : Int :=
  let v := 36 * gtIndex (t.getD 0 0) + 6 * gtIndex (t.getD 1 0) + gtIndex (t.getD 2 0)
  if v ≥ 128 then (v : Int) - 256 else v

def gtSymbols : List Nat := [48, 49, 50, 46, 124, 47]
def gtAlleles : List Nat := [48, 49, 50, 46]
def gtSeps : List Nat := [124, 47]

/-- `decode`: the reverse lookup table (rows of a 256-entry table filled at the codes of the 32 genotypes,
zero elsewhere), indexed with the (possibly negative → wrapped) code -/
def gtDecode (c : Int) : Bytes :=
  let i := (if c < 0 then c + 256 else c).toNat
  let hits := (gtAlleles.flatMap (fun a => gtSeps.flatMap (fun s => gtAlleles.map (fun b => [a, s, b])))).filter
    (fun g => 36 * gtIndex (g.getD 0 0) + 6 * gtIndex (g.getD 1 0) + gtIndex (g.getD 2 0) = i)
  hits.getLast?.getD [0, 0, 0]

/-- `get_fixed_length_field(slice(9, None), 3)`: three bytes from the start of every sample field -/
def sampleTriplets (data : Bytes) (rows : List (List (Nat × Nat))) : List (List Bytes) :=
  rows.map (fun r => (r.drop 9).map (fun p => slice data p.1 (p.1 + 3)))

/-- `_check_symbols` (repair): the genotype encoders accept `allele sep allele` over their own alphabets only —
VCFMatrixBuffer: alleles 0 1 2 . and | /; PhasedVCFMatrixBuffer: 0 1 and |; PhasedHaplotypeVCFMatrixBuffer: 0..4 . and | / —
everything else (an allele number outside the alphabet, a haploid call) is an EncodingError, not allele 0 -/
def gtOK (flavour : String) (t : Bytes) : Bool :=
  let a := t.getD 0 0
  let s := t.getD 1 0
  let b := t.getD 2 0
  if flavour = "VCFMatrixBuffer" then gtAlleles.contains a && gtSeps.contains s && gtAlleles.contains b
  else if flavour = "PhasedVCFMatrixBuffer" then (a == 48 || a == 49) && s == 124 && (b == 48 || b == 49)
  else if flavour = "PhasedHaplotypeVCFMatrixBuffer" then
    ((48 ≤ a && a ≤ 52) || a == 46) && gtSeps.contains s && ((48 ≤ b && b ≤ 52) || b == 46)
  else true

/-- genotype column of the VCF buffer flavours -/
def genotypeColumn (flavour : String) (data : Bytes) (rows : List (List (Nat × Nat))) : Option Col :=
  if flavour = "VCFMatrixBuffer" then
    some (Col.strLists ((sampleTriplets data rows).map (·.map (fun t => gtDecode (gtEncode t)))))
  else if flavour = "PhasedVCFMatrixBuffer" then
    -- (a == '1')*2 + (b == '1'), decoded through "0|0","0|1","1|0","1|1"
    some (Col.strLists ((sampleTriplets data rows).map (·.map (fun t =>
      [if t.getD 0 0 = 49 then 49 else 48, 124, if t.getD 2 0 = 49 then 49 else 48]))))
  else if flavour = "PhasedHaplotypeVCFMatrixBuffer" then
    -- alphabet 0 1 2 3 4 . → 0..5 (others 0), two haplotypes per sample
    some (Col.intLists ((sampleTriplets data rows).map (fun r => r.flatMap (fun t =>
      let ix := fun (b : Nat) => if 48 ≤ b ∧ b ≤ 52 then ((b - 48 : Nat) : Int) else if b = 46 then 5 else 0
      [ix (t.getD 0 0), ix (t.getD 2 0)]))))
  else if flavour = "VCFBuffer2" then
    -- `get_padded_field(slice(9, None), stop_at=':')`: every sample field up to the first ':'
    some (Col.strLists (rows.map (fun r => (r.drop 9).map (fun p =>
      let f := slice data p.1 p.2
      let k := f.findIdx (· == 58)                 -- `argmax(array == ':')`: 0 when absent *or* at position 0
      if 0 < k ∧ k < f.length then f.take k else f))))
  else none

structure VcfResult where
  n : Nat
  fixed : List Col                       -- the seven fixed columns
  info : Sum Col (List (String × Col))    -- text, or one column per declared key
  geno : Option Col

def parseVcfX (S : Schema) (shift : Int) (flavour : String) (defs : List (String × String)) (bs : Bytes) :
    Except Err VcfResult := do
  let t ← fieldTable S.delim bs
  if t.nCols < 8 then .error .shape else
  let rows := crAdjustRows bs t.rows
  let kinds := (S.cols.map (·.2)).take 7
  let cols ← typedColumns kinds bs rows
  let infoTexts := (columnOf rows 7).map (fun p => slice bs p.1 p.2)
  let info ← if defs = [] then pure (Sum.inl (Col.strs infoTexts)) else do
    let subs := infoSubfields infoTexts
    let cs ← emap (fun kd : String × String => (infoColumn kd.2 (kd.1.toList.map Char.toNat) subs).map (fun c => (kd.1, c))) defs
    pure (Sum.inr cs)
  if !((sampleTriplets bs rows).all (·.all (gtOK flavour))) then .error .encoding else
  pure ⟨rows.length, shiftCol 1 shift cols, info, genotypeColumn flavour bs rows⟩

/-! ## GTF / GFF3 attributes read by key (`GTFEntry._get_attributes`, `GFFEntry._get_attributes`) -/

/-- a word character of the regular expression (`\w`, ASCII) -/
def isWordByte (b : Nat) : Bool := isDigit b || (65 ≤ b && b ≤ 90) || (97 ≤ b && b ≤ 122) || b == 95

/-- `re.findall(key + ' "(.*?)"', text)` with the key required to start a word: scan from the left; at a position
where `key "` starts (and the byte before is not a word character) the value runs up to the next `"` and the scan
goes on after it; elsewhere it advances by one byte -/
def gtfScan (key : Bytes) : Nat → Bool → Bytes → List Bytes
  | 0, _, _ => []
  | _, _, [] => []
  | fuel + 1, prevWord, b :: t =>
    let pat := key ++ [32, 34]
    if !prevWord && (b :: t).take pat.length == pat then
      let rest := (b :: t).drop pat.length
      let v := rest.takeWhile (· != 34)
      if v.length < rest.length then v :: gtfScan key fuel false (rest.drop (v.length + 1))   -- closing quote found
      else gtfScan key fuel (isWordByte b) t
    else gtfScan key fuel (isWordByte b) t

/-- GTF: all values of the key in the flattened attribute text of the selected rows -/
def gtfAttr (key : Bytes) (attrs : List Bytes) : List Bytes :=
  gtfScan key (attrs.flatten.length + 1) false attrs.flatten

/-- GFF3: the attribute texts joined by `;`, split at `;` and `=`; keys are the even pieces, values the odd ones -/
def gffAttr (key : Bytes) (attrs : List Bytes) : List Bytes :=
  let ps := pieces (fun b => b == 59 || b == 61) (joinWith 59 attrs ++ [59])
  let rec pairUp : List Bytes → List (Bytes × Bytes)
    | k :: v :: rest => (k, v) :: pairUp rest
    | _ => []
  ((pairUp ps).filter (fun kv => kv.1 == key)).map (·.2)

/-- the driver's dispatch on the format: `viaOpen` = read through `bnp.open` (header lines read off, final newline
supplied); GFA S-lines: the record type column is skipped -/
def parseFile (fmt : String) (S : Schema) (viaOpen : Bool) (bs0 : Bytes) (vcfShift : Int := -1)
    (sel : Option (List Nat) := none) : Except Err (Nat × List Col) :=
  let bs := if viaOpen then ensureNl (dropHeader S.comment bs0) else bs0
  if fmt = "fasta" then parseFasta S bs0
  else if S.linesPerEntry > 1 then parseKline S bs sel
  else if fmt = "sam" then parseSam S bs sel
  else if fmt = "vcf" then parseVcf S vcfShift bs
  else if S.interiorComments then parseCommented S bs
  else if fmt = "gfa" then
    parseDelimited { S with cols := [("type", "str"), ("name", "id"), ("sequence", "str")] } bs sel
      |>.map (fun r => (r.1, r.2.drop 1))
  else parseDelimited S bs sel

/-- the documented table with rows selected; an index outside the table has no documented result -/
def resPick? (sel : Option (List Nat)) (r : Nat × List Col) : Option (Nat × List Col) :=
  if selOK sel r.1 then some (resPick sel r) else none

/-- a text uses CRLF line ends when every line, except possibly the last one (which may lack its terminator or
carry a bare LF), ends in CR — and at least one does; then the CR is not part of any line -/
def crlfText (ls : List Bytes) : Bool :=
  ls.dropLast.all (fun l => l.getLast? = some 13) && ls.any (fun l => l.getLast? = some 13)

/-! ## Specification of a whole parse (what the format says) -/

/-- the formats as their documents define them (UCSC/GA4GH BED, bedGraph, ENCODE narrowPeak, chrom.sizes,
GTF2/GFF3, 4DN pairs, SAMv1 §1.4, GFA1 S-lines, VCFv4.2 §1.4), written here independently of the package.
Kinds: id/str verbatim text, int unsigned, sint optionally signed, oint int-or-missing, float, strand, ilist. -/
structure DocFmt where
  cols : List (String × String)
  comment : Nat
  interior : Bool := false

def bed3Doc : List (String × String) := [("chromosome", "id"), ("start", "int"), ("stop", "int")]
def bed6Doc := bed3Doc ++ [("name", "id"), ("score", "oint"), ("strand", "strand")]
def gtfDoc : List (String × String) := [("chromosome", "id"), ("source", "str"), ("feature_type", "id"), ("start", "int"),
  ("stop", "int"), ("score", "str"), ("strand", "strand"), ("phase", "str"), ("atributes", "str")]

def docFormats : List (String × DocFmt) := [
  ("bed3", { cols := bed3Doc, comment := 35 }),
  ("bed6", { cols := bed6Doc, comment := 35 }),
  ("bed12", { cols := bed6Doc ++ [("thick_start", "int"), ("thick_end", "int"), ("item_rgb", "str"), ("block_count", "int"),
      ("block_sizes", "ilist"), ("block_starts", "ilist")], comment := 35 }),
  ("bdg", { cols := bed3Doc ++ [("value", "float")], comment := 35 }),
  ("narrowpeak", { cols := bed6Doc ++ [("signal_value", "float"), ("p_value", "float"), ("q_value", "float"), ("summit", "sint")], comment := 35 }),
  ("sizes", { cols := [("name", "str"), ("size", "int")], comment := 35 }),
  ("gtf", { cols := gtfDoc, comment := 35 }),
  ("gff", { cols := gtfDoc, comment := 35, interior := true }),
  ("wig", { cols := bed3Doc ++ [("value", "float")], comment := 35, interior := true }),
  ("pairs", { cols := [("read_id", "str"), ("chrom1", "id"), ("pos1", "int"), ("chrom2", "id"), ("pos2", "int"),
      ("strand1", "strand"), ("strand2", "strand")], comment := 35 }),
  ("sam", { cols := [("name", "id"), ("flag", "int"), ("chromosome", "id"), ("position", "int"), ("mapq", "int"), ("cigar", "str"),
      ("next_chromosome", "str"), ("next_position", "int"), ("length", "sint"), ("sequence", "str"), ("quality", "str"),
      ("extra", "str")], comment := 64 }),
  ("gfa", { cols := [("name", "id"), ("sequence", "str")], comment := 35 }),
  ("vcf", { cols := [("chromosome", "id"), ("position", "int"), ("id", "str"), ("ref_seq", "str"), ("alt_seq", "str"),
      ("quality", "str"), ("filter", "str"), ("info", "str")], comment := 35 })]

/-- unsigned decimal, as an `Int` -/
def specNatI (t : Bytes) : Option Int :=
  match specNat t with
  | some n => some (Int.ofNat n)
  | none => none

/-- optional integer: empty and "." are missing (0) -/
def specOInt (t : Bytes) : Option Int := if t = [] ∨ t = [46] then some 0 else specInt t

/-- a whole column read by its documented kind -/
def specColumn (kind : String) (texts : List Bytes) : Option Col :=
  if kind = "int" then (omap specNatI texts).map Col.ints
  else if kind = "sint" then (omap specInt texts).map Col.ints
  else if kind = "oint" then (omap specOInt texts).map Col.ints
  else if kind = "id" then (if texts.all (fun t => t.getLast? != some 0) then some (Col.strs texts) else none)
  else if kind = "str" then some (Col.strs texts)
  else if kind = "float" then some (Col.floats texts)
  else if kind = "ilist" then (omap specIntList texts).map Col.intLists
  else if kind = "strand" then (if texts.all (fun t => t.length == 1 && t.all strandOK) then some (Col.strs texts) else none)
  else none

/-- columns `j, j+1, …` of the records, read by `kinds` -/
def specColumnsFrom (recs : List (List Bytes)) : Nat → List String → Option (List Col)
  | _, [] => some []
  | j, k :: ks =>
    match specColumn k (columnOf recs j), specColumnsFrom recs (j + 1) ks with
    | some c, some cs => some (c :: cs)
    | _, _ => none

/-- records of a delimited text: complete lines (CR stripped when every line has it), header/comment lines
removed, split on TAB -/
def specRecords (D : DocFmt) (viaOpen : Bool) (fmt : String) (bs : Bytes) : Option (List (List Bytes)) :=
  let ls := linesOf (ensureNl bs)
  let ls := if crlfText ls then ls.map stripCR else ls
  if ls.any (·.contains 13) then none else      -- a stray CR (not part of a uniform CRLF line end) is outside the formats
  let ls := if viaOpen then dropHeaderLines D.comment ls else ls
  let ls := if D.interior then dataLines D.comment ls else ls
  let recs := ls.map (splitOn 9)
  if fmt = "sam" then
    if recs.all (fun r => r.length ≥ 11) then some (recs.map (fun r => r.take 11 ++ [joinWith 9 (r.drop 11)])) else none
  else if fmt = "gfa" then
    if recs.all (fun r => r.length = 3) then some (recs.map (·.drop 1)) else none
  else if fmt = "vcf" then
    if recs.all (fun r => r.length ≥ 8) then some (recs.map (·.take 8)) else none
  else if recs.all (fun r => r.length = D.cols.length) then some recs else none

def specParse (fmt : String) (viaOpen : Bool) (bs : Bytes) : Option (Nat × List Col) :=
  match docFormats.find? (·.1 == fmt) with
  | none => none
  | some (_, D) =>
  match specRecords D viaOpen fmt bs with
  | none => none
  | some recs =>
    if recs = [] then none else
    let kinds := D.cols.map (·.2)
    match specColumnsFrom recs 0 kinds with
    | some cols => some (recs.length, if fmt = "vcf" then shiftCol 1 (-1) cols else cols)
    | none => none

/-- FASTA as the format defines it: a '>' line starts a record, following lines are its sequence -/
def specFasta (bs : Bytes) : Option (Nat × List Col) :=
  let ls := linesOf (ensureNl bs)
  let ls := if crlfText ls then ls.map stripCR else ls
  if (ls.head?.bind (·.head?)) ≠ some 62 then none else
  let es := fastaEntriesAux ls none
  some (es.length, [Col.strs (es.map (·.1)), Col.strs (es.map (·.2))])

/-- FASTA on two lines: '>' name / sequence; FASTQ: '@' name / sequence / '+' / qualities (phred+33) -/
def docKline : List (String × Nat × Nat) := [("fasta2", 2, 62), ("fastq", 4, 64)]

/-- k-line formats: line roles -/
def specKline (k marker : Nat) (bs : Bytes) : Option (Nat × List Col) :=
  let ls := linesOf (ensureNl bs)
  let ls := if crlfText ls then ls.map stripCR else ls
  if k = 0 ∨ ls.length % k ≠ 0 ∨ ls = [] then none else
  let es := chunkF k (ls.length / k) ls
  if !es.all (fun e => (e.head?.bind (·.head?)) = some marker) then none else
  if k = 4 ∧ !es.all (fun e => ((e[2]?).bind (·.head?)) = some 43) then none else
  let names := es.map (fun e => (e.head?.getD []).tail)
  let seqs := es.map (fun e => (e[1]?).getD [])
  if k = 4 then some (es.length, [Col.strs names, Col.strs seqs, Col.intLists (es.map (fun e => (((e[3]?).getD []) : Bytes).map (fun (b : Nat) => (b : Int) - 33)))])
  else some (es.length, [Col.strs names, Col.strs seqs])

end C02
