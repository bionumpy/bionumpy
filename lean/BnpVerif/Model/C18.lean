import BnpVerif.Base.Opt
/-! C18 — numbers ↔ text (`bionumpy/io/strops.py`). Executable model of `_build_power_array`,
`ints_to_strings` (repaired rule and the rule shipped before the repair), `str_to_int`,
`int_lists_to_strings`, `join`, `split`, and the digit-placement logic of `str_to_float`;
plus the property-level specification. Core-only imports.

Externals (specified here, exercised by the correspondence): NumPy `full`, fancy `+=`
(`scatterAdd`, duplicate-free indices), `cumsum`, `searchsorted(side="right")` on a sorted table
(= number of entries `≤ x`), int64/uint64 wrap-around (`wrap64`), npstructures ragged reshape
(`unflatten`) and row sums. int64 values are unbounded `Int` with `wrap64` applied where the
code's result is an int64 array. -/
namespace C18
open Base

abbrev Bytes := List Nat

/-! ### externals -/

/-- two's-complement wrap-around of an int64 result -/
def wrap64 (x : Int) : Int :=
  (x + 9223372036854775808) % 18446744073709551616 - 9223372036854775808

def inInt64 (x : Int) : Bool := decide (-9223372036854775808 ≤ x) && decide (x < 9223372036854775808)

/-- `np.cumsum` -/
def cumsumFrom (acc : Int) : List Int → List Int
  | [] => []
  | x :: xs => (acc + x) :: cumsumFrom (acc + x) xs

/-- `np.cumsum(lengths)` -/
def prefixSums (acc : Nat) : List Nat → List Nat
  | [] => []
  | x :: xs => (acc + x) :: prefixSums (acc + x) xs

/-- `a[idx] += vals` for duplicate-free `idx` -/
def scatterAdd (a : List Int) : List (Nat × Int) → List Int
  | [] => a
  | (i, v) :: r => scatterAdd (a.modify i (· + v)) r

/-- re-wrap a flat list by row lengths (`RaggedArray(flat, shape)`) -/
def unflatten {α} : List Nat → List α → List (List α)
  | [], _ => []
  | n :: ns, xs => xs.take n :: unflatten ns (xs.drop n)

/-! ### `_build_power_array(shape)` (no dots) -/

/-- `index_array = full(total, -1); index_array[cumsum(lengths)[:-1]] += lengths[1:];
index_array[0] += lengths[0]; cumsum` -/
def buildPowerArray (lengths : List Nat) : List Int :=
  let a0 := List.replicate lengths.sum (-1 : Int)
  let a1 := scatterAdd a0 ((prefixSums 0 lengths).dropLast.zip (lengths.tail.map Int.ofNat))
  let a2 := a1.modifyHead (· + ((lengths.headD 0 : Nat) : Int))
  cumsumFrom 0 a2

/-- `[L-1, …, 0]` -/
def countdown : Nat → List Int
  | 0 => []
  | L + 1 => (L : Int) :: countdown L

/-! ### `ints_to_strings` -/

/-- `_POWERS_OF_TEN = 10**np.arange(1, 20, dtype=uint64)` -/
def powTable : List Nat := (List.range 19).map (fun k => 10 ^ (k + 1))

/-- repaired digit count: `np.searchsorted(_POWERS_OF_TEN, magnitude, side="right") + 1` -/
def width (m : Nat) : Nat := (powTable.filter (fun t => decide (t ≤ m))).length + 1

/-- one output row given its row of the power array: `magnitude // 10**index % 10`, digit
encoding → ASCII (`+48`), `'-'` written into column 0 of negative rows -/
def fmtRow (mag : Int) (neg : Bool) (row : List Int) : Bytes :=
  let ds := row.map (fun p => (48 + mag / 10 ^ p.toNat % 10).toNat)
  if neg then ds.set 0 45 else ds

/-- `ints_to_strings` as repaired (`magnitude = np.abs(number).astype(uint64)` is `|n|` for every
int64 `n`, the minimum included) -/
def intsToStrings (ns : List Int) : List Bytes :=
  let lengths := ns.map (fun n => width n.natAbs + (if n < 0 then 1 else 0))
  let idx := unflatten lengths (buildPowerArray lengths)
  (ns.zip idx).map (fun (n, row) => fmtRow (n.natAbs : Int) (decide (n < 0)) row)

/-- `ints_to_strings` as shipped before the repair: `np.abs` in int64 (wraps at the minimum),
width `w x = int(log10(float(x))) + 1` applied to `max(|n|, 1)` — `w` is the floating-point
external, kept abstract -/
def intsToStringsOld (w : Int → Nat) (ns : List Int) : List Bytes :=
  let absW := fun (n : Int) => wrap64 (n.natAbs : Int)
  let lengths := ns.map (fun n => w (max (absW n) 1) + (if n < 0 then 1 else 0))
  let idx := unflatten lengths (buildPowerArray lengths)
  (ns.zip idx).map (fun (n, row) => fmtRow (absW n) (decide (n < 0)) row)

/-! ### `str_to_int` -/

/-- DigitEncoding (after the C06 repair: exactly `'0'..'9'`) -/
def digitVal (b : Nat) : Option Nat := if 48 ≤ b ∧ b ≤ 57 then some (b - 48) else none

def isNegRow (r : Bytes) : Bool := r.head? == some 45
def isPosRow (r : Bytes) : Bool := r.head? == some 43

/-- `number_text[is_negative, 0] = "0"; number_text[is_positive, 0] = "0"` (on the copy) -/
def stripSign (r : Bytes) : Bytes := if isNegRow r || isPosRow r then r.set 0 48 else r

/-- `(digits * 10**power_array).sum(axis=-1) * signs`, all int64. `none` = EncodingError. -/
def strToInt (rows : List Bytes) : Option (List Int) :=
  -- `only_sign = (is_negative | is_positive) & (lengths == 1)` raises EncodingError
  if rows.any (fun r => (isNegRow r || isPosRow r) && r.length == 1) then none else
  match omap (fun r => omap digitVal (stripSign r)) rows with
  | none => none
  | some drows =>
    let lengths := rows.map List.length
    let powers := buildPowerArray lengths
    let prods := (drows.flatten.zip powers).map (fun (d, p) => (d : Int) * 10 ^ p.toNat)
    let sums := (unflatten lengths prods).map List.sum
    some ((sums.zip rows).map (fun (s, r) => wrap64 (s * (if isNegRow r then -1 else 1))))

/-- non-ragged path: `digits.dot(10**arange(L)[::-1])` for one unsigned digit string -/
def strToInt1 (s : Bytes) : Option Int :=
  match omap digitVal s with
  | none => none
  | some ds => some (wrap64 ((ds.zip (countdown s.length)).map (fun (d, p) => (d : Int) * 10 ^ p.toNat)).sum)

/-! ### integer columns of files: the fixed-width digit matrix, and optional columns -/

/-- `move_intervals_to_digit_array(data, starts, ends, fill_value='0')`: every field right-aligned
in a matrix as wide as the widest field, filled with `'0'` on the left -/
def digitMatrix (rows : List Bytes) : List Bytes :=
  let W := (rows.map List.length).foldl max 0
  rows.map (fun r => List.replicate (W - r.length) 48 ++ r)

/-- non-ragged `str_to_int` on the 2-D digit matrix: digit-encode, `.dot(10**arange(W)[::-1])` -/
def strToIntMatrix (rows : List Bytes) : Option (List Int) :=
  match omap (fun r => omap digitVal r) (digitMatrix rows) with
  | none => none
  | some drows =>
    some (drows.map (fun ds => wrap64 ((ds.zip (countdown ds.length)).map (fun (d, p) => (d : Int) * 10 ^ p.toNat)).sum))

/-- `get_digit_array` + `str_to_int(*x)`: if any field starts with a sign the ragged path is taken
(with the sign flags), otherwise the digit matrix -/
def columnInts (rows : List Bytes) : Option (List Int) :=
  if rows.any (fun r => isNegRow r || isPosRow r) then strToInt rows else strToIntMatrix rows

/-! ### a row selection of a lazily read table (`TextThroughputExtractor.__getitem__`, `_make_contigous`) -/

/-- one selected row of the extractor: its line `[es, ee)` in the shared text and the column's field
`[fs, fs + fl)` -/
structure LRow where
  es : Nat
  ee : Nat
  fs : Nat
  fl : Nat

instance : Inhabited LRow := ⟨⟨0, 0, 0, 0⟩⟩

/-- `data[start : start + len]` of one field -/
def fieldOf (data : Bytes) (r : LRow) : Bytes := (data.drop r.fs).take r.fl

/-- `_make_contigous`: the selected lines are copied one after the other into a new text (from
position `pos` on); every field start moves by (new line start − old line start) -/
def compactFrom (data : Bytes) (pos : Nat) : List LRow → Bytes × List LRow
  | [] => ([], [])
  | r :: rs =>
    let rest := compactFrom data (pos + (r.ee - r.es)) rs
    ((data.drop r.es).take (r.ee - r.es) ++ rest.1,
     ⟨pos, pos + (r.ee - r.es), r.fs + pos - r.es, r.fl⟩ :: rest.2)

def compact (data : Bytes) (rows : List LRow) : Bytes × List LRow := compactFrom data 0 rows

/-- the field lies inside its line, the line inside the text -/
def WFRow (data : Bytes) (r : LRow) : Prop := r.es ≤ r.fs ∧ r.fs + r.fl ≤ r.ee ∧ r.ee ≤ data.length

/-- one line of a tab-separated table: the fields joined by tabs, then a newline (a line with no
field is the lone newline) -/
def lineBytes : List Bytes → Bytes
  | [] => [10]
  | [f] => f ++ [10]
  | f :: g :: rest => f ++ 9 :: lineBytes (g :: rest)

/-- the text of a tab-separated table -/
def tableText (lines : List (List Bytes)) : Bytes := (lines.map lineBytes).flatten

/-- line and field positions of column `col` in `tableText lines` (from byte `pos` on); a line that
has no column `col` gets the empty field at its end -/
def lineRows (col : Nat) (pos : Nat) : List (List Bytes) → List LRow
  | [] => []
  | fs :: rest =>
    let lineLen := (lineBytes fs).length
    ⟨pos, pos + lineLen, pos + ((fs.take col).map (fun f => f.length + 1)).sum, (fs.getD col []).length⟩ ::
      lineRows col (pos + lineLen) rest

/-- an integer column read from a row selection of a lazily read table AFTER the selection was
compacted: `table[idx].col` = `get_digit_array` + `str_to_int` on the compacted text with the shifted
field starts -/
def lazyColumnInts (lines : List (List Bytes)) (col : Nat) (idx : List Nat) : Option (List Int) :=
  let all := lineRows col 0 lines
  let c := compact (tableText lines) (idx.map (fun i => all.getD i default))
  columnInts (c.2.map (fieldOf c.1))

/-- a field that `parse_with_missing` treats as absent: empty, or a lone `'.'` -/
def isMissing (r : Bytes) : Bool := r.length == 0 || r == [46]

/-- `values = full(n, missing); values[mask] = parsed` -/
def fillMissing (missing : Int) : List Bytes → List Int → List Int
  | [], _ => []
  | r :: rs, vals =>
    if isMissing r then missing :: fillMissing missing rs vals
    else vals.headD 0 :: fillMissing missing rs vals.tail

/-- `str_to_int_with_missing` -/
def strToIntWithMissing (rows : List Bytes) (missing : Int) : Option (List Int) :=
  let present := rows.filter (fun r => !isMissing r)
  match (if present = [] then some [] else strToInt present) with
  | none => none
  | some vals => some (fillMissing missing rows vals)

/-! ### `join`, `int_lists_to_strings`, `split` -/

/-- `join(sequences, sep, keep_last=True)` -/
def joinKeepLast (strs : List Bytes) (sep : Nat) : Bytes := (strs.map (· ++ [sep])).flatten

def intListsToStrings (rows : List (List Int)) (sep : Nat) (keepLast : Bool) : List Bytes :=
  let strs := intsToStrings rows.flatten
  let lens := unflatten (rows.map List.length) (strs.map List.length)
  let joined := joinKeepLast strs sep
  let rowLens := (lens.zip rows).map (fun (l, r) => l.sum + r.length)
  let ra := unflatten rowLens joined
  if keepLast then ra else ra.map List.dropLast

/-- `split(sequence, sep)`: a separator is appended, pieces end at separators, the separator
column is dropped -/
def splitAux (sep : Nat) (cur : Bytes) : Bytes → List Bytes
  | [] => [cur.reverse]
  | b :: bs => if b = sep then cur.reverse :: splitAux sep [] bs else splitAux sep (b :: cur) bs

def split (s : Bytes) (sep : Nat) : List Bytes := splitAux sep [] s

/-- `split(sequence, [sep₁, sep₂, …])`: pieces end at any byte satisfying `p` -/
def splitByAux (p : Nat → Bool) (cur : Bytes) : Bytes → List Bytes
  | [] => [cur.reverse]
  | b :: bs => if p b then cur.reverse :: splitByAux p [] bs else splitByAux p (b :: cur) bs

def splitBy (p : Nat → Bool) (s : Bytes) : List Bytes := splitByAux p [] s

/-- `join(sequences, sep, keep_last)` -/
def join (strs : List Bytes) (sep : Nat) (keepLast : Bool) : Bytes :=
  if keepLast then joinKeepLast strs sep else (joinKeepLast strs sep).dropLast

/-- `int_lists_to_strings(x, sep="")` (the `List[bool]` column writer): one digit character per
element, no separator; `none` = a value that is not a single digit -/
def digitListsToStrings (rows : List (List Nat)) : Option (List Bytes) :=
  omap (fun r => omap (fun d => if d < 10 then some (48 + d) else none) r) rows

/-- `int_to_str(n)` as repaired: the one-element batch of `ints_to_strings` -/
def intToStr (n : Int) : Bytes := (intsToStrings [n]).headD []

/-- `int_to_str(n)` as shipped before the repair: `L = int(log10(max(n, 1))) + 1` digits of `n`
(float width `w`, no sign handling) -/
def intToStrOld (w : Int → Nat) (n : Int) : Bytes :=
  (countdown (w (max n 1))).map (fun p => (48 + n / 10 ^ p.toNat % 10).toNat)

/-- a `List[int]` field read back: `str_to_int(split(text, sep))` -/
def splitParse (s : Bytes) (sep : Nat) : Option (List Int) := strToInt (split s sep)

/-! ### the digit-placement logic of `str_to_float` (exact decimal; IEEE rounding is not modelled) -/

/-- value `m · 10^e` -/
structure Dec where
  m : Int
  e : Int
deriving DecidableEq, Repr

/-- one row of `_build_power_array(shape, dots)`: `-1` fill, `0` at the dot, jump
`length - (1 if the row has a dot)`, cumsum -/
def powerRowDot (L : Nat) (dot : Option Nat) : List Int :=
  let a0 := List.replicate L (-1 : Int)
  let a1 := match dot with
    | some c => a0.set c 0
    | none => a0
  let a2 := a1.modifyHead (· + ((L : Int) - (if dot.isSome then 1 else 0)))
  cumsumFrom 0 a2

def findByte (b : Nat) (r : Bytes) : Option Nat :=
  let i := r.idxOf b
  if i < r.length then some i else none

/-- `_decimal_str_to_float` for one row, exactly: more than one dot or no digit at all raises
EncodingError; sign (`'-'` or `'+'`) → `'0'`, dot → `'0'`, digit-encode, `Σ digit·10^power`,
divided by `10^(digits after the dot)` -/
def decimalRow (row : Bytes) : Option Dec :=
  let neg := isNegRow row
  let pos := isPosRow row
  let nDots := row.count 46
  if nDots > 1 ∨ row.length - nDots - (if neg then 1 else 0) - (if pos then 1 else 0) < 1 then none else
  let r1 := if neg || pos then row.set 0 48 else row
  let dot := findByte 46 r1
  let r2 := match dot with
    | some c => r1.set c 48
    | none => r1
  match omap digitVal r2 with
  | none => none
  | some ds =>
    let L := row.length
    let base := ((ds.zip (powerRowDot L dot)).map (fun (d, p) => (d : Int) * 10 ^ p.toNat)).sum
    let expo : Nat := match dot with
      | some c => L - c - 1
      | none => 0
    some ⟨(if neg then -1 else 1) * base, -(expo : Int)⟩

/-- `_scientific_str_to_float` for one row: split at `'e'`, mantissa by `decimalRow`, exponent by
`str_to_int` -/
def scientificRow (row : Bytes) : Option Dec :=
  match findByte 101 row with
  | none => none
  | some c =>
    match decimalRow (row.take c), strToInt [row.drop (c + 1)] with
    | some d, some [p] => some ⟨d.m, d.e + p⟩
    | _, _ => none

def strToFloatRow (row : Bytes) : Option Dec :=
  if row.contains 101 then scientificRow row else decimalRow row

/-! ### Specification (what the property means; written independently of the code) -/

/-- canonical decimal text of an integer = core `Int.repr` -/
def decimal (n : Int) : Bytes := (toString n).toList.map Char.toNat

/-- value of a string of decimal digits (Horner) -/
def ofDigits (ds : List Nat) : Nat := ds.foldl (fun acc d => acc * 10 + d) 0

def allDigits (s : Bytes) : Bool := s.all (fun b => decide (48 ≤ b) && decide (b ≤ 57))

/-- value of a non-empty ASCII digit string -/
def specNat (s : Bytes) : Option Nat :=
  if s ≠ [] ∧ allDigits s = true then some (ofDigits (s.map (· - 48))) else none

/-- decimal integer text: optional sign, then at least one digit (leading zeros allowed) -/
def specParse (s : Bytes) : Option Int :=
  match s with
  | 45 :: r => match specNat r with
    | some v => some (-(v : Int))
    | none => none
  | 43 :: r => match specNat r with
    | some v => some (v : Int)
    | none => none
  | _ => match specNat s with
    | some v => some (v : Int)
    | none => none

/-- rows of integers joined by `sep` -/
def specJoin (rows : List (List Int)) (sep : Nat) (keepLast : Bool) : List Bytes :=
  rows.map (fun r => if keepLast then ((r.map decimal).map (· ++ [sep])).flatten
                     else List.intercalate [sep] (r.map decimal))

/-- digits only (possibly empty) -/
def specDigits (s : Bytes) : Option Nat :=
  if allDigits s = true then some (ofDigits (s.map (· - 48))) else none

/-- unsigned decimal mantissa `I[.F]` (not both empty): value `(I·10^|F| + F) / 10^|F|` -/
def specMantissa (s : Bytes) : Option Dec :=
  match findByte 46 s with
  | none => match specNat s with
    | some v => some ⟨(v : Int), 0⟩
    | none => none
  | some c =>
    let I := s.take c
    let F := s.drop (c + 1)
    if I = [] ∧ F = [] then none else
    match specDigits I, specDigits F with
    | some i, some f => some ⟨((i * 10 ^ F.length + f : Nat) : Int), -(F.length : Int)⟩
    | _, _ => none

def specSigned (s : Bytes) : Option Dec :=
  match s with
  | 45 :: r => (specMantissa r).map (fun d => ⟨-d.m, d.e⟩)
  | 43 :: r => specMantissa r
  | _ => specMantissa s

/-- decimal or lower-case scientific float text: `[±]I[.F][e[±]X]` -/
def specFloat (s : Bytes) : Option Dec :=
  match findByte 101 s with
  | none => specSigned s
  | some c =>
    match specSigned (s.take c), specParse (s.drop (c + 1)) with
    | some d, some x => some ⟨d.m, d.e + x⟩
    | _, _ => none

/-! ### `float_to_strings`: the shape of its output (Python `repr` of a finite double) -/

/-- non-empty run of digits -/
def digitRun (s : Bytes) : Bool := !s.isEmpty && allDigits s

/-- `repr(x)` for a finite double is `[-]D+.D+` or `[-]D+[.D+]e(+|-)DD+`: a text of the numeral grammar
(`specFloat` accepts it) that never starts with `'+'`, always shows a `'.'` or an exponent, and writes the
exponent with a sign and at least two digits -/
def reprGrammar (t : Bytes) : Bool :=
  (specFloat t).isSome &&
  (let body := if t.head? = some 45 then t.drop 1 else t
   match findByte 101 body with
   | none =>
     (match findByte 46 body with
      | some c => digitRun (body.take c) && digitRun (body.drop (c + 1))
      | none => false)
   | some k =>
     let mant := body.take k
     let ex := body.drop (k + 1)
     (match findByte 46 mant with
      | some c => digitRun (mant.take c) && digitRun (mant.drop (c + 1))
      | none => digitRun mant) &&
     (ex.head? == some 43 || ex.head? == some 45) && digitRun (ex.drop 1) && decide (2 ≤ (ex.drop 1).length))

/-- `str_to_float(float_to_strings(x))` at the level of the logic: the produced text, if it has the
`repr` shape, evaluated by the parser's logic -/
def reprParse (t : Bytes) : Option Dec := if reprGrammar t then strToFloatRow t else none

end C18
