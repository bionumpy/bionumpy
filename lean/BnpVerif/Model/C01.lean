/-! C01 — the chunked file reader. Executable model of `NumpyFileReader.read_chunk /
_get_buffer / __add_newline_to_end` driven the way `NpDataclassReader.read_chunks` drives it
(call `read_chunk` until it returns nothing), for an abstract format `Fmt`, in seek mode
(plain files) and carry/prepend mode (gzip). Core-only. -/
namespace C01

abbrev Bytes := List Nat
def NL : Nat := 10
def GT : Nat := 62

/-- What the reader needs to know about a buffer class. `complete` and `cutLen` are stated on the
concatenation of the pending raw chunks: all three buffer families decide completeness by
counting newline / "newline followed by marker" occurrences, which does not depend on how the
bytes are split into raw chunks (the chunk-list form is exercised by the correspondence). -/
structure Fmt where
  /-- `contains_complete_entry(temp_chunks)` -/
  complete : Bytes → Bool
  /-- `from_raw_buffer(chunk).size`: the prefix made of complete entries -/
  cutLen : Bytes → Nat
  /-- `_new_entry_marker` appended at end of file (`[]` when the class has none) -/
  marker : List Nat

def addNL (b : Bytes) : Bytes := if b.getLast? = some NL then b else b ++ [NL]

/-- `__add_newline_to_end` -/
def fixEnd (F : Fmt) (b : Bytes) : Bytes := addNL b ++ F.marker

inductive Mode | seek | carry
deriving DecidableEq, Repr

structure St where
  pos : Nat            -- offset of the OS file object
  carry : Bytes        -- `self._prepend`
  finished : Bool      -- `self._is_finished`
deriving Repr

/-- The `while not complete_entry_found` loop of `read_chunk`.
`acc` = concatenation of `temp_chunks`; `finPrev` = `_is_finished` before this raw read.
`newRule = true` is the repaired end-of-file rule: a raw read of 0 bytes while data is pending
terminates the pending data like a short read would; `false` is the rule the code shipped with
(return None, dropping what is pending).  Result: `none` = `read_chunk` returns None. -/
def accumulate (F : Fmt) (newRule : Bool) (file : Bytes) (k : Nat) :
    Nat → Nat → Bytes → Bool → Option (Bytes × Nat × Bool)
  | 0, _, _, _ => none
  | fuel+1, pos, acc, finPrev =>
    let raw := (file.drop pos).take k
    let fin := decide (raw.length < k)
    if raw.length = 0 then
      if newRule && !acc.isEmpty && !finPrev then
        let acc' := fixEnd F acc
        if F.complete acc' then some (acc', pos, true) else none
      else none
    else
      let acc' := acc ++ (if fin then fixEnd F raw else raw)
      if F.complete acc' then some (acc', pos + raw.length, fin)
      else accumulate F newRule file k fuel (pos + raw.length) acc' fin

/-- one call of `read_chunk(min_chunk_size=k)`; returns the delivered bytes and the new state -/
def readChunk (F : Fmt) (newRule : Bool) (mode : Mode) (file : Bytes) (k : Nat) (s : St) :
    Option (Bytes × St) :=
  match accumulate F newRule file k (file.length + 2) s.pos s.carry s.finished with
  | none => none
  | some (chunk, pos', fin) =>
    let n := F.cutLen chunk
    let s' : St :=
      if fin then { pos := pos', carry := [], finished := true }
      else match mode with
        | .seek => { pos := pos' - (chunk.length - n), carry := [], finished := false }
        | .carry => { pos := pos', carry := chunk.drop n, finished := false }
    some (chunk.take n, s')

/-- `read_chunks`: call `read_chunk` until it returns nothing (or an empty table) -/
def readLoop (F : Fmt) (newRule : Bool) (mode : Mode) (file : Bytes) (k : Nat) : Nat → St → List Bytes
  | 0, _ => []
  | fuel+1, s =>
    match readChunk F newRule mode file k s with
    | none => []
    | some (out, s') => if out.isEmpty then [] else out :: readLoop F newRule mode file k fuel s'

def init : St := { pos := 0, carry := [], finished := false }

def readAll (F : Fmt) (newRule : Bool) (mode : Mode) (file : Bytes) (k : Nat) : List Bytes :=
  readLoop F newRule mode file k (file.length + 2) init

/-! ### the `max_chunk_size` keyword: `read_chunk(min_chunk_size=k, max_chunk_size=cap)` raises
"No complete entry found" as soon as the pending bytes exceed `cap` (checked after every raw read,
before the completeness test) -/

inductive Res (α : Type) | ok (a : α) | stop | err
deriving Repr, DecidableEq

def accumulateCap (F : Fmt) (newRule : Bool) (file : Bytes) (k cap : Nat) :
    Nat → Nat → Bytes → Bool → Res (Bytes × Nat × Bool)
  | 0, _, _, _ => .stop
  | fuel+1, pos, acc, finPrev =>
    let raw := (file.drop pos).take k
    let fin := decide (raw.length < k)
    if raw.length = 0 then
      if newRule && !acc.isEmpty && !finPrev then
        let acc' := fixEnd F acc
        if acc'.length > cap then .err
        else if F.complete acc' then .ok (acc', pos, true) else .stop
      else .stop
    else
      let acc' := acc ++ (if fin then fixEnd F raw else raw)
      if acc'.length > cap then .err
      else if F.complete acc' then .ok (acc', pos + raw.length, fin)
      else accumulateCap F newRule file k cap fuel (pos + raw.length) acc' fin

def readChunkCap (F : Fmt) (newRule : Bool) (mode : Mode) (file : Bytes) (k cap : Nat) (s : St) :
    Res (Bytes × St) :=
  match accumulateCap F newRule file k cap (file.length + 2) s.pos s.carry s.finished with
  | .stop => .stop
  | .err => .err
  | .ok (chunk, pos', fin) =>
    let n := F.cutLen chunk
    let s' : St :=
      if fin then { pos := pos', carry := [], finished := true }
      else match mode with
        | .seek => { pos := pos' - (chunk.length - n), carry := [], finished := false }
        | .carry => { pos := pos', carry := chunk.drop n, finished := false }
    .ok (chunk.take n, s')

/-- `read_chunks(min_chunk_size=k, max_chunk_size=cap)` consumed to the end: `none` = it raised -/
def readLoopCap (F : Fmt) (newRule : Bool) (mode : Mode) (file : Bytes) (k cap : Nat) : Nat → St → Option (List Bytes)
  | 0, _ => some []
  | fuel+1, s =>
    match readChunkCap F newRule mode file k cap s with
    | .stop => some []
    | .err => none
    | .ok (out, s') =>
      if out.isEmpty then some [] else (readLoopCap F newRule mode file k cap fuel s').map (out :: ·)

def readAllCap (F : Fmt) (newRule : Bool) (mode : Mode) (file : Bytes) (k cap : Nat) : Option (List Bytes) :=
  readLoopCap F newRule mode file k cap (file.length + 2) init

/-! ### what the reader looks at when it stops (end-of-file test of fix a0fa304)

`read_chunk` tests for a truncated entry at two places: (site 1) when it gives up because nothing more can be read,
the chunks still pending (`temp_chunks` = the carried bytes and everything read since); (site 2) after the final
chunk was delivered, the bytes of that chunk behind the delivered buffer (`chunk[buff.size:]`). -/

def isBlank (b : Bytes) : Bool := b.all (fun x => x == NL || x == 13)

/-- the bytes examined by the call of `read_chunk` made in state `s` -/
def restOf (F : Fmt) (file : Bytes) (k : Nat) (s : St) : Bytes :=
  match accumulate F true file k (file.length + 2) s.pos s.carry s.finished with
  | none => s.carry ++ file.drop s.pos                                   -- site 1: the pending chunks
  | some (chunk, _, fin) => if fin then chunk.drop (F.cutLen chunk) else []   -- site 2: behind the final buffer

/-- `read_chunks` to the end: the bytes examined by the call that ends the iteration -/
def readLoopRest (F : Fmt) (mode : Mode) (file : Bytes) (k : Nat) : Nat → St → Bytes
  | 0, _ => []
  | fuel+1, s =>
    match readChunk F true mode file k s with
    | none => restOf F file k s
    | some (out, s') =>
      if out.isEmpty then []
      else if s'.finished then restOf F file k s
      else readLoopRest F mode file k fuel s'

def readAllRest (F : Fmt) (mode : Mode) (file : Bytes) (k : Nat) : Bytes :=
  readLoopRest F mode file k (file.length + 2) init

/-- `NumpyFileReader.read()`: the whole file at once -/
def readWhole (F : Fmt) (file : Bytes) : Bytes :=
  if file.isEmpty then [] else
  let c := fixEnd F file
  c.take (F.cutLen c)

/-! ### format instances -/

def countNL (b : Bytes) : Nat := b.count NL

/-- length of the prefix up to and including the `m`-th newline (1-based); whole length if fewer -/
def prefixThroughNL : Nat → Bytes → Nat
  | 0, _ => 0
  | _, [] => 0
  | m+1, x :: xs => if x = NL then 1 + prefixThroughNL m xs else 1 + prefixThroughNL (m+1) xs

/-- `DelimitedBuffer` (n = 1), `OneLineBuffer` two-line FASTA (n = 2), `FastQBuffer` (n = 4):
complete when at least `n` newlines are pending; cut after the last newline whose ordinal is a
multiple of `n`. -/
def Fmt.kLine (n : Nat) : Fmt where
  complete := fun b => decide (n ≤ countNL b)
  cutLen := fun b => prefixThroughNL (countNL b - countNL b % n) b
  marker := []

/-- index of the last `>` that directly follows a newline: the start of the last entry header
other than one that opens the buffer; 0 if there is none -/
def lastEntryStart : Bytes → Nat
  | [] => 0
  | [_] => 0
  | x :: y :: rest =>
    let r := lastEntryStart (y :: rest)
    if r > 0 then r + 1 else if x = NL ∧ y = GT then 1 else 0

def hasEntryBreak (b : Bytes) : Bool := lastEntryStart b > 0

/-- `MultiLineFastaBuffer`: complete when some newline is directly followed by `>`;
the buffer ends where the last such `>` begins; `>` is appended at end of file. -/
def Fmt.fasta : Fmt where
  complete := hasEntryBreak
  cutLen := lastEntryStart
  marker := [GT]

/-! ### specification side -/

/-- the content a reader must deliver: the file, newline-terminated -/
def norm (file : Bytes) : Bytes := if file.isEmpty then [] else addNL file

/-- lines of a newline-terminated byte string -/
def linesOf : Bytes → List Bytes
  | [] => []
  | x :: xs =>
    if x = NL then [] :: linesOf xs
    else match linesOf xs with
      | [] => [[x]]          -- unterminated tail (does not occur for norm'ed input)
      | l :: ls => (x :: l) :: ls

/-- consecutive groups of `n` (the entries of an `n`-lines-per-entry format, as lists of lines) -/
def groupsOf {α} (n : Nat) (l : List α) : List (List α) :=
  (List.range (l.length / n)).map (fun i => (l.drop (i * n)).take n)

/-- entries of a FASTQ (n = 4) / two-line FASTA (n = 2) / delimited (n = 1) byte string -/
def entriesK (n : Nat) (b : Bytes) : List (List Bytes) := groupsOf n (linesOf b)

/-! ### specification side, continued: records of wrapped FASTA; per-chunk carriage-return stripping; capped reads -/

def isHdr (l : Bytes) : Bool := l.head? == some GT

/-- group lines into records: a header line opens a new record -/
def splitRec : List Bytes → List Bytes → List (List Bytes)
  | [], cur => if cur = [] then [] else [cur]
  | l :: ls, cur => if isHdr l ∧ cur ≠ [] then cur :: splitRec ls [l] else splitRec ls (cur ++ [l])

/-- the records of a (newline-terminated) wrapped FASTA text -/
def recordsFasta (b : Bytes) : List (List Bytes) := splitRec (linesOf b) []


def CR : Nat := 13
def endsCR (l : Bytes) : Bool := l.getLast? == some CR
def dropCR (l : Bytes) : Bytes := if endsCR l then l.dropLast else l

/-- what one buffer makes of its lines -/
def parseLines : List Bytes → List Bytes
  | [] => []
  | l :: ls => if endsCR l then (l :: ls).map dropCR else l :: ls

/-- an LF file: no line ends with a carriage return -/
def AllLF (ls : List Bytes) : Prop := ∀ l ∈ ls, endsCR l = false
/-- a CRLF file: every line ends with a carriage return, except possibly the last one (no final line end) -/
def AllCRLF (ls : List Bytes) : Prop := ∃ init last, ls = init ++ [last] ∧ ∀ l ∈ init, endsCR l = true


def toRes {α} : Option α → Res α
  | some a => .ok a
  | none => .stop


/-- reader states reached from `init`: the carried tail consists of bytes already read -/
def StOK (file : Bytes) (s : St) : Prop := s.carry.length ≤ s.pos ∧ s.pos ≤ file.length


end C01
