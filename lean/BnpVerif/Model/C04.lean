import BnpVerif.Base.PyIdx
/-! C04 — pass-through of unmodified records. Executable model of
`TextThroughputExtractor.__getitem__/concatenate/_make_contigous/data/get_fields_by_range`,
`TextBufferExtractor.get_field_by_number`, `SAMBufferExctractor._get_extra_field`,
`DelimitedBuffer._get_buffer_extractor/_modify_for_carriage_return/join_fields` (via `join_columns`),
`OneLineBuffer._get_buffer_extractor/_modify_for_carriage_return/join_fields`, `FastQBuffer.join_fields`,
`SAMBuffer._get_buffer_extractor`, `BamBufferExtractor.__getitem__/_make_contigous/data`,
`BamBuffer._find_starts`, `LazyBNPDataClass.get_buffer`, plus the property-level Spec
(programs over lists of records). Imports `Base/PyIdx` only, which needs core Lean alone. -/
namespace C04
open PyIdx

abbrev Bytes := List Nat

/-- `data[s : s+l]` (a `RaggedView2(starts, lens)` row) -/
def slice {α} (d : List α) (s l : Nat) : List α := (d.drop s).take l

/-! ### the extractor (struct of parallel arrays, as the code keeps it) -/

structure Ext where
  data : Bytes
  fStart : List (List Nat)     -- n_entries × n_fields
  fLen : List (List Nat)
  eStart : List Nat
  eEnd : List Nat
  contiguous : Bool
  deriving Repr, DecidableEq

structure Row where
  fS : List Nat
  fL : List Nat
  eS : Nat
  eE : Nat
  deriving Repr, DecidableEq

def Ext.len (e : Ext) : Nat := e.fStart.length

/-- the i-th entries of the four parallel arrays -/
def Ext.rows (e : Ext) : List Row :=
  List.zipWith (fun (p : List Nat × List Nat) (q : Nat × Nat) => Row.mk p.1 p.2 q.1 q.2)
    (List.zip e.fStart e.fLen) (List.zip e.eStart e.eEnd)

def Ext.ofRows (data : Bytes) (rs : List Row) (c : Bool) : Ext :=
  ⟨data, rs.map (·.fS), rs.map (·.fL), rs.map (·.eS), rs.map (·.eE), c⟩

/-- `TextThroughputExtractor.__getitem__` with the index already resolved to positions:
the same index is applied to all four arrays, the data is shared, `is_contiguous=False` -/
def Ext.select (e : Ext) (ixs : List Nat) : Ext :=
  { data := e.data, fStart := gather e.fStart ixs, fLen := gather e.fLen ixs,
    eStart := gather e.eStart ixs, eEnd := gather e.eEnd ixs, contiguous := false }

def Ext.index (e : Ext) (ix : Idx) : Option Ext := (ix.toList e.len).map e.select

/-- `TextThroughputExtractor.concatenate`: `off` is the running sum of the data sizes of the
buffers already placed (`offsets = insert(cumsum(sizes), 0, 0)`), all offsets are shifted by it -/
def concatFrom (off : Nat) : List Ext → Ext
  | [] => ⟨[], [], [], [], [], true⟩
  | e :: es =>
    let r := concatFrom (off + e.data.length) es
    { data := e.data ++ r.data,
      fStart := e.fStart.map (·.map (· + off)) ++ r.fStart,
      fLen := e.fLen ++ r.fLen,
      eStart := e.eStart.map (· + off) ++ r.eStart,
      eEnd := e.eEnd.map (· + off) ++ r.eEnd,
      contiguous := e.contiguous && r.contiguous }

def Ext.concat (es : List Ext) : Ext := concatFrom 0 es

/-- `_make_contigous`, row by row: `acc` = `new_starts[i]` = sum of the previous record lengths;
`field_starts - (entry_starts - new_starts)` is written `fs + acc - eS` (equal whenever the
field lies inside its record, which is the invariant `WF`) -/
def compactRows (data : Bytes) : Nat → List Row → List Row × Bytes
  | _, [] => ([], [])
  | acc, r :: rs =>
    let n := r.eE - r.eS
    let rest := compactRows data (acc + n) rs
    ({ fS := r.fS.map (fun s => s + acc - r.eS), fL := r.fL, eS := acc, eE := acc + n } :: rest.1,
     slice data r.eS n ++ rest.2)

def Ext.compact (e : Ext) : Ext :=
  let r := compactRows e.data 0 e.rows
  Ext.ofRows r.2 r.1 true

/-- the `data` property: compacts (in place) when not contiguous. Returns the new state too. -/
def Ext.touch (e : Ext) : Ext := if e.contiguous then e else e.compact

def Ext.bytes (e : Ext) : Bytes := e.touch.data

/-- `get_field_by_number(j)` : the text of column j of every entry -/
def Ext.fieldText (e : Ext) (j : Nat) : List Bytes :=
  e.rows.map (fun r => slice e.data (r.fS.getD j 0) (r.fL.getD j 0))

/-- `get_fields_by_range(from_nr=j)` (VCF "rest of line"): shipped rule, measured from `entry_ends` -/
def Ext.restOld (e : Ext) (j : Nat) : List Bytes :=
  e.rows.map (fun r => slice e.data (r.fS.getD j 0) (r.eE - r.fS.getD j 0 - 1))

/-- `get_fields_by_range(from_nr=j)` after the repair: up to the end of the last (CR-stripped) field -/
def Ext.rest (e : Ext) (j : Nat) : List Bytes :=
  e.rows.map (fun r => slice e.data (r.fS.getD j 0) (r.fS.getLastD 0 + r.fL.getLastD 0 - r.fS.getD j 0))

def byteAt (d : Bytes) (i : Nat) : Nat := d.getD i 0

/-- `SAMBufferExctractor._get_extra_field` as shipped: measured from `entry_ends` (which was CR-adjusted) -/
def Ext.samExtraOld (e : Ext) : List Bytes :=
  e.rows.map (fun r =>
    let st := r.fS.getLastD 0 + r.fL.getLastD 0 + 1
    slice e.data st (r.eE - st - 1))

/-- `SAMBufferExctractor._get_extra_field` (repaired): everything after the 11th field and its
separator, up to the line terminator ("\n" or "\r\n") -/
def Ext.samExtra (e : Ext) : List Bytes :=
  e.rows.map (fun r =>
    let st := r.fS.getLastD 0 + r.fL.getLastD 0 + 1
    let lineEnd := r.eE - 1 - (if byteAt e.data (r.eE - 2) == 13 then 1 else 0)
    slice e.data st (lineEnd - st))

/-! ### construction from a raw chunk -/

def posFrom (p : Nat → Bool) : Nat → Bytes → List Nat
  | _, [] => []
  | k, b :: bs => if p b then k :: posFrom p (k + 1) bs else posFrom p (k + 1) bs

def chunksOf {α} (n : Nat) : Nat → List α → List (List α)
  | 0, _ => []
  | f + 1, l => if l.isEmpty || n == 0 then [] else l.take n :: chunksOf n f (l.drop n)

/-- subtract one from the end of the last field of a row when the byte before it is CR -/
def stripCR (d : Bytes) (ends : List Nat) : List Nat :=
  match ends.getLast? with
  | none => ends
  | some e => ends.dropLast ++ [if byteAt d (e - 1) == 13 then e - 1 else e]

/-- `DelimitedBuffer.from_raw_buffer` + `_get_buffer_extractor` + `_modify_for_carriage_return`.
`fixed = false` is the shipped rule `entry_ends = ends[:, -1] + 1` *after* the CR adjustment;
`fixed = true` is the repaired rule (record end = one past the newline). -/
def buildDelimited (fixed : Bool) (sep : Nat) (raw : Bytes) : Option Ext :=
  let isDelim := fun b => b == 10 || b == sep
  let delims := posFrom isDelim 0 raw              -- flatnonzero(mask)
  let dchars := raw.filter isDelim                  -- chunk[delimiters]
  match (posFrom (· == 10) 0 raw).getLast? with    -- delimiters[entry_ends[-1]]
  | none => none
  | some lastNl =>
    let nCols := dchars.findIdx (· == 10) + 1      -- entry_ends[0] + 1
    let data := raw.take (lastNl + 1)
    let ds := delims.filter (· ≤ lastNl)
    let starts := (0 :: ds.dropLast.map (· + 1))
    let sRows := chunksOf nCols ds.length starts
    let eRows := chunksOf nCols ds.length ds
    if ds.length % nCols != 0 then none else
    let cr := match eRows.head? with
      | some r0 => (r0.getLastD 0 != 0) && byteAt data (r0.getLastD 0 - 1) == 13
      | none => false
    let eRows' := if cr then eRows.map (stripCR data) else eRows
    some { data := data, fStart := sRows,
           fLen := List.zipWith (fun ss es => List.zipWith (fun s e => e - s) ss es) sRows eRows',
           eStart := sRows.map (·.headD 0),
           eEnd := (if fixed then eRows else eRows').map (fun r => r.getLastD 0 + 1),
           contiguous := true }

/-- `RaggedArray(delimiters, n_fields)` with `n_fields` = the gaps between the newlines among the delimiter
characters (`chunk[delimiters]`): the delimiter positions regrouped line by line (each group ends with a newline position;
delimiters after the last newline are dropped) -/
def splitGroups : List Nat → List Nat → List Nat → List (List Nat)
  | c :: cs, p :: ps, cur => if c == 10 then (cur ++ [p]) :: splitGroups cs ps [] else splitGroups cs ps (cur ++ [p])
  | _, _, _ => []

/-- `SAMBuffer._get_buffer_extractor` (+ its `_modify_for_carriage_return`): the first 11 columns
are fields, the record runs to one past the newline; when the first line ends in CR, a CR before
each line's newline is stripped from the line's last column -/
def buildSam (raw : Bytes) : Option Ext :=
  let delims := posFrom (fun b => b == 10 || b == 9) 0 raw
  let groups := splitGroups (raw.filter (fun b => b == 10 || b == 9)) delims []
  match groups.getLast? with
  | none => none
  | some lastG =>
    let lastNl := lastG.getLastD 0
    let data := raw.take (lastNl + 1)
    let lineStarts := 0 :: (groups.dropLast.map (fun g => g.getLastD 0 + 1))
    let cr := match groups.head? with
      | some g0 => (g0.getLastD 0 != 0) && byteAt data (g0.getLastD 0 - 1) == 13
      | none => false
    if groups.any (fun g => g.length < 11) then none else
    let groups' := if cr then groups.map (stripCR data) else groups
    let sRows := List.zipWith (fun ls g => (ls :: g.map (· + 1)).take 11) lineStarts groups
    let eRows := groups'.map (·.take 11)
    some { data := data, fStart := sRows,
           fLen := List.zipWith (fun ss es => List.zipWith (fun s e => e - s) ss es) sRows eRows,
           eStart := lineStarts,
           eEnd := groups.map (fun g => g.getLastD 0 + 1),
           contiguous := true }

/-- `OneLineBuffer.from_raw_buffer` + `_get_buffer_extractor` + `_modify_for_carriage_return`
for `k` lines per entry with per-line start offsets `offs` (FASTA `[1,0]`, FASTQ `[1,0,0,0]`) -/
def buildKLine (k : Nat) (offs : List Nat) (raw : Bytes) : Option Ext :=
  let nlAll := posFrom (· == 10) 0 raw
  if nlAll.length < k || k == 0 then none else
  let nls := nlAll.take (nlAll.length - nlAll.length % k)
  let data := raw.take (nls.getLastD 0 + 1)
  let tmp := 0 :: nls.map (· + 1)
  let endRows := chunksOf k nls.length nls
  let guard := match endRows.head? with
    | some r0 => r0.headD 0 < 1
    | none => true
  let cr := !guard && ((endRows.take k).any (fun r => byteAt data (r.headD 0 - 1) == 13))
  let endRows' := if cr then endRows.map (·.map (fun e => if byteAt data (e - 1) == 13 then e - 1 else e)) else endRows
  let startRows := (chunksOf k nls.length tmp.dropLast).map (fun r => List.zipWith (· + ·) r offs)
  let lineStartRows := chunksOf k nls.length tmp.dropLast
  some { data := data, fStart := startRows,
         fLen := List.zipWith (fun ss es => List.zipWith (fun s e => e - s) ss es) startRows endRows',
         eStart := lineStartRows.map (·.headD 0),
         eEnd := endRows.map (fun r => r.getLastD 0 + 1),
         contiguous := true }

/-! ### writing modified data: `LazyBNPDataClass.get_buffer` → `join_fields` -/

def transposeN {α} (n : Nat) (cols : List (List (List α))) : List (List (List α)) :=
  (List.range n).map (fun i => cols.map (fun c => c.getD i []))

def intercalate (sep : Bytes) : List Bytes → Bytes
  | [] => []
  | [x] => x
  | x :: y :: r => x ++ sep ++ intercalate sep (y :: r)

/-- `join_columns(columns, sep).ravel()`: every row is its fields separated by `sep`, then "\n" -/
def joinDelimited (sep : Nat) (n : Nat) (cols : List (List Bytes)) : Bytes :=
  ((transposeN n cols).map (fun r => intercalate [sep] r ++ [10])).flatten

/-- `OneLineBuffer.join_fields`: line i = (header char if i = 0) ++ field ++ "\n" -/
def joinKLine (header : Nat) (n : Nat) (cols : List (List Bytes)) : Bytes :=
  ((transposeN n cols).map (fun r =>
     match r with
     | [] => []
     | h :: t => (header :: h ++ [10]) ++ (t.map (· ++ [10])).flatten)).flatten

/-! ### BAM: records are `block_size`-prefixed blobs -/

def le32 (d : Bytes) (i : Nat) : Nat := byteAt d i + 256 * byteAt d (i + 1) + 65536 * byteAt d (i + 2) + 16777216 * byteAt d (i + 3)

/-- `BamBuffer._find_starts`: follow the block sizes while the record fits -/
def bamStarts (d : Bytes) : Nat → Nat → List Nat
  | 0, _ => []
  | f + 1, s => if s ≤ d.length then s :: (if s + 4 ≤ d.length then bamStarts d f (s + le32 d s + 4) else []) else []

def buildBam (raw : Bytes) : Ext :=
  let st := bamStarts raw (raw.length + 1) 0
  { data := raw.take (st.getLastD 0), fStart := st.dropLast.map (fun _ => []), fLen := st.dropLast.map (fun _ => []),
    eStart := st.dropLast, eEnd := st.drop 1, contiguous := true }

/-! ### Specification: a table is a list of records; programs over tables -/

/-- a record = its raw bytes + the table of (offset, length) of its fields relative to the record -/
structure Rec where
  raw : Bytes
  rel : List (Nat × Nat)
  deriving Repr, DecidableEq

def Rec.field (r : Rec) (j : Nat) : Bytes :=
  match r.rel[j]? with
  | some (s, l) => slice r.raw s l
  | none => []

def absRow (data : Bytes) (r : Row) : Rec :=
  ⟨slice data r.eS (r.eE - r.eS), List.zipWith (fun s l => (s - r.eS, l)) r.fS r.fL⟩

/-- abstraction function: the list of records an extractor denotes -/
def Ext.abs (e : Ext) : List Rec := e.rows.map (absRow e.data)

/-- selection / concatenation programs (leaf k = the k-th table read from a file;
`touch` = the bytes were asked for in between, which compacts the extractor in place) -/
inductive Prog where
  | leaf (k : Nat)
  | sel (p : Prog) (ix : Idx)
  | cat (p q : Prog)
  | catRange (a n : Nat)        -- np.concatenate of tables a .. a+n-1 (n-ary concatenate)
  | touch (p : Prog)
  | seq (p q : Prog)            -- evaluate p (e.g. write a child of a shared table), discard it, continue with q
  deriving Repr

def Prog.evalExt (tabs : List Ext) : Prog → Option Ext
  | .leaf k => tabs[k]?
  | .sel p ix => (p.evalExt tabs).bind (fun e => e.index ix)
  | .cat p q =>
    match p.evalExt tabs, q.evalExt tabs with
    | some a, some b => some (Ext.concat [a, b])
    | _, _ => none
  | .catRange a n => if a + n ≤ tabs.length ∧ 0 < n then some (Ext.concat ((tabs.drop a).take n)) else none
  | .touch p => (p.evalExt tabs).map Ext.touch
  | .seq p q => (p.evalExt tabs).bind (fun _ => q.evalExt tabs)

def Prog.evalSpec {α} (tabs : List (List α)) : Prog → Option (List α)
  | .leaf k => tabs[k]?
  | .sel p ix => (p.evalSpec tabs).bind (fun l => pyIndex l ix)
  | .cat p q =>
    match p.evalSpec tabs, q.evalSpec tabs with
    | some a, some b => some (a ++ b)
    | _, _ => none
  | .catRange a n => if a + n ≤ tabs.length ∧ 0 < n then some ((tabs.drop a).take n).flatten else none
  | .touch p => p.evalSpec tabs
  | .seq p q => (p.evalSpec tabs).bind (fun _ => q.evalSpec tabs)

/-- what the property says is written: the selected records' original bytes, in order -/
def specBytes (recs : List Rec) : Bytes := (recs.map (·.raw)).flatten

/-- what the property says a modified write contains: per record, field j is the new text if j
was replaced, the original text otherwise -/
def specFields (nF : Nat) (repl : List (Nat × List Bytes)) (recs : List Rec) : List (List Bytes) :=
  (List.range recs.length).map (fun i =>
    (List.range nF).map (fun j =>
      match repl.find? (·.1 == j) with
      | some (_, col) => col.getD i []
      | none => ((recs[i]?).map (·.field j)).getD []))

end C04

namespace C04
/-! ### eager fallback: buffers without `concatenate` (FASTQ, two-line FASTA)
`np.concatenate` on such lazy tables materialises them (`get_data_object`: every entry-type field is
fetched as text) and yields an eager table; a table is then either a pass-through extractor or rows of
field texts (the fields in question are text columns, parsing and formatting them is the identity). -/

def transposeRows (n : Nat) (cols : List (List Bytes)) : List (List Bytes) :=
  (List.range n).map (fun i => cols.map (fun c => c.getD i []))

/-- the entry-type fields (buffer field numbers `fidx`) of every record, as text -/
def Ext.entryRows (fidx : List Nat) (e : Ext) : List (List Bytes) := transposeRows e.len (fidx.map e.fieldText)

inductive Tab where
  | lz (e : Ext)
  | eg (rows : List (List Bytes))
  deriving Repr

def Tab.rows (fidx : List Nat) : Tab → List (List Bytes)
  | .lz e => e.entryRows fidx
  | .eg r => r

def Prog.evalTab (canCat : Bool) (fidx : List Nat) (tabs : List Ext) : Prog → Option Tab
  | .leaf k => (tabs[k]?).map Tab.lz
  | .sel p ix =>
    match p.evalTab canCat fidx tabs with
    | some (.lz e) => (e.index ix).map Tab.lz
    | some (.eg r) => (PyIdx.pyIndex r ix).map Tab.eg
    | none => none
  | .cat p q =>
    match p.evalTab canCat fidx tabs, q.evalTab canCat fidx tabs with
    | some (.lz a), some (.lz b) =>
      if canCat then some (.lz (Ext.concat [a, b])) else some (.eg (a.entryRows fidx ++ b.entryRows fidx))
    | some a, some b => some (.eg (a.rows fidx ++ b.rows fidx))
    | _, _ => none
  | .catRange a n =>
    if a + n ≤ tabs.length ∧ 0 < n then
      (if canCat then some (.lz (Ext.concat ((tabs.drop a).take n)))
       else some (.eg (((tabs.drop a).take n).map (·.entryRows fidx)).flatten))
    else none
  | .touch p =>
    match p.evalTab canCat fidx tabs with
    | some (.lz e) => some (.lz e.touch)
    | some (.eg r) => some (.eg r)
    | none => none
  | .seq p q => (p.evalTab canCat fidx tabs).bind (fun _ => q.evalTab canCat fidx tabs)
end C04

namespace C04
/-! ### executable checker of the representation invariant (proved sound in Props; the driver
evaluates it on every extractor built from a generated file) -/
def rowWFb (dlen : Nat) (r : Row) : Bool :=
  decide (r.eS ≤ r.eE) && decide (r.eE ≤ dlen) && (r.fS.length == r.fL.length) &&
  r.fS.all (fun s => decide (r.eS ≤ s)) && (List.zip r.fS r.fL).all (fun p => decide (p.1 + p.2 ≤ r.eE))

def Ext.invB (e : Ext) : Bool :=
  (e.fLen.length == e.fStart.length) && (e.eStart.length == e.fStart.length) && (e.eEnd.length == e.fStart.length) &&
  e.rows.all (rowWFb e.data.length) && (!e.contiguous || e.data == specBytes e.abs)

/-- rest of line from field j, as a function of the abstract record -/
def Rec.rest (r : Rec) (j : Nat) : Bytes :=
  match r.rel[j]?, r.rel.getLast? with
  | some (s, _), some (ls, ll) => slice r.raw s (ls + ll - s)
  | _, _ => []

/-- everything after the last regular field and its separator, up to the line terminator
("\n" or "\r\n") (SAM tags) -/
def Rec.extra (r : Rec) : Bytes :=
  match r.rel.getLast? with
  | some (ls, ll) =>
    let lineEnd := r.raw.length - 1 - (if byteAt r.raw (r.raw.length - 2) == 13 then 1 else 0)
    slice r.raw (ls + ll + 1) (lineEnd - (ls + ll + 1))
  | none => []
end C04

namespace C04
/-- which rule the current tree uses for the record end of delimited formats
(false = shipped `ends[:, -1] + 1` after CR stripping, true = repaired) -/
def delimitedFixed : Bool := true

/-! ### modified writes as the driver runs them: `LazyBNPDataClass.get_buffer` fetches every entry-type column that was not
replaced as text (`get_field_range_as_text`) and hands the columns to the buffer class's `join_fields` -/

/-- how one column of the entry type is fetched from the extractor -/
inductive ColKind where
  | field (k : Nat)     -- `get_field_by_number(k)`
  | rest (k : Nat)      -- `get_fields_by_range(from_nr = k)` (VCF genotype columns)
  | extra               -- `SAMBufferExctractor._get_extra_field` (SAM tags)
  deriving Repr, DecidableEq

/-- the entry type's columns per format (FASTQ's third entry field is the fourth line) -/
def colKinds (fmt : String) (nF : Nat) : List ColKind :=
  (List.range nF).map (fun j =>
    match fmt, j with
    | "sam", 11 => ColKind.extra
    | "vcfg", 8 => ColKind.rest 8
    | "fastq", 2 => ColKind.field 3
    | _, _ => ColKind.field j)

def Ext.col (e : Ext) : ColKind → List Bytes
  | .field k => e.fieldText k
  | .rest k => if delimitedFixed then e.rest k else e.restOld k
  | .extra => e.samExtra

/-- the columns `get_buffer` assembles: replaced columns as given, the others fetched as text -/
def Ext.columns (kinds : List ColKind) (repl : List (Nat × List Bytes)) (e : Ext) : List (List Bytes) :=
  (List.range kinds.length).map (fun j =>
    match repl.find? (·.1 == j) with
    | some (_, col) => col
    | none => e.col (kinds.getD j (.field j)))

/-- the writer's record layout -/
inductive Layout where
  | delimited (sep : Nat)                 -- `DelimitedBuffer.join_fields`
  | kline (header : Nat) (plus : Bool)    -- `OneLineBuffer.join_fields`; `plus`: FASTQ inserts a '+' line before the quality
  deriving Repr

/-- `join_fields` on the assembled columns -/
def writeCols (lay : Layout) (n : Nat) (cols : List (List Bytes)) : Bytes :=
  match lay with
  | .delimited sep => joinDelimited sep n cols
  | .kline h false => joinKLine h n cols
  | .kline h true => joinKLine h n (cols.take 2 ++ [List.replicate n [43]] ++ cols.drop 2)

/-- what `bnp.open(out, "w").write(t)` hands to the file for a lazy table with replaced columns (or a foreign writer) -/
def Ext.writeModified (lay : Layout) (kinds : List ColKind) (repl : List (Nat × List Bytes)) (e : Ext) : Bytes :=
  writeCols lay e.len (e.columns kinds repl)

/-- the same for an eager table (rows of field texts) -/
def writeRowsModified (lay : Layout) (nF : Nat) (repl : List (Nat × List Bytes)) (rows : List (List Bytes)) : Bytes :=
  writeCols lay rows.length ((List.range nF).map (fun j =>
    match repl.find? (·.1 == j) with
    | some (_, col) => col
    | none => rows.map (fun r => r.getD j [])))

/-- the specification of a column: a function of the abstract record alone -/
def Rec.col (r : Rec) : ColKind → Bytes
  | .field k => r.field k
  | .rest k => r.rest k
  | .extra => r.extra

/-- one record of a modified write: replaced columns take the new text of this record, the others its original text -/
def specRow (kinds : List ColKind) (repl : List (Nat × List Bytes)) (i : Nat) (r : Rec) : List Bytes :=
  (List.range kinds.length).map (fun j =>
    match repl.find? (·.1 == j) with
    | some (_, col) => col.getD i []
    | none => r.col (kinds.getD j (.field j)))

def specRows (kinds : List ColKind) (repl : List (Nat × List Bytes)) (recs : List Rec) : List (List Bytes) :=
  (List.range recs.length).map (fun i => specRow kinds repl i (recs.getD i ⟨[], []⟩))

/-- the bytes of one written record -/
def layoutRow : Layout → List Bytes → Bytes
  | .delimited sep, row => intercalate [sep] row ++ [10]
  | .kline h plus, row =>
    match (if plus then row.take 2 ++ [[43]] ++ row.drop 2 else row) with
    | [] => []
    | x :: t => (h :: x ++ [10]) ++ (t.map (· ++ [10])).flatten
end C04
