import BnpVerif.Base.Opt
/-! C10 — genome-wide operations respect chromosome boundaries.

Executable model of `genomic_data/global_offset.py` (prefix sums, `searchsorted(side="right") - 1`,
bound checks), of the name → index encoding and ignored-chromosome filtering of
`GenomeContext.__init__/mask_data`, and of the whole-genome operations of
`genomic_intervals.py` / `geometry.py` / `genomic_track.py` as "shift to the concatenated
coordinate space, run the single-contig operation there, cut the result back per chromosome",
plus the property-level specification ("the single-contig operation on that chromosome's entries
alone"). The single-contig operations themselves (`arithmetics/intervals.py`: pile-up, mask,
merge, clip, extend) are modelled by their list-level meaning; their own correctness is C08.
Imports nothing outside core Lean but `Base/Opt` (`omap`). -/
namespace C10
open Base

/-! ## GlobalOffset -/

/-- `np.insert(np.cumsum(sizes), 0, 0)` -/
def offsets : List Nat → List Nat
  | [] => [0]
  | s :: ss => 0 :: (offsets ss).map (· + s)

def total (sizes : List Nat) : Nat := sizes.sum
/-- `self._offset[c]` -/
def offset (sizes : List Nat) (c : Nat) : Nat := (offsets sizes).getD c 0
/-- `self._sizes[c]` -/
def size (sizes : List Nat) (c : Nat) : Nat := sizes.getD c 0

/-- `np.searchsorted(a, g, side="right")` on a non-decreasing array: number of leading elements ≤ g -/
def searchsortedRight (a : List Nat) (g : Nat) : Nat := (a.takeWhile (· ≤ g)).length

/-- `np.searchsorted(self._offset, g, side="right") - 1` -/
def chromIdx (sizes : List Nat) (g : Nat) : Nat := searchsortedRight (offsets sizes) g - 1

/-- `to_local_coordinates` -/
def toLocal (sizes : List Nat) (g : Nat) : Nat × Nat :=
  (chromIdx sizes g, g - offset sizes (chromIdx sizes g))

/-- `from_local_coordinates`: raises when `p ≥ size` (an unknown chromosome raises in the name encoding) -/
def fromLocal (sizes : List Nat) (c p : Nat) : Option Nat :=
  if c < sizes.length ∧ p < size sizes c then some (offset sizes c + p) else none

/-! ### Specification of the coordinate map (written independently: walk the chromosomes) -/

def specToLocal : List Nat → Nat → Nat × Nat
  | [], g => (0, g)
  | s :: ss, g => if g < s then (0, g) else ((specToLocal ss (g - s)).1 + 1, (specToLocal ss (g - s)).2)

def specOffset (sizes : List Nat) (c : Nat) : Nat := (sizes.take c).sum

/-! ## Entries -/

/-- an interval entry with valid (non-negative) coordinates; `fwd = false` is the `-` strand -/
structure Iv where
  c : Nat
  s : Nat
  e : Nat
  fwd : Bool := true
deriving DecidableEq, Repr, Inhabited

/-- an interval entry whose coordinates may lie outside the chromosome (input of clip / extend / windows) -/
structure IvZ where
  c : Nat
  s : Int
  e : Int
  fwd : Bool := true
deriving DecidableEq, Repr, Inhabited

/-- the interval lies inside its own chromosome (the domain of the whole-genome operations):
`start < size`, `stop ≤ size` and (since repair 0868386) `start ≤ stop` are what `start_ends_from_intervals` checks;
`0 ≤ start` is checked on the integer input, see `IvZ.checked` -/
def Iv.valid (sizes : List Nat) (iv : Iv) : Bool :=
  iv.c < sizes.length && iv.s < size sizes iv.c && iv.e ≤ size sizes iv.c && iv.s ≤ iv.e

/-! ## Integer input: negative coordinates (repair 0868386) -/

/-- `start_ends_from_intervals` on the integer columns: a negative start raises (it would reach into the previous
chromosome), so does a stop before the start; the remaining checks are `Iv.valid` -/
def IvZ.checked (iv : IvZ) : Option Iv :=
  if 0 ≤ iv.s ∧ iv.s ≤ iv.e then some { c := iv.c, s := iv.s.toNat, e := iv.e.toNat, fwd := iv.fwd } else none

/-- `from_local_coordinates` on an integer offset: `offset < 0` and `offset ≥ size` raise -/
def fromLocalZ (sizes : List Nat) (c : Nat) (p : Int) : Option Nat :=
  if p < 0 then none else fromLocal sizes c p.toNat

/-- the rule shipped before repair 0868386: only `offset ≥ size` was rejected -/
def fromLocalOldZ (sizes : List Nat) (c : Nat) (p : Int) : Option Int :=
  if c < sizes.length ∧ p < (size sizes c : Int) then some ((offset sizes c : Int) + p) else none

/-! ## Name encoding and ignored chromosomes (`GenomeContext.__init__`, `mask_data`) -/

/-- number of included (not ignored) chromosomes -/
def nIncluded (ign : List Bool) : Nat := (ign.filter (!·)).length

/-- code of original chromosome `i` in `StringEncoding(included ++ ignored)` -/
def encodeIdx (ign : List Bool) (i : Nat) : Nat :=
  if ign.getD i false then nIncluded ign + ((ign.take i).filter (·)).length
  else ((ign.take i).filter (!·)).length

/-- sizes of the included chromosomes, in genome order (`_chrom_size_dict`) -/
def includedSizes : List Nat → List Bool → List Nat
  | s :: ss, g :: gs => if g then includedSizes ss gs else s :: includedSizes ss gs
  | _, _ => []

/-- `mask_data`: encode the chromosome column, keep the rows on included chromosomes -/
def maskData (ign : List Bool) (ivs : List Iv) : List Iv :=
  (ivs.map (fun iv => { iv with c := encodeIdx ign iv.c })).filter (fun iv => iv.c < nIncluded ign)

def maskDataZ (ign : List Bool) (ivs : List IvZ) : List IvZ :=
  (ivs.map (fun iv => { iv with c := encodeIdx ign iv.c })).filter (fun iv => iv.c < nIncluded ign)

/-- specification: rows on ignored chromosomes are dropped, the others keep their order and get the
rank of their chromosome among the included ones -/
def specMask (ign : List Bool) (ivs : List Iv) : List Iv :=
  (ivs.filter (fun iv => !(ign.getD iv.c false))).map
    (fun iv => { iv with c := ((ign.take iv.c).filter (!·)).length })

/-! ## Concatenated coordinates -/

/-- `start_ends_from_intervals` (no clipping): raises unless the interval is inside its chromosome -/
def toGlobal (sizes : List Nat) (iv : Iv) : Option (Nat × Nat) :=
  if iv.valid sizes then some (offset sizes iv.c + iv.s, offset sizes iv.c + iv.e) else none

/-- `to_local_interval` of one global interval (asserts `stop ≤ size` of the start's chromosome) -/
def toLocalIv (sizes : List Nat) (g : Nat × Nat) : Option Iv :=
  let c := chromIdx sizes g.1
  if g.2 - offset sizes c ≤ size sizes c then some { c := c, s := g.1 - offset sizes c, e := g.2 - offset sizes c }
  else none

/-- `start_ends_from_intervals(interval, do_clip)` of one integer entry: a start outside its chromosome and a stop before
the start raise; with `do_clip` the stop is clipped to the end of the entry's OWN chromosome (before the offset is added),
without it a stop beyond that end raises -/
def globaliseZ (sizes : List Nat) (clip : Bool) (iv : IvZ) : Option (Nat × Nat) :=
  if iv.c < sizes.length ∧ 0 ≤ iv.s ∧ iv.s < (size sizes iv.c : Int) ∧ iv.s ≤ iv.e ∧
      (clip = true ∨ iv.e ≤ (size sizes iv.c : Int)) then
    some (offset sizes iv.c + iv.s.toNat, offset sizes iv.c + min iv.e.toNat (size sizes iv.c))
  else none

/-- a deviating rule (clip against the end of the whole genome, after the offset was added) -/
def globaliseGenomeEndZ (sizes : List Nat) (iv : IvZ) : Option (Nat × Nat) :=
  if iv.c < sizes.length ∧ 0 ≤ iv.s ∧ iv.s < (size sizes iv.c : Int) ∧ iv.s ≤ iv.e then
    some (offset sizes iv.c + iv.s.toNat, min (offset sizes iv.c + iv.e.toNat) (total sizes))
  else none

/-! ## Pile-up and mask -/

/-- number of intervals covering position `g` (list-level meaning of
`RunLength2dArray.from_intervals(starts, stops, n).sum(axis=0)[g]`) -/
def covCount (gs : List (Nat × Nat)) (g : Nat) : Nat := (gs.filter (fun x => x.1 ≤ g && g < x.2)).length

/-- `get_pileup(global intervals, total size)` as a dense array -/
def pileupGlobal (sizes : List Nat) (ivs : List Iv) : Option (List Nat) :=
  match omap (toGlobal sizes) ivs with
  | none => none
  | some gs => some ((List.range (total sizes)).map (covCount gs))

/-- `get_boolean_mask(global intervals, total size)` as a dense 0/1 array -/
def maskGlobal (sizes : List Nat) (ivs : List Iv) : Option (List Nat) :=
  match omap (toGlobal sizes) ivs with
  | none => none
  | some gs => some ((List.range (total sizes)).map (fun g => if covCount gs g = 0 then 0 else 1))

/-- `global_track[offset : offset + size]` (`extract_chromsome`, `to_dict`) -/
def extractChrom {α} (sizes : List Nat) (dense : List α) (c : Nat) : List α :=
  (dense.drop (offset sizes c)).take (size sizes c)

/-- `GenomicArrayGlobal.to_dict()` as a list in genome order -/
def toDict {α} (sizes : List Nat) (dense : List α) : List (List α) :=
  (List.range sizes.length).map (extractChrom sizes dense)

/-- specification: single-contig pile-up of chromosome `c`'s own entries -/
def specPileupChrom (sizes : List Nat) (ivs : List Iv) (c : Nat) : List Nat :=
  (List.range (size sizes c)).map (fun p => ((ivs.filter (fun iv => iv.c = c)).filter (fun iv => iv.s ≤ p && p < iv.e)).length)

def specMaskChrom (sizes : List Nat) (ivs : List Iv) (c : Nat) : List Nat :=
  (specPileupChrom sizes ivs c).map (fun n => if n = 0 then 0 else 1)

/-! ## Merge -/

/-- single-contig `merge_intervals` (running maximum of the stops; a new interval starts where
`start > running stop + d`), on start-sorted input -/
def mergeGo (d : Nat) (cs ce : Nat) : List (Nat × Nat) → List (Nat × Nat)
  | [] => [(cs, ce)]
  | x :: r => if x.1 > ce + d then (cs, ce) :: mergeGo d x.1 x.2 r else mergeGo d cs (max ce x.2) r

def merge1 (d : Nat) : List (Nat × Nat) → List (Nat × Nat)
  | [] => []
  | x :: r => mergeGo d x.1 x.2 r

def startsSorted : List (Nat × Nat) → Bool
  | x :: y :: r => x.1 ≤ y.1 && startsSorted (y :: r)
  | _ => true

/-- `merge_intervals` with its sortedness assertion -/
def merge1Checked (d : Nat) (l : List (Nat × Nat)) : Option (List (Nat × Nat)) :=
  if startsSorted l then some (merge1 d l) else none

/-- the rule shipped before the repair (`Geometry.merge_intervals`, and `GenomicIntervalsFull.merged`
once its attribute typo is passed): merge in concatenated coordinates, then map back -/
def mergeGlobalOld (d : Nat) (sizes : List Nat) (ivs : List Iv) : Option (List Iv) :=
  match omap (toGlobal sizes) ivs with
  | none => none
  | some gs =>
    match merge1Checked d gs with
    | none => none
    | some m => omap (toLocalIv sizes) m

/-- maximal runs of equal chromosome, in order (`groupby(intervals, "chromosome")`) -/
def runs : List Iv → List (Nat × List Iv)
  | [] => []
  | x :: r =>
    match runs r with
    | g :: t => if x.c = g.1 then (g.1, x :: g.2) :: t else (x.c, [x]) :: g :: t
    | [] => [(x.c, [x])]

/-- merge of one chromosome's entries, re-attached to the chromosome -/
def mergeChrom (d : Nat) (c : Nat) (l : List Iv) : Option (List Iv) :=
  match merge1Checked d (l.map (fun iv => (iv.s, iv.e))) with
  | none => none
  | some m => some (m.map (fun x => { c := c, s := x.1, e := x.2 }))

/-- the repaired rule: group by chromosome, merge every group with the single-contig function -/
def mergeFixed (d : Nat) (ivs : List Iv) : Option (List Iv) :=
  (omap (fun g => mergeChrom d g.1 g.2) (runs ivs)).map List.flatten

/-- `np.all(a[:-1] <= a[1:])` -/
def sortedAdj : List Nat → Bool
  | x :: y :: r => x ≤ y && sortedAdj (y :: r)
  | _ => true

/-- the in-memory entry points (`Geometry.merge_intervals`, `GenomicIntervalsFull.merged`): the conversion to
concatenated coordinates is run first for its checks (an interval that does not lie inside its chromosome raises)
and the global starts must be non-decreasing (genome order), then the per-chromosome merge -/
def mergeChecked (d : Nat) (sizes : List Nat) (ivs : List Iv) : Option (List Iv) :=
  if ivs.all (fun iv => iv.valid sizes) && sortedAdj (ivs.map (fun iv => offset sizes iv.c + iv.s))
  then mergeFixed d ivs else none

/-- specification: for every chromosome in genome order, the single-contig merge of its own entries -/
def specMerge (d : Nat) (n : Nat) (ivs : List Iv) : Option (List Iv) :=
  (omap (fun c => mergeChrom d c (ivs.filter (fun iv => iv.c = c))) (List.range n)).map List.flatten

/-! ## Clip, extend to size, windows (size looked up by the row's own chromosome) -/

/-- single-contig `clip` -/
def clip1 (sz : Nat) (s e : Int) : Int × Int := (max 0 s, min (sz : Int) e)

/-- single-contig `extend_to_size` -/
def extend1 (sz : Nat) (L : Int) (fwd : Bool) (s e : Int) : Int × Int :=
  (if fwd then s else max (e - L) 0, if fwd then min (s + L) (sz : Int) else e)

def clipG (sizes : List Nat) (iv : IvZ) : IvZ :=
  let r := clip1 (size sizes iv.c) iv.s iv.e
  { iv with s := r.1, e := r.2 }

def extendG (sizes : List Nat) (L : Int) (iv : IvZ) : IvZ :=
  let r := extend1 (size sizes iv.c) L iv.fwd iv.s iv.e
  { iv with s := r.1, e := r.2 }

/-- `get_windows`: flanks from `flank` or `window_size`, then clip -/
def flanks (flank : Option Nat) (wsize : Nat) : Int × Int :=
  match flank with
  | some f => (f, f + 1)
  | none => ((wsize / 2 : Nat), (wsize / 2 + wsize % 2 : Nat))

def windowG (sizes : List Nat) (fl : Int × Int) (c : Nat) (p : Int) (fwd : Bool) : IvZ :=
  clipG sizes { c := c, s := p - fl.1, e := p + fl.2, fwd := fwd }

/-- `get_location(where)`; `w` = 0 start, 1 stop, 2 center -/
def location (stranded : Bool) (w : Nat) (iv : Iv) : Int :=
  if w = 2 then ((iv.s + iv.e) / 2 : Nat)
  else if !stranded then iv.s
  else if iv.fwd == (w == 0) then iv.s else (iv.e : Int) - 1

/-! ## Sorting in genome order -/

def keyLe (a b : Iv) : Bool :=
  a.c < b.c || (a.c = b.c && (a.s < b.s || (a.s = b.s && a.e ≤ b.e)))

/-- `np.lexsort([stop, start, chromosome.raw()])`: stable sort on (chromosome index, start, stop) -/
def sortGenome (ivs : List Iv) : List Iv := ivs.mergeSort keyLe

/-- `Geometry.sort`: order by global start -/
def sortByGlobalStart (sizes : List Nat) (ivs : List Iv) : List Iv :=
  ivs.mergeSort (fun a b => offset sizes a.c + a.s ≤ offset sizes b.c + b.s)

/-! ## Values under intervals -/

/-- `global_track[global_intervals]`, rows reversed on `-` when stranded -/
def extractRow {α} (sizes : List Nat) (dense : List α) (stranded : Bool) (iv : Iv) : Option (List α) :=
  match toGlobal sizes iv with
  | none => none
  | some g =>
    let row := (dense.drop g.1).take (g.2 - g.1)
    some (if stranded && !iv.fwd then row.reverse else row)

/-- specification: the slice of the chromosome's own dense array -/
def specExtractRow {α} (arrays : List (List α)) (stranded : Bool) (iv : Iv) : List α :=
  let row := ((arrays.getD iv.c []).drop iv.s).take (iv.e - iv.s)
  if stranded && !iv.fwd then row.reverse else row

/-! ## The streamed per-chromosome path and genome-wide quantities -/

/-- single-contig `get_pileup(intervals, size)` as a dense array -/
def pile1 (sz : Nat) (l : List (Nat × Nat)) : List Nat := (List.range sz).map (covCount l)

/-- the streamed path (`from_interval_stream` / `as_stream`): `iter_chromosomes` hands out one table per
chromosome of the genome order (the empty table where there are no entries), zipped with the chromosome
sizes; every table goes through the single-contig pile-up -/
def pileupStream (sizes : List Nat) (ivs : List Iv) : List (List Nat) :=
  (List.range sizes.length).map (fun c => pile1 (size sizes c) ((ivs.filter (fun iv => iv.c = c)).map (fun iv => (iv.s, iv.e))))

def maskStream (sizes : List Nat) (ivs : List Iv) : List (List Nat) :=
  (pileupStream sizes ivs).map (fun d => d.map (fun n => if n = 0 then 0 else 1))

/-- `(track == 0).sum()` / `(~mask).sum()` -/
def zerosOf (d : List Nat) : Nat := (d.filter (fun v => v = 0)).length

/-- `np.histogram(track, bins=[0, 1, 2, 3])[0]` (the last bin is closed) -/
def histOf (d : List Nat) : List Nat :=
  [(d.filter (fun v => v = 0)).length, (d.filter (fun v => v = 1)).length, (d.filter (fun v => v = 2 || v = 3)).length]

/-! ## Chromosome-name lookup (`StringEncoding.encode` → `AsciiHashTable`) -/

def bigMod : Nat := 2147483647      -- `AsciiHashTable.big_mod = 2**31 - 1`

/-- `get_ascii_hash`: `sum((powers * bytes) % mod) % mod` with `powers[i] = 129^i` reduced step by step -/
def hashGo (p : Nat) : List Nat → Nat
  | [] => 0
  | b :: r => (p * b) % bigMod + hashGo ((p * 129) % bigMod) r

def asciiHash (bs : List Nat) : Nat := hashGo 1 bs % bigMod

/-- `self._hash_table[hashes]`: the index stored under the query's hash (`IndexError` → `EncodingError` when absent);
the npstructures `HashTable` is an external: key ↦ value -/
def lookupName (names : List (List Nat)) (q : List Nat) : Option Nat :=
  let hs := names.map asciiHash
  if hs.idxOf (asciiHash q) < hs.length then some (hs.idxOf (asciiHash q)) else none

/-! ## Per-chromosome views of a genome-wide array (`GenomicArrayGlobal`) -/

/-- `track[locations]` (`extract_locations`): the value at `from_local_coordinates(c, p)` -/
def extractAt (sizes : List Nat) (dense : List Nat) (c p : Nat) : Option Nat :=
  match fromLocal sizes c p with
  | some g => dense[g]?
  | none => none

/-- `track[mask]` (`_index_boolean`): the values at the positions where the genome-wide mask is set -/
def boolIndex (dense mask : List Nat) : List Nat :=
  ((dense.zip mask).filter (fun x => x.2 != 0)).map (·.1)

/-! ## Binned counts (`BinnedGenome`) -/

/-- `(chrom_sizes + bin_size - 1) // bin_size` -/
def nBins (b : Nat) (sizes : List Nat) : List Nat := sizes.map (fun s => (s + b - 1) / b)

/-- `self._bin_offsets[chrom] + position // bin_size` -/
def binIndex (b : Nat) (sizes : List Nat) (c p : Nat) : Nat := offset (nBins b sizes) c + p / b

/-- `np.bincount(bin_nr, minlength=n_bins_total)`, then `count_dict`: one slice per chromosome -/
def binnedCounts (b : Nat) (sizes : List Nat) (pts : List (Nat × Nat)) : List (List Nat) :=
  toDict (nBins b sizes)
    ((List.range (total (nBins b sizes))).map (fun g => (pts.filter (fun x => binIndex b sizes x.1 x.2 == g)).length))

/-- `BinnedGenome.count` with its validation (repair 5922e40): a position outside its chromosome raises -/
def binnedChecked (b : Nat) (sizes : List Nat) (pts : List (Nat × Nat)) : Option (List (List Nat)) :=
  if pts.all (fun x => decide (x.1 < sizes.length) && decide (x.2 < size sizes x.1)) then some (binnedCounts b sizes pts) else none

/-- specification: for every chromosome, per bin, the number of that chromosome's own locations in the bin -/
def specBinned (b : Nat) (sizes : List Nat) (pts : List (Nat × Nat)) : List (List Nat) :=
  (List.range sizes.length).map (fun c =>
    (List.range ((size sizes c + b - 1) / b)).map (fun k => (pts.filter (fun x => x.1 == c && x.2 / b == k)).length))

/-! ## Locations → intervals (`map_locations`, `find_indices`) -/

/-- `np.searchsorted(a, v, side="left")` / `side="right"` on a sorted array: the number of elements `< v` / `≤ v` -/
def countLt {β} (l : List (Nat × β)) (v : Nat) : Nat := (l.filter (fun x => x.1 < v)).length
def countLe {β} (l : List (Nat × β)) (v : Nat) : Nat := (l.filter (fun x => x.1 ≤ v)).length

/-- the locations (global position, local position), sorted by global position, that `find_indices` assigns to
the global interval `[gs, ge)`; `right = true` is the rule shipped before the repair (`side="right"` for the stop) -/
def locSlice (right : Bool) (gl : List (Nat × Nat)) (gs ge : Nat) : List (Nat × Nat) :=
  (gl.drop (countLt gl gs)).take ((if right then countLe gl ge else countLt gl ge) - countLt gl gs)

/-- `GenomicIntervalsFull.map_locations`: (interval index, location − interval start) -/
def mapLocs (right : Bool) (sizes : List Nat) (ivs : List Iv) (pts : List (Nat × Nat)) : Option (List (Nat × Int)) :=
  match omap (fun (x : Nat × Nat) => (fromLocal sizes x.1 x.2).map (fun g => (g, x.2))) pts, omap (toGlobal sizes) ivs with
  | some gl, some gis =>
    some ((List.range ivs.length).flatMap (fun i =>
      (locSlice right gl (gis.getD i (0, 0)).1 (gis.getD i (0, 0)).2).map
        (fun x => (i, (x.2 : Int) - ((ivs.getD i default).s : Int)))))
  | _, _ => none

/-- specification: every (interval, location) pair on the same chromosome with `start ≤ position < stop` -/
def specMapLocs (ivs : List Iv) (pts : List (Nat × Nat)) : List (Nat × Int) :=
  (List.range ivs.length).flatMap (fun i =>
    (pts.filter (fun x => x.1 == (ivs.getD i default).c && (ivs.getD i default).s ≤ x.2 && x.2 < (ivs.getD i default).e)).map
      (fun x => (i, (x.2 : Int) - ((ivs.getD i default).s : Int))))

/-! ## Genome-wide similarity (`Geometry.jaccard`) -/

def interCount (a b : List Nat) : Nat := ((a.zip b).filter (fun x => x.1 != 0 && x.2 != 0)).length
def unionCount (a b : List Nat) : Nat := ((a.zip b).filter (fun x => x.1 != 0 || x.2 != 0)).length

/-! ## Sorted locations, intervals from a mask -/

def locLe (a b : Nat × Nat) : Bool := a.1 < b.1 || (a.1 == b.1 && a.2 ≤ b.2)

/-- `GenomicLocationGlobal.sorted()`: lexsort on (chromosome index, position) -/
def sortLocs (pts : List (Nat × Nat)) : List (Nat × Nat) := pts.mergeSort locLe

/-- the maximal runs of non-zero entries of a dense array, as half-open intervals
(`GenomicArray.get_data()` of a boolean track: `Interval(starts, ends)[values]`) -/
def onesRunsFrom (pos : Nat) (cur : Option Nat) : List Nat → List (Nat × Nat)
  | [] => match cur with
    | some s => [(s, pos)]
    | none => []
  | v :: r =>
    if v != 0 then onesRunsFrom (pos + 1) (some (cur.getD pos)) r
    else (match cur with
      | some s => [(s, pos)]
      | none => []) ++ onesRunsFrom (pos + 1) none r

def onesRuns (d : List Nat) : List (Nat × Nat) := onesRunsFrom 0 none d


/-! ## The streamed path as a walk over the chromosome runs (`iter_chromosomes` zipped with the sizes) -/

/-- hand out, for the chromosomes `k, k+1, …` (`m` of them), the next run if it is that chromosome's, else the empty table -/
def assignRuns : Nat → Nat → List (Nat × List Iv) → List (List Iv)
  | _, 0, _ => []
  | k, m + 1, [] => [] :: assignRuns (k + 1) m []
  | k, m + 1, g :: t => if g.1 = k then g.2 :: assignRuns (k + 1) m t else [] :: assignRuns (k + 1) m (g :: t)

/-- streamed pile-up: group the (genome-ordered) entries into runs, walk the genome order, single-contig pile-up per table -/
def pileupStreamRuns (sizes : List Nat) (ivs : List Iv) : List (List Nat) :=
  ((assignRuns 0 sizes.length (runs ivs)).zip sizes).map (fun x => pile1 x.2 (x.1.map (fun iv => (iv.s, iv.e))))

def maskStreamRuns (sizes : List Nat) (ivs : List Iv) : List (List Nat) :=
  (pileupStreamRuns sizes ivs).map (fun d => d.map (fun n => if n = 0 then 0 else 1))

/-! ## The grouping shipped between 5ae8cf0 and 57736e2 (`groupby` with its first-key = last-key fast path) -/

def groupFast (l : List Iv) : List (Nat × List Iv) :=
  match l, l.getLast? with
  | x :: _, some y => if y.c = x.c then [(x.c, l)] else runs l
  | _, _ => []

def mergeGroupedOld (d : Nat) (ivs : List Iv) : Option (List Iv) :=
  (omap (fun g => mergeChrom d g.1 g.2) (groupFast ivs)).map List.flatten

/-! ## Sequence under intervals: reverse complement on the minus strand -/

/-- complement of an upper-case base given as its ASCII code (`A↔T`, `C↔G`, others unchanged) -/
def compBase (b : Nat) : Nat :=
  if b = 65 then 84 else if b = 84 then 65 else if b = 67 then 71 else if b = 71 then 67 else b

def revComp (l : List Nat) : List Nat := (l.map compBase).reverse

/-- `GenomicSequence.extract_intervals`: the slice in concatenated coordinates, reverse-complemented on `-` when stranded -/
def extractSeqRow (sizes : List Nat) (dense : List Nat) (stranded : Bool) (iv : Iv) : Option (List Nat) :=
  match toGlobal sizes iv with
  | none => none
  | some g =>
    let row := (dense.drop g.1).take (g.2 - g.1)
    some (if stranded && !iv.fwd then revComp row else row)

def specSeqRow (seqs : List (List Nat)) (stranded : Bool) (iv : Iv) : List Nat :=
  let row := ((seqs.getD iv.c []).drop iv.s).take (iv.e - iv.s)
  if stranded && !iv.fwd then revComp row else row

end C10
