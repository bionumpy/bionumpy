import BnpVerif.Base.Opt
/-! C19 — tables of entries behave like column-aligned records.

A table (`bnpdataclass` object) is its tuple of columns (`shallow_tuple`), every column a list of
cells. What bionumpy / `npdataclass` do is *per column* (`[f[idx] for f in shallow_tuple(self)]`,
`np.concatenate` of `zip(*tuples)`, `zip(*iters)` for rows, `_assert_same_lens`); how one column
type indexes or concatenates is an external (NumPy / npstructures / the column classes) with the
list-level meaning used here. Python-level index normalisation (negative ints, `slice.indices`)
is done by the caller: the model takes index lists and boolean masks. Imports only `Base/Opt` (`omap`; core Lean). -/
namespace C19
open Base

abbrev Cols (α : Type) := List (List α)

/-- `len(table)` = `len(shallow_tuple(self)[0])` -/
def nrows {α} : Cols α → Nat
  | [] => 0
  | c :: _ => c.length

/-- every column has `n` cells -/
def WFn {α} (n : Nat) (cols : Cols α) : Prop := ∀ c ∈ cols, c.length = n

/-- the table invariant (`_assert_same_lens`): all columns as long as the first -/
def WF {α} (cols : Cols α) : Prop := WFn (nrows cols) cols

def wfB {α} (cols : Cols α) : Bool := cols.all (fun c => c.length == nrows cols)

/-! ### rows: `toiter` / `tolist` = `zip(*iters)`, `from_entry_tuples` = `cls(*zip(*tuples))` -/

/-- Python's `zip(*lists)` (stops at the shortest) -/
def toRows {α} : List (List α) → List (List α)
  | [] => []
  | [c] => c.map (fun x => [x])
  | c :: cs => List.zipWith (· :: ·) c (toRows cs)

/-- `from_entry_tuples`: columns = `zip(*tuples)`; the constructor then checks the lengths.
With no tuples there are no columns: the repaired code returns `cls.empty()` (`width` empty
columns); the shipped code raised `TypeError` (`fromRowsOld`). -/
def fromRows {α} (width : Nat) (rows : List (List α)) : Option (Cols α) :=
  match rows with
  | [] => some (List.replicate width [])
  | _ =>
    let cols := toRows rows
    if cols.length = width && wfB cols then some cols else none

def fromRowsOld {α} (width : Nat) (rows : List (List α)) : Option (Cols α) :=
  match rows with
  | [] => none
  | _ =>
    let cols := toRows rows
    if cols.length = width && wfB cols then some cols else none

/-- row `i` read across the columns -/
def rowAt {α} (cols : Cols α) (i : Nat) : Option (List α) := omap (fun c => c[i]?) cols

/-! ### operations (each acts on every column with the same argument) -/

/-- NumPy integer-array indexing of one column (external): cells at the given positions -/
def gather {α} (ix : List Nat) (l : List α) : List α := ix.filterMap (fun i => l[i]?)

/-- `table[int_list]`: `IndexError` (none) when an index is out of range -/
def take {α} (ix : List Nat) (cols : Cols α) : Option (Cols α) :=
  if ix.all (fun i => decide (i < nrows cols)) then some (cols.map (gather ix)) else none

/-- positions of the `True` entries -/
def maskIdx : List Bool → List Nat
  | [] => []
  | b :: bs => (if b then [0] else []) ++ (maskIdx bs).map (· + 1)

/-- `table[bool_mask]`: the mask must have one entry per row -/
def mask {α} (m : List Bool) (cols : Cols α) : Option (Cols α) :=
  if m.length = nrows cols then take (maskIdx m) cols else none

/-- `table[table.field == value]` / `!=` / `np.isin(table.field, values)`: the column's element-wise
comparison (`StringArray.__array_ufunc__`, NumPy) gives the mask, the mask indexes every column -/
def predMask {α} (p : α → Bool) (j : Nat) (cols : Cols α) : Option (Cols α) :=
  match cols[j]? with
  | none => none
  | some c => mask (c.map p) cols

/-- `np.concatenate([a, b])`: `np.concatenate` per column over `zip(*tuples)` -/
def concat {α} (a b : Cols α) : Cols α := List.zipWith (· ++ ·) a b

/-- `np.argsort(key_column)` as a stable sort of the positions (NumPy's default sort may order
ties differently: observations are compared up to the order inside a tie group) -/
def argsort (ks : List Int) : List Nat :=
  (((List.range ks.length).zip ks).mergeSort (fun a b => decide (a.2 ≤ b.2))).map (·.1)

/-- `sort_by(field)`: `self[np.argsort(getattr(self, field))]` -/
def sortBy {α} (key : α → Int) (j : Nat) (cols : Cols α) : Option (Cols α) :=
  match cols[j]? with
  | none => none
  | some c => take (argsort (c.map key)) cols

/-- `replace(table, field=column)` = `dataclasses.replace` → constructor → `_assert_same_lens` -/
def replaceCol {α} (j : Nat) (c : List α) (cols : Cols α) : Option (Cols α) :=
  if j < cols.length && wfB (cols.set j c) then some (cols.set j c) else none

/-- `add_fields`: new class with the extra fields, constructed from old + new columns -/
def addFields {α} (new : Cols α) (cols : Cols α) : Option (Cols α) :=
  if wfB (cols ++ new) then some (cols ++ new) else none

/-! ### the same operations on lists of rows (Spec) -/

def takeRows {α} (ix : List Nat) (rows : List (List α)) : Option (List (List α)) :=
  if ix.all (fun i => decide (i < rows.length)) then some (gather ix rows) else none

def replaceRows {α} (j : Nat) (c : List α) (rows : List (List α)) : List (List α) :=
  List.zipWith (fun r x => r.set j x) rows c

def addRows {α} (rows new : List (List α)) : List (List α) := List.zipWith (· ++ ·) rows new

/-! ### programs -/

inductive Op (α : Type) where
  | take (ix : List Nat)
  | mask (m : List Bool)
  | concat (other : Cols α)          -- `np.concatenate([t, other])`
  | concatL (other : Cols α)         -- `np.concatenate([other, t])`
  | sortBy (j : Nat) (key : α → Int)   -- what `np.argsort` orders the field by (value / text rank)
  | predMask (j : Nat) (p : α → Bool)  -- `t[t.field == v]`, `t[t.field != v]`, `t[np.isin(t.field, vs)]`
  | replace (j : Nat) (c : List α)
  | addFields (new : Cols α)

def step {α} (cols : Cols α) : Op α → Option (Cols α)
  | .take ix => take ix cols
  | .mask m => mask m cols
  | .concat o => if wfB o && o.length == cols.length then some (concat cols o) else none
  | .concatL o => if wfB o && o.length == cols.length then some (concat o cols) else none
  | .sortBy j key => sortBy key j cols
  | .predMask j p => predMask p j cols
  | .replace j c => replaceCol j c cols
  | .addFields new => addFields new cols

def run {α} : List (Op α) → Cols α → Option (Cols α)
  | [], cols => some cols
  | op :: ops, cols =>
    match step cols op with
    | some c' => run ops c'
    | none => none

/-! ### the same programs on (number of fields, list of entries) - the Spec-level reading of a table as NumPy
records; `run_refines_rows` (Props) proves the column interpreter above equal to this one -/

def stepRows {α} (st : Nat × List (List α)) : Op α → Option (Nat × List (List α))
  | .take ix => (takeRows ix st.2).map (fun r => (st.1, r))
  | .mask m =>
    if m.length = st.2.length then
      some (st.1, (st.2.zip m).filterMap (fun p => if p.2 then some p.1 else none))
    else none
  | .concat o => if wfB o && o.length == st.1 then some (st.1, st.2 ++ toRows o) else none
  | .concatL o => if wfB o && o.length == st.1 then some (st.1, toRows o ++ st.2) else none
  | .sortBy j key =>
    if j < st.1 then (takeRows (argsort ((st.2.filterMap (fun r => r[j]?)).map key)) st.2).map (fun r => (st.1, r)) else none
  | .predMask j p =>
    if j < st.1 then some (st.1, st.2.filter (fun r => match r[j]? with | some x => p x | none => false)) else none
  | .replace j c =>
    if st.1 == 1 && j == 0 then some (1, c.map (fun x => [x]))      -- the only column: any length is a table
    else if j < st.1 && c.length == st.2.length then some (st.1, replaceRows j c st.2) else none
  | .addFields new =>
    if new.all (fun c => c.length == st.2.length) then
      some (st.1 + new.length, if new.isEmpty then st.2 else addRows st.2 (toRows new))
    else none

def runRows {α} : List (Op α) → Nat × List (List α) → Option (Nat × List (List α))
  | [], st => some st
  | op :: ops, st =>
    match stepRows st op with
    | some st' => runRows ops st'
    | none => none

/-! ### one entry: `table[i]` with a Python / NumPy integer (negative counts from the end, `IndexError` outside
`-n ≤ i < n` on BOTH sides) -/

/-- Python's index normalisation for a sequence of `n` items -/
def pyIndex (n : Nat) (i : Int) : Option Nat :=
  if 0 ≤ i then (if i.toNat < n then some i.toNat else none)
  else if (-i).toNat ≤ n then some (n - (-i).toNat) else none

/-- `table[i]`: the entry made of cell `i` of every column -/
def pickRow {α} (cols : Cols α) (i : Int) : Option (List α) := (pyIndex (nrows cols) i).bind (rowAt cols)

/-- `rows[i]` on the list of entries (Spec) -/
def pickRows {α} (rows : List (List α)) (i : Int) : Option (List α) := (pyIndex rows.length i).bind (fun k => rows[k]?)

/-! ### typed construction (`_implicit_format_conversion`): "converted to the declared type, or raises"

The dispatch itself is tabulated from the running code (`Gen/C19.lean`: field kind × argument form ↦
class of the stored column or `raise`). Here: which column classes *are* the declared type of a field
kind, and the cells known not to conform (the `known` findings `construct:unconverted-*`). -/

/-- column classes that count as "the declared type" of a field kind -/
def allowedClasses : String → List String
  | "str" => ["encragged:base", "encragged:alpha", "encflat:base", "encflat:alpha"]
  | "sid" => ["stringarray", "encflat:base", "encflat:alpha"]
  | "int" => ["ndarray:i", "ndarray:u"]
  | "float" => ["ndarray:f"]
  | "bool" => ["ndarray:b"]
  | "opt" => ["ndarray:b", "ndarray:i", "ndarray:u", "ndarray:f", "ndarray:O"]
  | "li" => ["ragged:b", "ragged:i", "ragged:u", "ragged:f", "ndarray:b", "ndarray:i", "ndarray:u", "ndarray:f"]
  | "dna" => ["encragged:alpha", "encflat:alpha"]
  | "strand" => ["encflat:alpha"]
  | "inner" => ["table"]
  | _ => []

/-- (field kind, argument form) cells where the shipped constructor stores the argument unconverted
(recorded findings; anything else must convert or raise) -/
def knownUnconverted : List (String × String) := [
  ("opt", "list_str"), ("opt", "nd_str"), ("opt", "strand_str"),
  ("li", "list_str"), ("li", "nd_str"), ("li", "series_str"), ("li", "strand_str"), ("li", "encoded_ragged"),
  ("li", "dna_ragged"), ("li", "list_none"), ("li", "string_array"), ("li", "table"), ("li", "list_entries"),
  ("li", "nd_obj_int"), ("li", "series_obj_int"), ("inner", "nd_obj_int"), ("inner", "series_obj_int"),
  ("li", "actg_ragged"), ("li", "actg_flat"), ("inner", "actg_ragged"), ("inner", "actg_flat"),
  ("inner", "nd_int"), ("inner", "nd_float"), ("inner", "nd_bool"), ("inner", "nd_str"), ("inner", "encoded_ragged"),
  ("inner", "dna_ragged"), ("inner", "string_array"), ("inner", "ragged_int"), ("inner", "series_str"), ("inner", "series_int"),
  -- text in its other carriers (bytes, object arrays, NumPy str_ scalars, raw identifier bytes)
  ("opt", "list_bytes"), ("opt", "nd_bytes"), ("opt", "list_npstr"), ("opt", "sid_raw"),
  ("li", "nd_obj_str"), ("li", "list_npstr"),
  ("inner", "nd_bytes"), ("inner", "nd_obj_str"), ("inner", "nd_obj_bytes"), ("inner", "sid_raw"), ("inner", "series_bytes")]

/-- (field kind, argument form, stored class) cells where a numeric field keeps the numeric dtype of the VALUES
instead of the declared one (`np.asanyarray` without a dtype: an `int` field given floats / None / booleans stores
the float64 / bool array, a `float` or `bool` field given integers stores the integer array): neither cast nor
rejected. Recorded findings `construct:dtype-kept-int|float|bool`. -/
def knownDtypeKept : List (String × String × String) := [
  ("int", "list_float", "ndarray:f"), ("int", "list_bool", "ndarray:b"), ("int", "list_none", "ndarray:f"), ("int", "nd_float", "ndarray:f"),
  ("int", "nd_bool", "ndarray:b"), ("float", "list_int", "ndarray:i"), ("float", "list_bool", "ndarray:b"), ("float", "nd_int", "ndarray:i"),
  ("float", "nd_bool", "ndarray:b"), ("float", "nd_obj_int", "ndarray:i"), ("float", "series_obj_int", "ndarray:i"), ("float", "series_int", "ndarray:i"),
  ("bool", "list_int", "ndarray:i"), ("bool", "list_float", "ndarray:f"), ("bool", "list_none", "ndarray:f"), ("bool", "nd_int", "ndarray:i"),
  ("bool", "nd_float", "ndarray:f"), ("bool", "nd_obj_int", "ndarray:i"), ("bool", "series_obj_int", "ndarray:i"), ("bool", "series_int", "ndarray:i")]

def constructCellOK (row : String × String × String) : Bool :=
  row.2.2 == "raise" || (allowedClasses row.1).contains row.2.2 || knownDtypeKept.contains row ||
    knownUnconverted.contains (row.1, row.2.1)

/-- `add_fields` without a type map: the classes a column inferred from each argument form may have
(refusing is acceptable only where the values are no "basic type") -/
def inferAllowed : String → List String
  | "list_int" | "nd_int" => ["ndarray:i"]
  | "list_float" | "nd_float" => ["ndarray:f"]
  | "list_bool" | "nd_bool" => ["ndarray:b"]
  | "list_mixed" => ["ndarray:f", "raise"]
  | "list_str" | "nd_str" | "encoded_ragged" => ["encragged:base", "stringarray"]
  | "string_array" => ["encragged:base", "stringarray", "raise"]
  | "dna_ragged" | "list_dna_rows" => ["encragged:alpha"]
  | "list_list_int" => ["ragged:i", "raise"]
  | _ => []

def inferCellOK (row : String × String) : Bool := (inferAllowed row.1).contains row.2

/-- first cell that neither converts nor raises -/
def firstBadCell (t : List (String × String × String)) : Option (String × String × String) :=
  t.find? (fun r => !constructCellOK r)


/-! ### `todict` / `from_dict`: nested tables ↔ flat dictionaries with dotted keys -/

abbrev Name := List Nat          -- the bytes of a field name
def dot : Nat := 46

/-- a field value: a column, or a nested table (its fields in order) -/
inductive Tab (α : Type) where
  | col (c : List α)
  | tab (fields : List (Name × Tab α))

/-- the declared types: leaf column or nested table class -/
inductive Schema where
  | leaf
  | node (fields : List (Name × Schema))

mutual
/-- `todict` of the fields of a table: `name` for a column, `name.sub` for every entry of a nested table's dict -/
def toDictFields {α} : List (Name × Tab α) → List (Name × List α)
  | [] => []
  | (n, t) :: rest => toDictVal n t ++ toDictFields rest
def toDictVal {α} (n : Name) : Tab α → List (Name × List α)
  | .col c => [(n, c)]
  | .tab fs => (toDictFields fs).map (fun kv => (n ++ dot :: kv.1, kv.2))
end

/-- `name.split('.', maxsplit=1)` when the key contains a dot -/
def split1 (k : Name) : Option (Name × Name) :=
  if k.contains dot then some (k.takeWhile (· != dot), (k.dropWhile (· != dot)).drop 1) else none

/-- the entries `name.sub ↦ v` of the dict, as the sub-dict `sub ↦ v` (`new_dict[name][sub] = value`) -/
def subDict {α} (n : Name) (d : List (Name × List α)) : List (Name × List α) :=
  d.filterMap (fun kv => match split1 kv.1 with
    | some (n', sub) => if n' = n then some (sub, kv.2) else none
    | none => none)

/-- the keys without a dot: the only ones stored under their own name (`new_dict[name] = value`) -/
def plainDict {α} (d : List (Name × List α)) : List (Name × List α) := d.filter (fun kv => !(kv.1.contains dot))

mutual
/-- `cls.from_dict(d)` for the fields of `cls`: a leaf takes `d[name]` (`AssertionError` = none when absent),
a nested-table field is rebuilt from the sub-dict of its dotted keys -/
def fromDictFields {α} : List (Name × Schema) → List (Name × List α) → Option (List (Name × Tab α))
  | [], _ => some []
  | (n, s) :: rest, d =>
    match fromDictVal n s d, fromDictFields rest d with
    | some v, some vs => some ((n, v) :: vs)
    | _, _ => none
def fromDictVal {α} (n : Name) : Schema → List (Name × List α) → Option (Tab α)
  | .leaf, d => ((plainDict d).lookup n).map Tab.col
  | .node fs, d => (fromDictFields fs (subDict n d)).map Tab.tab
end


/-- the part of a key before its first dot -/
def firstComp (k : Name) : Name := k.takeWhile (· != dot)

def dotFree (n : Name) : Prop := dot ∉ n

mutual
/-- field names are dot-free identifiers, distinct inside every (nested) table -/
def wfFields {α} : List (Name × Tab α) → Prop
  | [] => True
  | (n, t) :: rest => dotFree n ∧ (∀ p ∈ rest, p.1 ≠ n) ∧ wfVal t ∧ wfFields rest
def wfVal {α} : Tab α → Prop
  | .col _ => True
  | .tab fs => wfFields fs
end

mutual
/-- the class of a table: its field names and declared (leaf / nested) types -/
def schemaFields {α} : List (Name × Tab α) → List (Name × Schema)
  | [] => []
  | (n, t) :: rest => (n, schemaVal t) :: schemaFields rest
def schemaVal {α} : Tab α → Schema
  | .col _ => .leaf
  | .tab fs => .node (schemaFields fs)
end

/-- no key of `d` belongs to field `n` -/
def Clean {α} (n : Name) (d : List (Name × List α)) : Prop := ∀ kv ∈ d, firstComp kv.1 ≠ n


end C19
