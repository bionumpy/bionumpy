import BnpVerif.Model.C18
/-! C17 — indexed FASTA random access (`bionumpy/io/indexed_fasta.py`, `FastaIdxBuffer.get_data`
in `multiline_buffer.py`). Executable model of the index builder (line scan with byte offsets),
the faidx-style lookup (`read_index`: first word of the name column), `get_contig_lengths`
(repaired rule and the rule shipped before the repair), the whole-contig read (row/column reshape)
and the interval read (row/mod arithmetic, newline bytes deleted), plus the specification
(wrapped layout, true sequences). Core-only imports.

Externals: the OS file (`seek(p); read(n)` = `(file.drop p).take n`; `readinto` a zero-filled
buffer), NumPy `reshape`, column slice, `ravel`, `delete`. LF line ends only (CRLF FASTA is outside
the property's quantifier). -/
namespace C17

abbrev Bytes := List Nat

/-! ### Specification: records and the wrapped layout -/

structure Rec where
  header : Bytes          -- text after '>' (name, optionally followed by a description)
  seq : Bytes
  width : Nat             -- line width W ≥ 1 used to wrap this record

/-- `seq` wrapped at `W` bases per line, every line (the last one too) followed by `'\n'` -/
def wrapBytes (W : Nat) (seq : Bytes) : Bytes :=
  if _h : seq = [] ∨ W = 0 then [] else
    seq.take W ++ 10 :: wrapBytes W (seq.drop W)
termination_by seq.length
decreasing_by
  have : seq.length ≠ 0 := fun hc => _h (Or.inl (List.eq_nil_of_length_eq_zero hc))
  simp only [List.length_drop]; omega

def recBytes (r : Rec) : Bytes := 62 :: r.header ++ 10 :: wrapBytes r.width r.seq

def fileOf (rs : List Rec) : Bytes := (rs.map recBytes).flatten

/-- byte position of base `i` inside the wrapped block -/
def posOf (W i : Nat) : Nat := (i / W) * (W + 1) + i % W

/-- ASCII whitespace as Python's `str.split()` sees it: space, `\t \n \v \f \r`, `\x1c`–`\x1f` -/
def isWs (b : Nat) : Bool := b == 32 || (decide (9 ≤ b) && decide (b ≤ 13)) || (decide (28 ≤ b) && decide (b ≤ 31))

/-- first whitespace-delimited word (`str.split()[0]` on a name without leading blanks) -/
def firstWord (h : Bytes) : Bytes := h.takeWhile (fun b => !isWs b)

structure IdxRow where
  name : Bytes
  rlen : Nat
  offset : Nat
  lenc : Nat
  lenb : Nat
deriving DecidableEq, Repr

/-- what the property says the index lists: name, true length, byte offset of the first base, bases
per line, bytes per line (both of the record's first sequence line, as `samtools faidx`) -/
def specIndexFrom (off : Nat) : List Rec → List IdxRow
  | [] => []
  | r :: rs =>
    let start := off + r.header.length + 2
    ⟨r.header, r.seq.length, start, min r.width r.seq.length, min r.width r.seq.length + 1⟩ ::
      specIndexFrom (start + (wrapBytes r.width r.seq).length) rs

def specIndex (rs : List Rec) : List IdxRow := specIndexFrom 0 rs

/-- records separated by blank lines: each record is followed by `k` empty lines (accepted by
`samtools faidx` and by the library's sequential reader) -/
def fileOfB (rs : List (Rec × Nat)) : Bytes := (rs.map (fun p => recBytes p.1 ++ List.replicate p.2 10)).flatten

/-- the index rows of a blank-line-separated file: the empty lines only move the later offsets -/
def specIndexFromB (off : Nat) : List (Rec × Nat) → List IdxRow
  | [] => []
  | (r, k) :: rs =>
    let start := off + r.header.length + 2
    ⟨r.header, r.seq.length, start, min r.width r.seq.length, min r.width r.seq.length + 1⟩ ::
      specIndexFromB (start + (wrapBytes r.width r.seq).length + k) rs

/-! ### Model of the code -/

/-- split at `'\n'`; the piece after the last newline is dropped when empty -/
def linesAux (cur : Bytes) : Bytes → List Bytes
  | [] => if cur = [] then [] else [cur.reverse]
  | b :: bs => if b = 10 then cur.reverse :: linesAux [] bs else linesAux (b :: cur) bs

def linesOf (bs : Bytes) : List Bytes := linesAux [] bs

def isHeader (l : Bytes) : Bool := l.head? == some 62

theorem length_dropWhile_le {α} (p : α → Bool) (l : List α) : (l.dropWhile p).length ≤ l.length :=
  (List.dropWhile_sublist p).length_le

/-- `FastaIdxBuffer.get_data`, line by line with the running byte offset: for each header line,
the sequence lines up to the next header; length = total of their lengths, start = byte offset of
the first sequence line, characters per line = its length, line length = that + 1 -/
def indexLines (off : Nat) (lines : List Bytes) : List IdxRow :=
  match lines with
  | [] => []
  | h :: rest =>
    let seqLines := rest.takeWhile (fun l => !isHeader l)
    let after := rest.dropWhile (fun l => !isHeader l)
    let start := off + h.length + 1
    let first := seqLines.headD []
    ⟨h.drop 1, (seqLines.map List.length).sum, start, first.length, first.length + 1⟩ ::
      indexLines (start + (seqLines.map (fun l => l.length + 1)).sum) after
termination_by lines.length
decreasing_by
  simp only [List.length_cons]
  have := length_dropWhile_le (fun l => !isHeader l) rest
  omega

/-- `FastaIdxBuffer.get_data` over the whole file (one chunk): the name column is the full header -/
def buildIndex (file : Bytes) : List IdxRow := indexLines 0 (linesOf file)

/-- `create_index(filename)` as shipped before the repair: the full header line (name and
description) went into the name column of the written `.fai` -/
def createIndexOld (file : Bytes) : List IdxRow := buildIndex file

/-- `create_index(filename)` as repaired: the name column is the first word of the header -/
def createIndex (file : Bytes) : List IdxRow :=
  (buildIndex file).map (fun r => { r with name := firstWord r.name })

/-- `read_index`: rows keyed by the first word of the name column -/
def lookup (idx : List IdxRow) (name : Bytes) : Option IdxRow :=
  idx.find? (fun r => firstWord r.name == name)

/-- `get_contig_lengths` as repaired: the sequence length -/
def contigLengths (idx : List IdxRow) : List (Bytes × Nat) := idx.map (fun r => (firstWord r.name, r.rlen))

/-- `get_contig_lengths` as shipped before the repair: the bases-per-line column -/
def contigLengthsOld (idx : List IdxRow) : List (Bytes × Nat) := idx.map (fun r => (firstWord r.name, r.lenc))

/-! ### the `.fai` file: written by `IndexBuffer`, read back by `read_index` and `Genome.from_file` -/

/-- one line of the written index: name and the four integer columns (formatted by
`ints_to_strings`; column-wise in the code, which is element-wise by `C18.batch_independent`),
tab-separated -/
def faiLine (r : IdxRow) : Bytes :=
  List.intercalate [9] (r.name :: C18.intsToStrings [(r.rlen : Int), (r.offset : Int), (r.lenc : Int), (r.lenb : Int)]) ++ [10]

def faiText (idx : List IdxRow) : Bytes := (idx.map faiLine).flatten

/-- `read_index`: `line.split("\t")` must give five fields; name = first word; `int(...)` -/
def parseFaiLine (l : Bytes) : Option IdxRow :=
  match C18.split l 9 with
  | [n, a, b, c, d] =>
    match C18.specNat a, C18.specNat b, C18.specNat c, C18.specNat d with
    | some a, some b, some c, some d => some ⟨firstWord n, a, b, c, d⟩
    | _, _, _, _ => none
  | _ => none

def readIndex (text : Bytes) : Option (List IdxRow) := Base.omap parseFaiLine (linesOf text)

/-- `str.split()`: maximal runs of non-whitespace -/
def wordsAux (cur : Bytes) : Bytes → List Bytes
  | [] => if cur = [] then [] else [cur.reverse]
  | b :: bs =>
    if isWs b then (if cur = [] then wordsAux [] bs else cur.reverse :: wordsAux [] bs)
    else wordsAux (b :: cur) bs

def words (s : Bytes) : List Bytes := wordsAux [] s

/-- `Genome.from_file` on a `.fai`: `name, length = line.split()[:2]`, `int(length)` -/
def genomeSizes (text : Bytes) : Option (List (Bytes × Nat)) :=
  Base.omap (fun l => match words l with
    | n :: len :: _ => match C18.specNat len with
      | some v => some (n, v)
      | none => none
    | _ => none) (linesOf text)

/-- `create_index` over several chunks: each chunk indexed on its own, starts shifted by the total
size of the chunks before it (`offsets = cumsum([0] + byte sizes)`) -/
def createIndexChunkedFrom (off : Nat) : List Bytes → List IdxRow
  | [] => []
  | c :: cs =>
    (buildIndex c).map (fun r => { r with name := firstWord r.name, offset := r.offset + off }) ++
      createIndexChunkedFrom (off + c.length) cs

def createIndexChunked (chunks : List Bytes) : List IdxRow := createIndexChunkedFrom 0 chunks

/-- `f.seek(p); f.read(n)` -/
def readAt (file : Bytes) (p n : Nat) : Bytes := (file.drop p).take n

/-- `data.reshape(n_rows, lenb)[:, :lenc].ravel()` on a flat buffer -/
def reshapeCols (lenb lenc : Nat) : Nat → Bytes → Bytes
  | 0, _ => []
  | n + 1, data => (data.take lenb).take lenc ++ reshapeCols lenb lenc n (data.drop lenb)

/-- `IndexedFasta.__getitem__` -/
def fetchContig (file : Bytes) (r : IdxRow) : Bytes :=
  let nRows := (r.rlen + r.lenc - 1) / r.lenc
  let bytesToRead := (nRows - 1) * r.lenb + (r.rlen - (nRows - 1) * r.lenc)
  let got := readAt file r.offset bytesToRead
  let data := got ++ List.replicate (r.lenb * nRows - got.length) 0
  (reshapeCols r.lenb r.lenc nRows data).take r.rlen

/-- `np.delete(arr, idxs)` -/
def deleteIdxFrom (idxs : List Nat) (i : Nat) : Bytes → Bytes
  | [] => []
  | x :: xs => if idxs.contains i then deleteIdxFrom idxs (i + 1) xs else x :: deleteIdxFrom idxs (i + 1) xs

def deleteIdx (l : Bytes) (idxs : List Nat) : Bytes := deleteIdxFrom idxs 0 l

/-- `np.delete(arr, idxs)` with NumPy's bounds check: an index `≥ len(arr)` raises IndexError (`none`) -/
def deleteChecked (l : Bytes) (idxs : List Nat) : Option Bytes :=
  if idxs.all (fun i => decide (i < l.length)) then some (deleteIdx l idxs) else none

/-- the newline positions the code deletes from the bytes it read -/
def newlineIdxs (r : IdxRow) (a b : Nat) : List Nat :=
  (List.range (b / r.lenc - a / r.lenc)).map (fun j => r.lenb * (j + 1) - 1 - a % r.lenc)

/-- the bytes the code reads for `[a, b)` -/
def rawRead (file : Bytes) (r : IdxRow) (a b : Nat) : Bytes :=
  (file.drop (r.offset + (a / r.lenc * r.lenb + a % r.lenc))).take
    ((b / r.lenc * r.lenb + b % r.lenc) - (a / r.lenc * r.lenb + a % r.lenc))

/-- interval fetch with the IndexError of `np.delete` modelled, as shipped before the repair -/
def fetchIntervalOld (file : Bytes) (r : IdxRow) (a b : Nat) : Option Bytes :=
  deleteChecked (rawRead file r a b) (newlineIdxs r a b)

/-- … as repaired: a last newline position equal to the number of bytes read (a full last line at the
end of a file without final newline) is dropped -/
def fetchIntervalChecked (file : Bytes) (r : IdxRow) (a b : Nat) : Option Bytes :=
  let raw := rawRead file r a b
  let idxs := newlineIdxs r a b
  deleteChecked raw (if idxs.getLast? = some raw.length then idxs.dropLast else idxs)

/-- `pre_alloc[off : off + len(piece)] = piece` -/
def writeAt (buf : Bytes) (off : Nat) (piece : Bytes) : Bytes :=
  buf.take off ++ piece ++ buf.drop (off + piece.length)

/-- the pieces written one after the other at the offsets `cumsum(lengths)` -/
def fillPieces (buf : Bytes) (off : Nat) : List (Bytes × Nat) → Bytes
  | [] => buf
  | (p, l) :: r => fillPieces (writeAt buf off p) (off + l) r

/-- one interval given by contig name: row looked up in the index (`none` = KeyError), then the checked read -/
def fetchNamed (file : Bytes) (idx : List IdxRow) (q : Bytes × Nat × Nat) : Option Bytes :=
  match lookup idx q.1 with
  | some r => fetchIntervalChecked file r q.2.1 q.2.2
  | none => none

/-- `get_interval_sequences(intervals)` for ANY list of intervals: per interval the row is looked up
by name and the bytes are read and cleaned (with NumPy's bounds check); the cleaned pieces are written
into one pre-allocated flat buffer at the offsets `cumsum(stop − start)` and the buffer is re-wrapped
as a ragged array with row lengths `stop − start` (`none` = KeyError / IndexError) -/
def getIntervalSequences (file : Bytes) (idx : List IdxRow) (ivs : List (Bytes × Nat × Nat)) : Option (List Bytes) :=
  match Base.omap (fetchNamed file idx) ivs with
  | none => none
  | some pieces =>
    let lens := ivs.map (fun q => q.2.2 - q.2.1)
    some (C18.unflatten lens (fillPieces (List.replicate lens.sum 0) 0 (pieces.zip lens)))

/-- `get_interval_sequences` for one interval `[a, b)` (both code paths use this arithmetic) -/
def fetchInterval (file : Bytes) (r : IdxRow) (a b : Nat) : Bytes :=
  let startRow := a / r.lenc
  let startMod := a % r.lenc
  let startOffset := startRow * r.lenb + startMod
  let stopRow := b / r.lenc
  let stopOffset := stopRow * r.lenb + b % r.lenc
  let raw := readAt file (r.offset + startOffset) (stopOffset - startOffset)
  deleteIdx raw ((List.range (stopRow - startRow)).map (fun j => r.lenb * (j + 1) - 1 - startMod))

end C17
