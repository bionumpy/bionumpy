import BnpVerif.Base.RleC08
/-! C08 — interval-set operations. Executable models mirroring
`bionumpy/arithmetics/intervals.py` (`merge_intervals`, `get_boolean_mask`, `sort_intervals`,
`count_overlap`, `intersect`, `unique_intersect`, `clip`, `extend_to_size`),
`arithmetics/bedgraph.py` (`get_pileup`, the in-repo event algorithm),
`arithmetics/similarity_measures.py` (contingency table, Jaccard, Forbes), plus the
per-base specification (`cov`). Imports `Base/RleC08` only. -/
namespace C08
open Base.Rle

abbrev Iv := Nat × Nat

/-! ### Specification: per-base coverage -/

def inIv (p : Nat) (iv : Iv) : Bool := decide (iv.1 ≤ p) && decide (p < iv.2)

/-- number of intervals covering base `p` -/
def cov (I : List Iv) (p : Nat) : Nat := I.countP (inIv p)

/-- base `p` lies in some interval of the list -/
def covered (I : List Iv) (p : Nat) : Bool := I.any (inIv p)

def specPileup (I : List Iv) (size : Nat) : List Nat := (List.range size).map (cov I)
def specMask (I : List Iv) (size : Nat) : List Bool := (List.range size).map (fun p => decide (0 < cov I p))

/-- maximal runs of `{p < size | cov I p > 0}`, bridging uncovered gaps of length ≤ d
(scan over the bases; the state is the run being built, if any: a covered base `p` extends it when `p ≤ e + d`, that is when at
most `d` uncovered bases lie between its end `e` and `p`, and otherwise closes it and opens `(p, p + 1)`) -/
def specMergeGo (I : List Iv) (d : Nat) : List Nat → Option Iv → List Iv
  | [], none => []
  | [], some r => [r]
  | p :: ps, none => if 0 < cov I p then specMergeGo I d ps (some (p, p + 1)) else specMergeGo I d ps none
  | p :: ps, some (s, e) =>
    if 0 < cov I p then
      (if p ≤ e + d then specMergeGo I d ps (some (s, p + 1)) else (s, e) :: specMergeGo I d ps (some (p, p + 1)))
    else specMergeGo I d ps (some (s, e))

def specMerge (I : List Iv) (d size : Nat) : List Iv := specMergeGo I d (List.range size) none

/-! ### stable sort (specification of `argsort(kind="mergesort")`, `np.lexsort`, `sorted`) -/

def insertBy {α : Type} (le : α → α → Bool) (a : α) : List α → List α
  | [] => [a]
  | b :: bs => if le a b then a :: b :: bs else b :: insertBy le a bs

def isort {α : Type} (le : α → α → Bool) : List α → List α
  | [] => []
  | a :: as => insertBy le a (isort le as)

def natLe (a b : Nat) : Bool := decide (a ≤ b)
def startLe (a b : Iv) : Bool := decide (a.1 ≤ b.1)

/-! ### `merge_intervals` -/

/-- `np.maximum.accumulate` -/
def runMax (m : Nat) : List Nat → List Nat
  | [] => []
  | x :: xs => max m x :: runMax (max m x) xs

/-- boolean-mask selection `a[mask]` -/
def select {α : Type} : List Bool → List α → List α
  | true :: ms, x :: xs => x :: select ms xs
  | false :: ms, _ :: xs => select ms xs
  | _, _ => []

/-- `merge_intervals` as the code computes it (input sorted by start): running maximum of the
stops, `+ distance`, `start[1:] > stops[:-1]`, select with `[True]+mask` / `mask+[True]`, `- distance` -/
def mergeVec (d : Nat) (I : List Iv) : List Iv :=
  match I with
  | [] => []
  | _ :: _ =>
    let starts := I.map (·.1)
    let stops := (runMax 0 (I.map (·.2))).map (· + d)
    let valid := List.zipWith (fun s t => decide (s > t)) starts.tail stops
    let ns := select (true :: valid) starts
    let ne := (select (valid ++ [true]) stops).map (· - d)
    ns.zip ne

/-- recursive form used in the proofs (`mergeVec_eq_mergeRec`) -/
def mergeGo (d cs ce : Nat) : List Iv → List Iv
  | [] => [(cs, ce)]
  | (s, e) :: rest =>
    if s > ce + d then (cs, ce) :: mergeGo d s (max ce e) rest else mergeGo d cs (max ce e) rest

def mergeRec (d : Nat) : List Iv → List Iv
  | [] => []
  | (s, e) :: rest => mergeGo d s e rest

def sortedByStart (I : List Iv) : Bool :=
  match I with
  | [] => true
  | a :: rest => (List.zipWith (fun x y => decide (x.1 ≤ y.1)) (a :: rest) rest).all id

/-! ### `get_boolean_mask` -/

def mask (I : List Iv) (size : Nat) : Rle Bool :=
  let merged := mergeVec 0 (isort startLe I)
  let kept := merged.filter (fun iv => iv.1 != iv.2)
  fromIntervals (kept.map (·.1)) (kept.map (·.2)) size true false

def maskDense (I : List Iv) (size : Nat) : List Bool := (mask I size).toArray xor false

/-! ### `bedgraph.get_pileup` (event algorithm in the repository) -/

def cumsum (acc : Int) : List Int → List Int
  | [] => []
  | x :: xs => (acc + x) :: cumsum (acc + x) xs

/-- keep index `i` unless `pos[i+1] == pos[i]` (`np.delete(…, flatnonzero(pos[1:] == pos[:-1]))`) -/
def dedupLast {α : Type} : List (Nat × α) → List (Nat × α)
  | [] => []
  | [x] => [x]
  | x :: y :: rest => if x.1 == y.1 then dedupLast (y :: rest) else x :: dedupLast (y :: rest)

def pileupEvents (I : List Iv) (size : Nat) : Rle Int :=
  let n := I.length
  let positions := [0] ++ I.map (·.1) ++ I.map (·.2) ++ [size]
  let tagged := positions.zipIdx            -- (position, original index)
  let sorted := isort (fun a b => natLe a.1 b.1) tagged
  let deltas : List Int := (sorted.map (fun a => if a.2 ≥ n + 1 then (-1 : Int) else 1)).set 0 0
  let cum := cumsum 0 deltas
  let kept := dedupLast ((sorted.map (·.1)).zip cum)
  ⟨kept.map (·.1), (kept.map (·.2)).dropLast⟩

/-! ### `sort_intervals` -/

/-- (chromosome key rank, start, stop) -/
abbrev Rec := Nat × Nat × Nat

def lex3 (a b : Rec) : Bool :=
  decide (a.1 < b.1) || (a.1 == b.1 && (decide (a.2.1 < b.2.1) || (a.2.1 == b.2.1 && decide (a.2.2 ≤ b.2.2))))

/-- the shipped `np.lexsort((start, chromosome))` path: stop is not a key -/
def lex2 (a b : Rec) : Bool :=
  decide (a.1 < b.1) || (a.1 == b.1 && decide (a.2.1 ≤ b.2.1))

def sortIntervals (xs : List Rec) : List Rec := isort lex3 xs
def sortIntervalsOld (xs : List Rec) : List Rec := isort lex2 xs

/-! ### `count_overlap`, `intersect`, `unique_intersect` -/

def countOverlap (A B : List Iv) : Int :=
  let st := isort natLe (A.map (·.1) ++ B.map (·.1))
  let sp := isort natLe (A.map (·.2) ++ B.map (·.2))
  (List.zipWith (fun (e s : Nat) => max ((e : Int) - (s : Int)) 0) sp st.tail).sum

def intersect (A B : List Iv) : List Iv :=
  let st := isort natLe (A.map (·.1) ++ B.map (·.1))
  let sp := isort natLe (A.map (·.2) ++ B.map (·.2))
  (st.tail.zip sp).filter (fun p => decide (p.2 > p.1))

/-- each operand internally non-overlapping (touching allowed), non-empty intervals -/
def disjointSorted : List Iv → Bool
  | [] => true
  | [a] => decide (a.1 < a.2)
  | a :: b :: rest => decide (a.1 < a.2) && decide (a.2 ≤ b.1) && disjointSorted (b :: rest)

def internallyDisjoint (A : List Iv) : Bool := disjointSorted (isort startLe A)

def specCountOverlap (A B : List Iv) (size : Nat) : Nat :=
  (List.range size).countP (fun p => decide (0 < cov A p) && decide (0 < cov B p))

def uniqueIntersect (A B : List Iv) (size : Nat) : List Iv :=
  let m := maskDense B size
  A.filter (fun iv => ((m.drop iv.1).take (iv.2 - iv.1)).any id)

def specUniqueIntersect (A B : List Iv) : List Iv :=
  A.filter (fun iv => (List.range iv.2).any (fun p => decide (iv.1 ≤ p) && decide (0 < cov B p)))

/-! ### contingency table, Jaccard, Forbes -/

def countBoth (x y : List Bool) (bx bY : Bool) : Nat :=
  (x.zip y).countP (fun p => p.1 == bx && p.2 == bY)

/-- `[[sum(a&b), sum(a&~b)], [sum(~a&b), sum(~a&~b)]]` -/
def contingency (A B : List Iv) (size : Nat) : Nat × Nat × Nat × Nat :=
  let ma := maskDense A size
  let mb := maskDense B size
  (countBoth ma mb true true, countBoth ma mb true false, countBoth ma mb false true, countBoth ma mb false false)

def specContingency (A B : List Iv) (size : Nat) : Nat × Nat × Nat × Nat :=
  let f := fun (ba bb : Bool) => (List.range size).countP (fun p => decide (0 < cov A p) == ba && decide (0 < cov B p) == bb)
  (f true true, f true false, f false true, f false false)

/-! ### `clip`, `extend_to_size` kernels (element-wise, over `Int`) -/

def clipK (start stop size : Int) : Int × Int := (max 0 start, min size stop)

def extendK (fwd : Bool) (start stop len size : Int) : Int × Int :=
  (if fwd then start else stop - min len stop, if fwd then min (start + len) size else stop)

/-- the kernel as shipped before the repair for unsigned columns: `max (stop - len) 0`. Over the integers it is the same
function (`extendK_eq_old`); on an unsigned NumPy column `stop - len` wraps around before the maximum is taken. -/
def extendKOld (fwd : Bool) (start stop len size : Int) : Int × Int :=
  (if fwd then start else max (stop - len) 0, if fwd then min (start + len) size else stop)

/-! ### exported `get_pileup`: the part that lives in the repository -/

/-- `get_pileup(intervals, size)`: an empty set gives the run-length array `[0, size] / [0]`; otherwise the counting
is delegated to npstructures (`RunLength2dArray.from_intervals(...).sum(axis=0)`, specified external `ext`) -/
def getPileup (ext : List Iv → Nat → List Nat) (I : List Iv) (size : Nat) : List Nat :=
  if I.isEmpty then (Rle.toDense ⟨[0, size], [0]⟩) else ext I size

/-! ### `Geometry.clip` / `Geometry.extend_to_size`: the size is looked up per row by chromosome -/

/-- row = (chromosome index, start, stop); `global_offset.get_size(intervals.chromosome)` is `sizes[chrom]` -/
def geoClip (chromSizes : List Int) (rows : List (Nat × Int × Int)) : List (Int × Int) :=
  rows.map (fun r => clipK r.2.1 r.2.2 (chromSizes.getD r.1 0))

def geoExtend (chromSizes : List Int) (len : Int) (rows : List (Nat × Bool × Int × Int)) : List (Int × Int) :=
  rows.map (fun r => extendK r.2.1 r.2.2.1 r.2.2.2 len (chromSizes.getD r.1 0))

end C08

namespace C08
open Base.Rle

/-! ### `global_intersect`: intersect on several chromosomes at once (`np.lexsort` on (chromosome, position)) -/

/-- (chromosome, start, stop) -/
abbrev CIv := Nat × Nat × Nat

def lexCP (a b : Nat × Nat) : Bool := decide (a.1 < b.1) || (a.1 == b.1 && decide (a.2 ≤ b.2))

/-- `sameChrom = true` is the repaired code (fix 35da59d): a stop is paired with the next start only inside one
chromosome; `false` is the rule shipped before -/
def globalIntersectWith (sameChrom : Bool) (A B : List CIv) : List CIv :=
  let all := A ++ B
  let st := isort lexCP (all.map (fun r => (r.1, r.2.1)))
  let sp := isort lexCP (all.map (fun r => (r.1, r.2.2)))
  ((st.tail.zip sp).filter (fun p => decide (p.2.2 > p.1.2) && (!sameChrom || p.2.1 == p.1.1))).map
    (fun p => (p.1.1, p.1.2, p.2.2))

def globalIntersect := globalIntersectWith true
def globalIntersectOld := globalIntersectWith false

def covC (L : List CIv) (c x : Nat) : Nat := L.countP (fun r => r.1 == c && decide (r.2.1 ≤ x) && decide (x < r.2.2))

/-! ### `intervals.pileup`: the pileup as a bedGraph (runs between consecutive endpoints, equal neighbours joined) -/

/-- windows between consecutive sorted endpoints with the running count, empty windows dropped -/
def windows : List (Nat × Int) → List (Nat × Nat × Int)
  | x :: y :: rest => if x.1 == y.1 then windows (y :: rest) else (x.1, y.1, x.2) :: windows (y :: rest)
  | _ => []

/-- `values[1:] == values[:-1]` → the two windows are joined -/
def joinWindows : List (Nat × Nat × Int) → List (Nat × Nat × Int)
  | a :: b :: rest => if a.2.2 == b.2.2 then joinWindows ((a.1, b.2.1, a.2.2) :: rest) else a :: joinWindows (b :: rest)
  | l => l
termination_by l => l.length

def pileupBg (I : List Iv) : List (Nat × Nat × Int) :=
  let n := I.length
  let tagged := (I.map (·.1) ++ I.map (·.2)).zipIdx
  let sorted := isort (fun a b => natLe a.1 b.1) tagged
  let cum := cumsum 0 (sorted.map (fun a => if a.2 ≥ n then (-1 : Int) else 1))
  joinWindows (windows ((sorted.map (·.1)).zip cum))

/-! ### `bedgraph.value_hist`: bases per value (`np.bincount(value, weights = stop - start)`) -/

def valueHist (bg : List (Nat × Nat × Nat)) : List Nat :=
  match (bg.map (·.2.2)).max? with
  | none => []
  | some m => (List.range (m + 1)).map (fun v => ((bg.filter (fun r => r.2.2 == v)).map (fun r => r.2.1 - r.1)).sum)

/-! ### `Geometry.sort`: by position on the concatenated genome (`sort_by('start')` on global coordinates) -/

def lexCS2 (a b : Rec) : Bool := decide (a.1 < b.1) || (a.1 == b.1 && decide (a.2.1 ≤ b.2.1))

def geoSort (xs : List Rec) : List Rec := isort lexCS2 xs

end C08

namespace C08

/-! ### Jaccard / Forbes over several contigs (`similarity_measures.jaccard` / `forbes`, `Geometry.jaccard`) -/

/-- one contig: (size, intervals a, intervals b) -/
abbrev Contig2 := Nat × List Iv × List Iv

def add4 (x y : Nat × Nat × Nat × Nat) : Nat × Nat × Nat × Nat :=
  (x.1 + y.1, x.2.1 + y.2.1, x.2.2.1 + y.2.2.1, x.2.2.2 + y.2.2.2)

/-- `get_contingency_table` summed over the contigs (`streamable(sum)`) -/
def contingencyGenome (cs : List Contig2) : Nat × Nat × Nat × Nat :=
  (cs.map (fun c => contingency c.2.1 c.2.2 c.1)).foldl add4 (0, 0, 0, 0)

def specContingencyGenome (cs : List Contig2) : Nat × Nat × Nat × Nat :=
  (cs.map (fun c => specContingency c.2.1 c.2.2 c.1)).foldl add4 (0, 0, 0, 0)

/-- `float(a/(N-d))`: the IEEE quotient of the two counts -/
def jaccardF (t : Nat × Nat × Nat × Nat) : Float := Float.ofNat t.1 / Float.ofNat (t.1 + t.2.1 + t.2.2.1)

/-- `float(a*N/((a+b)*(a+c)))` -/
def forbesF (t : Nat × Nat × Nat × Nat) : Float :=
  Float.ofNat (t.1 * (t.1 + t.2.1 + t.2.2.1 + t.2.2.2)) / Float.ofNat ((t.1 + t.2.1) * (t.1 + t.2.2.1))

def jaccard (cs : List Contig2) : Float := jaccardF (contingencyGenome cs)
def forbes (cs : List Contig2) : Float := forbesF (contingencyGenome cs)

/-- the per-base definition: the same quotients of the per-base counts -/
def specJaccard (cs : List Contig2) : Float := jaccardF (specContingencyGenome cs)
def specForbes (cs : List Contig2) : Float := forbesF (specContingencyGenome cs)

end C08
